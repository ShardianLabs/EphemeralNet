import EphVerif.Lemmas.C32
import EphVerif.Spec.ConfigLayers
/-! Helper definitions and lemmas for C32, part 2: the layers of one run, reading a setting through its alternative
spellings, small monad lemmas. -/
namespace EphVerif.C32L
open EphVerif.ConfigLayers

/-- the environment's direct keys that `std::map` visits before / after `"overrides"`, and its `overrides` mapping -/
def envDirect (efs : Fields) : Fields := efs.filterKeys fun k => k != "profile" && k != "overrides"
def envBelow (efs : Fields) : Value := .obj ((envDirect efs).filterKeys fun k => k < "overrides")
def envAbove (efs : Fields) : Value := .obj ((envDirect efs).filterKeys fun k => "overrides" < k)
def envMap (efs : Fields) : Value :=
  match efs.get "overrides" with
  | some (.obj o) => .obj o
  | some v => .obj (.cons "overrides" v .nil)
  | none => .emptyObj

theorem merge_empty_left (fs : Fields) : merge Value.emptyObj (.obj fs) = .obj fs := rfl

/-- the environment's overrides are its three pieces merged like a profile chain, the later-visited on top -/
theorem collectEnv_eq (efs : Fields) :
    collectEnv (.obj efs) = chainMerge [envAbove efs, envMap efs, envBelow efs] := by
  unfold collectEnv envBelow envAbove envMap envDirect
  -- reduce the match on `.obj efs` and the `let`s, so that the `cases` reaches every `efs.get "overrides"`
  dsimp only
  cases h : efs.get "overrides" with
  | none => rfl
  | some v => cases v <;> rfl

/-- every tree that takes part: the environment's three pieces (highest first), then the profile chain
(selected profile first, then its ancestors, nearest first) -/
def layersOf (efs : Fields) (chain : List Value) : List Value :=
  [envAbove efs, envMap efs, envBelow efs] ++ chain

/-- the merged tree `apply_profile_to_options` reads -/
def effective (efs : Fields) (chain : List Value) : Value :=
  mergeObjects (chainMerge chain) (collectEnv (.obj efs))

def firstPresent (root : Value) (spellings : List (List String)) : Option Value :=
  firstSome (spellings.map (lookup root))

theorem firstSome_none {α β} (f : α → Option β) (l : List α) (h : ∀ q ∈ l, f q = none) : firstSome (l.map f) = none := by
  induction l with
  | nil => rfl
  | cons a t ih =>
    obtain ⟨ha, ht⟩ := List.forall_mem_cons.mp h
    rw [List.map_cons, firstSome, ha, ih ht]
    rfl

theorem firstSome_single {α β} [DecidableEq α] (f : α → Option β) (p : α) (l : List α)
    (hother : ∀ q ∈ l, q ≠ p → f q = none) (hp : p ∈ l) : firstSome (l.map f) = f p := by
  cases hfp : f p with
  | none => exact firstSome_none f l fun q hq => if h : q = p then h ▸ hfp else hother q hq h
  | some y =>
    induction l with
    | nil => cases hp
    | cons a t ih =>
      obtain ⟨ha, ht⟩ := List.forall_mem_cons.mp hother
      rw [List.map_cons, firstSome]
      by_cases hap : a = p
      · rw [hap, hfp]; rfl
      · rw [ha hap]
        exact ih ht ((List.mem_cons.mp hp).resolve_left (Ne.symm hap))

def decString : Option Value → Except Err (Option String)
  | none => .ok none
  | some (.str s) => .ok (some s)
  | some _ => .error .type
def decInt : Option Value → Except Err (Option Int)
  | none => .ok none
  | some (.int i) => .ok (some i)
  | some _ => .error .type
def decBool : Option Value → Except Err (Option Bool)
  | none => .ok none
  | some (.bool b) => .ok (some b)
  | some (.str s) =>
    let l := lowerAscii s
    if l == "true" || l == "yes" || l == "on" then .ok (some true)
    else if l == "false" || l == "no" || l == "off" then .ok (some false)
    else .error .type
  | some _ => .error .type

theorem getString_eq (root : Value) (p : List String) : getString root p = decString (lookup root p) := rfl
theorem getInt_eq (root : Value) (p : List String) : getInt root p = decInt (lookup root p) := rfl
theorem getBool_eq (root : Value) (p : List String) : getBool root p = decBool (lookup root p) := rfl

theorem getAny_eq {α} (get : Value → List String → Except Err (Option α)) (dec : Option Value → Except Err (Option α))
    (hget : ∀ root p, get root p = dec (lookup root p)) (hnone : dec none = .ok none)
    (hsome : ∀ v, dec (some v) ≠ .ok none) (root : Value) (spellings : List (List String)) :
    getAny get root spellings = dec (firstPresent root spellings) := by
  induction spellings with
  | nil => exact hnone.symm
  | cons p ps ih =>
    rw [getAny, hget, firstPresent, List.map_cons, firstSome]
    cases hl : lookup root p with
    | none => rw [hnone]; exact ih
    | some v =>
      cases hd : dec (some v) with
      | error e => exact hd.symm
      | ok o =>
        cases o with
        | none => exact absurd hd (hsome v)
        | some x => exact hd.symm

theorem decString_some (v : Value) : decString (some v) ≠ .ok none := by
  cases v <;> nofun
theorem decInt_some (v : Value) : decInt (some v) ≠ .ok none := by
  cases v <;> nofun
theorem decBool_some (v : Value) : decBool (some v) ≠ .ok none := by
  cases v with
  | str s =>
    rw [decBool]
    split
    · nofun
    · split <;> nofun
  | _ => nofun

theorem ok_bind {ε α β} (a : α) (f : α → Except ε β) : (Except.ok a >>= f) = f a := rfl

theorem bind_ok {ε α β} {x : Except ε α} {f : α → Except ε β} {b : β} (h : x >>= f = .ok b) :
    ∃ a, x = .ok a ∧ f a = .ok b := by
  cases x with
  | error e => cases h
  | ok a => exact ⟨a, rfl, h⟩

end EphVerif.C32L
