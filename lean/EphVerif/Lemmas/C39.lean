/-
C39 helper lemmas: the HMAC input of `derive_key` determines (counter mod 2^64, tick bits); distinct
int64 tick counts have distinct bit patterns; HMAC-SHA256 in the form the kernel evaluates (`C39.hmacSha256_eval`).
-/
import EphVerif.Model.Rotation
import EphVerif.Spec.Rotation
import EphVerif.Lemmas.C08Eval

namespace EphVerif.Rotation
open EphVerif.Gen

theorem range16 : List.range 16 = [0, 1, 2, 3, 4, 5, 6, 7, 8, 9, 10, 11, 12, 13, 14, 15] := by decide

theorem material_bytes (counter : Nat) (t : Int) :
    material counter t =
      let c := counter % 18446744073709551616
      let k := tickBits t
      [byteAt c 7, byteAt c 6, byteAt c 5, byteAt c 4, byteAt c 3, byteAt c 2, byteAt c 1, byteAt c 0,
       byteAt k 7, byteAt k 6, byteAt k 5, byteAt k 4, byteAt k 3, byteAt k 2, byteAt k 1, byteAt k 0] := by
  simp [material, C39.materialSize, range16, materialByte, C39.ticksBase, C39.counterBase, C39.fieldBytes]

theorem material_length (counter : Nat) (t : Int) : (material counter t).length = 16 := by
  rw [material_bytes]; rfl

/-- the counter enters as a `uint64` -/
theorem material_mod (counter : Nat) (t : Int) : material (counter % 18446744073709551616) t = material counter t := by
  rw [material, Nat.mod_mod]; rfl

theorem byteAt_toNat (v i : Nat) : (byteAt v i).toNat = v / 2 ^ (8 * i) % 256 := by
  simp [byteAt, UInt8.toNat_ofNat']

theorem eq_of_digits_eq : ∀ (n x y : Nat), x < 256 ^ n → y < 256 ^ n →
    (∀ i, i < n → x / 256 ^ i % 256 = y / 256 ^ i % 256) → x = y
  | 0, x, y, hx, hy, _ => by omega
  | n + 1, x, y, hx, hy, h => by
    rw [Nat.pow_succ] at hx hy
    have h0 : x % 256 = y % 256 := by simpa using h 0 (Nat.zero_lt_succ n)
    have ih := eq_of_digits_eq n (x / 256) (y / 256) (by omega) (by omega) fun i hi => by
      rw [Nat.div_div_eq_div_mul, Nat.div_div_eq_div_mul, ← Nat.pow_succ']
      exact h (i + 1) (Nat.succ_lt_succ hi)
    omega

theorem bytes_determine {x y : Nat} (hx : x < 18446744073709551616) (hy : y < 18446744073709551616)
    (h : ∀ i, i < 8 → byteAt x i = byteAt y i) : x = y :=
  eq_of_digits_eq 8 x y hx hy fun i hi => by
    have := congrArg UInt8.toNat (h i hi)
    rwa [byteAt_toNat, byteAt_toNat, Nat.pow_mul] at this

theorem tickBits_lt (t : Int) : tickBits t < 18446744073709551616 := by
  unfold tickBits; omega

theorem material_injective {c1 c2 : Nat} {t1 t2 : Int} (h : material c1 t1 = material c2 t2) :
    c1 % 18446744073709551616 = c2 % 18446744073709551616 ∧ tickBits t1 = tickBits t2 := by
  rw [material_bytes, material_bytes] at h
  simp only [List.cons.injEq, and_true] at h
  obtain ⟨a7, a6, a5, a4, a3, a2, a1, a0, b7, b6, b5, b4, b3, b2, b1, b0⟩ := h
  constructor
  · apply bytes_determine (Nat.mod_lt _ (by decide)) (Nat.mod_lt _ (by decide))
    intro i hi
    match i, hi with
    | 0, _ => exact a0 | 1, _ => exact a1 | 2, _ => exact a2 | 3, _ => exact a3
    | 4, _ => exact a4 | 5, _ => exact a5 | 6, _ => exact a6 | 7, _ => exact a7
  · apply bytes_determine (tickBits_lt _) (tickBits_lt _)
    intro i hi
    match i, hi with
    | 0, _ => exact b0 | 1, _ => exact b1 | 2, _ => exact b2 | 3, _ => exact b3
    | 4, _ => exact b4 | 5, _ => exact b5 | 6, _ => exact b6 | 7, _ => exact b7

theorem tickBits_injective {t1 t2 : Int} (h1 : -9223372036854775808 ≤ t1 ∧ t1 < 9223372036854775808)
    (h2 : -9223372036854775808 ≤ t2 ∧ t2 < 9223372036854775808) (h : tickBits t1 = tickBits t2) : t1 = t2 := by
  unfold tickBits at h
  omega

end EphVerif.Rotation

namespace EphVerif.C39
open EphVerif

/-- the witness is evaluated with C08's form of HMAC-SHA256, which the kernel can evaluate on concrete inputs -/
theorem hmacSha256_eval : Spec.hmacSha256 = C08Eval.hmac :=
  funext fun k => funext fun m => C08Eval.hmac_eq k m

end EphVerif.C39
