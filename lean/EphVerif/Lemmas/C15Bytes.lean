/-
Helper lemmas for C13/C15/C16: big-endian scalars and checked reads of `Model/Message.lean`.
Core Lean only.
-/
import EphVerif.Model.Message

namespace EphVerif.Message

theorem beNat_nil : beNat [] = 0 := rfl

theorem beNat_concat (b : Bytes) (x : UInt8) : beNat (b ++ [x]) = beNat b * 256 + x.toNat := by
  simp [beNat, List.foldl_append]

theorem beNat_singleton (x : UInt8) : beNat [x] = x.toNat := by simp [beNat]

@[simp] theorem beBytes_length (k v : Nat) : (beBytes k v).length = k := by
  induction k generalizing v with
  | zero => rfl
  | succ k ih => simp [beBytes, ih]

@[simp] theorem writeU32_length (v : Nat) : (writeU32 v).length = 4 := beBytes_length 4 v
@[simp] theorem writeU64_length (v : Nat) : (writeU64 v).length = 8 := beBytes_length 8 v

theorem beNat_beBytes (k v : Nat) : beNat (beBytes k v) = v % 256 ^ k := by
  induction k generalizing v with
  | zero => simp [beBytes, beNat, Nat.mod_one]
  | succ k ih =>
    rw [beBytes, beNat_concat, ih, UInt8.toNat_ofNat', Nat.pow_succ (m := k), Nat.mul_comm (256 ^ k), Nat.mod_mul,
      Nat.mod_mod_of_dvd _ (by decide), Nat.mul_comm, Nat.add_comm]

/-- both by induction from the last byte, hence on the reversed string -/
private theorem beBytes_beNat_rev (r : Bytes) :
    beNat r.reverse < 256 ^ r.length ∧ beBytes r.length (beNat r.reverse) = r.reverse := by
  induction r with
  | nil => exact ⟨by simp [beNat], rfl⟩
  | cons x r ih =>
    rw [List.reverse_cons, beNat_concat, List.length_cons, beBytes, Nat.pow_succ]
    have hx := UInt8.toNat_lt x
    have h1 : (beNat r.reverse * 256 + x.toNat) / 256 = beNat r.reverse := by omega
    have h2 : (beNat r.reverse * 256 + x.toNat) % 256 = x.toNat := by omega
    rw [h1, h2, ih.2, UInt8.ofNat_toNat]
    exact ⟨by omega, rfl⟩

theorem beNat_lt (b : Bytes) : beNat b < 256 ^ b.length := by
  simpa using (beBytes_beNat_rev b.reverse).1

theorem beBytes_beNat (b : Bytes) : beBytes b.length (beNat b) = b := by
  simpa using (beBytes_beNat_rev b.reverse).2

theorem beBytes_one (v : Nat) : beBytes 1 v = [UInt8.ofNat v] := by
  have h : UInt8.ofNat (v % 256) = UInt8.ofNat v := by
    apply UInt8.toNat_inj.mp
    rw [UInt8.toNat_ofNat', UInt8.toNat_ofNat', Nat.mod_mod]
  simp [beBytes, h]

theorem castU32_of_lt {n : Nat} (h : n < 4294967296) : castU32 n = n := Nat.mod_eq_of_lt h

theorem castU32i_ofNat {n : Nat} (h : n < 4294967296) : castU32i (Int.ofNat n) = n := by
  unfold castU32i
  have : (Int.ofNat n) % 4294967296 = Int.ofNat n := Int.emod_eq_of_lt (by simp) (by simp; omega)
  rw [this]; rfl

theorem castU32i_of_range {t : Int} (h0 : 0 ≤ t) (h1 : t < 4294967296) : Int.ofNat (castU32i t) = t := by
  unfold castU32i
  rw [Int.emod_eq_of_lt h0 h1]
  simp [Int.toNat_of_nonneg h0]

theorem castU32i_lt (t : Int) : castU32i t < 4294967296 := by
  unfold castU32i
  omega

theorem rd_some {d : Bytes} {off n : Nat} (h : off + n ≤ d.length) : rd d off n = some ((d.drop off).take n) :=
  if_pos h

theorem rd_eq_some_iff {d b : Bytes} {off n : Nat} :
    rd d off n = some b ↔ off + n ≤ d.length ∧ b = (d.drop off).take n := by
  unfold rd
  split
  · simp_all [eq_comm]
  · simp; omega

theorem rd_eq_none_iff {d : Bytes} {off n : Nat} : rd d off n = none ↔ d.length < off + n := by
  unfold rd
  split <;> simp_all <;> omega

theorem rd_length {d b : Bytes} {off n : Nat} (h : rd d off n = some b) : b.length = n := by
  obtain ⟨hle, rfl⟩ := rd_eq_some_iff.mp h
  simp [List.length_take, List.length_drop]; omega

theorem rd_bound {d b : Bytes} {off n : Nat} (h : rd d off n = some b) : off + n ≤ d.length :=
  (rd_eq_some_iff.mp h).1

/-- `rdU8`, `rdU32`, `rdU64` (`n` = 1, 4, 8) -/
theorem rdNat_eq_some_iff {d : Bytes} {off n v : Nat} :
    (rd d off n).map beNat = some v ↔ rd d off n = some (beBytes n v) ∧ v < 256 ^ n := by
  constructor
  · intro h
    cases hb : rd d off n with
    | none => simp [hb] at h
    | some b =>
      have hl := rd_length hb
      obtain rfl : beNat b = v := by simpa [hb] using h
      exact ⟨by rw [← hl, beBytes_beNat], hl ▸ beNat_lt b⟩
  · rintro ⟨h, hv⟩
    simp [h, beNat_beBytes, Nat.mod_eq_of_lt hv]

theorem rdU32_lt {d : Bytes} {off v : Nat} (h : rdU32 d off = some v) : v < 4294967296 :=
  (rdNat_eq_some_iff.mp h).2

theorem chk_some {α β : Type} (a : α) (k : α → Outcome β) : chk (some a) k = k a := rfl
theorem chk_none {α β : Type} (k : α → Outcome β) : chk (none : Option α) k = .oob := rfl

theorem chk_eq_ok {α β : Type} {o : Option α} {k : α → Outcome β} {r : β} :
    chk o k = .ok r ↔ ∃ a, o = some a ∧ k a = .ok r := by
  cases o <;> simp [chk]

theorem map_eq_ok {α β : Type} {f : α → β} {o : Outcome α} {r : β} :
    o.map f = .ok r ↔ ∃ a, o = .ok a ∧ f a = r := by
  cases o <;> simp [Outcome.map]

end EphVerif.Message
