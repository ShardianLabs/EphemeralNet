/-
C05 lemmas, part 4: the notifications of the node model are exactly the reports the abstract
node of the specification (`C05Spec.N`) demands.
-/
import EphVerif.Lemmas.C05Inv

namespace EphVerif.C05L
open EphVerif.NodeCleanup
open EphVerif.ChunkStore (aget aset adel Recs Uniq)
open EphVerif.C05Spec (N Ev Params count)

def paramsOf (cfg : Cfg) : Params :=
  { defaultTtl := cfg.node.store.defaultTtl, minTtl := cfg.node.minTtl, maxTtl := cfg.node.maxTtl,
    cleanupInterval := cfg.node.cleanupInterval }

structure Sim (cfg : Cfg) (r : Run) (n : N) : Prop where
  now : r.s.now = n.now
  last : r.s.lastCleanup = n.lastCleanup
  uniq : Uniq r.s.recs
  copies : ∀ c, (aget r.s.recs c).map (·.expires) = n.copies.get c
  reported : ∀ c, count c r.notified = n.reported.get c

/-- the abstract store of C01 and the abstract node of C05 use the same formula -/
theorem lifetime_eq (cfg : Cfg) (hs : ChunkStore.SaneCfg cfg.node) (ttl : Int) :
    ChunkStore.effTtl cfg.node.store (ChunkStore.nodeTtl cfg.node ttl) = C05Spec.effTtl (paramsOf cfg) ttl :=
  ChunkStore.nodeTtl_eq cfg.node hs ttl

theorem count_eq (c : String) (l : List String) : count c l = l.count c := List.count_eq_length_filter.symm

theorem count_nil (c : String) : count c [] = 0 := rfl

theorem mem_keys_iff {κ ν : Type} [DecidableEq κ] {l : List (κ × ν)} {x : κ} :
    x ∈ l.map (·.1) ↔ (aget l x).isSome = true :=
  ⟨fun h => by obtain ⟨e, he, rfl⟩ := List.mem_map.mp h; exact aget_isSome_of_mem he,
   fun h => by obtain ⟨v, hv⟩ := Option.isSome_iff_exists.mp h; exact List.mem_map.mpr ⟨_, ChunkStore.mem_of_aget hv, rfl⟩⟩

theorem count_removed {recs : Recs} (hu : Uniq recs) (p : String × ChunkStore.Rec → Bool) (c : String) :
    count c ((recs.filter p).map (·.1)) =
      match aget recs c with
      | some r => if p (c, r) then 1 else 0
      | none => 0 := by
  have hnd : ((recs.filter p).map (·.1)).Nodup := List.pairwise_map.mpr (ChunkStore.uniq_filter hu p)
  rw [count_eq, hnd.count]
  simp only [mem_keys_iff, ChunkStore.aget_filter hu]
  cases aget recs c with
  | none => rfl
  | some r => by_cases hp : p (c, r) = true <;> simp [hp]

theorem sim_init (cfg : Cfg) (t0 : Int) : Sim cfg (Run.init cfg t0) (N.init t0) :=
  ⟨rfl, rfl, List.Pairwise.nil, fun _ => rfl, fun _ => rfl⟩

theorem gate_eq_cleans {cfg : Cfg} {r : Run} {n : N} (h : Sim cfg r n) : gate cfg r.s = C05Spec.cleans (paramsOf cfg) n := by
  rw [Bool.eq_iff_iff, gate_iff]
  simp [C05Spec.cleans, paramsOf, C05Spec.nsPerSec, h.now, h.last]

theorem sim_cleanup {cfg : Cfg} {r : Run} {n : N} (h : Sim cfg r n) (hc : C05Spec.cleans (paramsOf cfg) n = true) :
    Sim cfg ⟨cleanup cfg r.s, r.drained⟩ (C05Spec.step (paramsOf cfg) n .tick) := by
  rw [cleanup_eq, C05Spec.step, if_pos hc]
  have key : ∀ k,
      (aget (ChunkStore.sweep r.s.recs r.s.now).1 k).map (·.expires) = (if C05Spec.due n k then none else n.copies.get k) ∧
      count k (r.drained ++ (r.s.notes ++ (ChunkStore.sweep r.s.recs r.s.now).2)) =
        if C05Spec.due n k then n.reported.get k + 1 else n.reported.get k := by
    intro k
    have hsw : ∀ e, ChunkStore.expiredSweep r.s.now e = decide (e ≤ n.now) := fun e => by
      rw [Bool.eq_iff_iff, ChunkStore.expiredSweep_iff, h.now, decide_eq_true_eq]
    rw [← List.append_assoc, count_eq, List.count_append, ← count_eq, ← count_eq, ← Run.notified, h.reported k]
    simp only [ChunkStore.sweep, ChunkStore.aget_filter h.uniq, count_removed h.uniq, C05Spec.due, ← h.copies k, hsw]
    cases aget r.s.recs k with
    | none => exact ⟨rfl, rfl⟩
    | some v => by_cases hle : v.expires ≤ n.now <;> simp [hle]
  exact ⟨h.now, h.now, ChunkStore.uniq_filter h.uniq _, fun k => (key k).1, fun k => (key k).2⟩

theorem sim_step {cfg : Cfg} (hs : ChunkStore.SaneCfg cfg.node) {r : Run} {n : N} (h : Sim cfg r n) (op : Op) :
    Sim cfg (exec cfg r op) (C05Spec.step (paramsOf cfg) n (evOf op)) := by
  by_cases ho : evOf op = .other
  · obtain ⟨hn, hl, hr, _⟩ := step_other cfg r.s ho
    rw [ho]
    exact ⟨hn.trans h.now, hl.trans h.last, hr ▸ h.uniq, fun c => hr ▸ h.copies c,
      fun c => notified_other cfg r ho ▸ h.reported c⟩
  · cases op with
    | adv d => exact ⟨congrArg (· + (d : Int)) h.now, h.last, h.uniq, h.copies, h.reported⟩
    | store c ttl hint =>
      refine ⟨h.now, h.last, ChunkStore.uniq_aset h.uniq _ _, fun k => ?_, h.reported⟩
      show (aget (aset r.s.recs c _) k).map (·.expires) = if k = c then _ else _
      rw [aget_aset]
      by_cases hk : k = c
      · rw [if_pos hk, if_pos hk, Option.map_some, ChunkStore.mkRec, lifetime_eq cfg hs ttl, h.now]
        rfl
      · rw [if_neg hk, if_neg hk]
        exact h.copies k
    | tick =>
      show Sim cfg ⟨tick cfg r.s, r.drained⟩ _
      unfold tick
      rw [gate_eq_cleans h]
      by_cases hc : C05Spec.cleans (paramsOf cfg) n = true
      · rw [if_pos hc]
        exact { sim_cleanup h hc with }
      · rw [if_neg hc, evOf, C05Spec.step, if_neg hc]
        exact { h with }
    | _ => exact absurd rfl ho

theorem sim_run {cfg : Cfg} (hs : ChunkStore.SaneCfg cfg.node) {r : Run} {n : N} (h : Sim cfg r n) (ops : List Op) :
    Sim cfg (run cfg r ops) (C05Spec.run (paramsOf cfg) n (ops.map evOf)) := by
  induction ops generalizing r n with
  | nil => exact h
  | cons op ops ih => exact ih (sim_step hs h op)

/-!
`sweptEpochs`: the number of *store epochs* of an id that ended by expiry and were swept — a store of
the id at `t` with deadline `d` counts iff a tick that cleans at some `T ≥ d` occurs before the id is
stored again — and `reported_eq`: this is exactly what the abstract node of `C05Spec` reports. -/

def stores (c : String) : List Ev → Nat
  | [] => 0
  | .store k _ :: rest => (if k = c then 1 else 0) + stores c rest
  | _ :: rest => stores c rest

theorem run_cons (p : Params) (n : N) (ev : Ev) (evs : List Ev) :
    C05Spec.run p n (ev :: evs) = C05Spec.run p (C05Spec.step p n ev) evs := rfl

end EphVerif.C05L

namespace EphVerif.Sys
open EphVerif.C05L
open EphVerif.C05Spec (N Ev Params nsPerSec effTtl)

/-- a copy of `c` with deadline `d` is current at (`now`, `last`): will a cleanup at some `T ≥ d` run before
    `c` is stored again? -/
def sweptAfter (p : Params) (c : String) (d : Int) : Int → Int → List Ev → Bool
  | _, _, [] => false
  | now, last, .store k _ :: rest => if k = c then false else sweptAfter p c d now last rest
  | now, last, .adv n :: rest => sweptAfter p c d (now + n) last rest
  | now, last, .tick :: rest =>
    if decide (now - last ≥ p.cleanupInterval * nsPerSec) then
      (if decide (d ≤ now) then true else sweptAfter p c d now now rest)
    else sweptAfter p c d now last rest
  | now, last, .other :: rest => sweptAfter p c d now last rest

def sweptEpochs (p : Params) (c : String) : Int → Int → List Ev → Nat
  | _, _, [] => 0
  | now, last, .store k ttl :: rest =>
    (if k = c ∧ sweptAfter p c (now + effTtl p ttl * nsPerSec) now last rest = true then 1 else 0) +
      sweptEpochs p c now last rest
  | now, last, .adv n :: rest => sweptEpochs p c (now + n) last rest
  | now, last, .tick :: rest =>
    if decide (now - last ≥ p.cleanupInterval * nsPerSec) then sweptEpochs p c now now rest
    else sweptEpochs p c now last rest
  | now, last, .other :: rest => sweptEpochs p c now last rest

/-- what the current copy (if any) will still contribute -/
def pendingReport (p : Params) (c : String) (n : N) (evs : List Ev) : Nat :=
  match n.copies.get c with
  | some d => if sweptAfter p c d n.now n.lastCleanup evs then 1 else 0
  | none => 0

theorem reported_eq (p : Params) (c : String) (evs : List Ev) (n : N) :
    (C05Spec.run p n evs).reported.get c =
      n.reported.get c + pendingReport p c n evs + sweptEpochs p c n.now n.lastCleanup evs := by
  induction evs generalizing n with
  | nil =>
    simp only [C05Spec.run, List.foldl_nil, pendingReport, sweptAfter, sweptEpochs]
    cases n.copies.get c <;> simp
  | cons ev evs ih =>
    rw [run_cons, ih]
    cases ev with
    | adv d => simp only [C05Spec.step, pendingReport, sweptAfter, sweptEpochs]; rfl
    | other => simp only [C05Spec.step, pendingReport, sweptAfter, sweptEpochs]; rfl
    | store k ttl =>
      by_cases hk : k = c
      · -- the new copy replaces the current one, which will never be reported
        subst hk
        have hold : pendingReport p k n (.store k ttl :: evs) = 0 := by
          unfold pendingReport
          cases n.copies.get k with
          | none => rfl
          | some d => exact if_neg (by simp only [sweptAfter, if_true, Bool.false_eq_true, not_false_eq_true])
        have hnew : pendingReport p k (C05Spec.step p n (.store k ttl)) evs =
            if sweptAfter p k (n.now + effTtl p ttl * nsPerSec) n.now n.lastCleanup evs then 1 else 0 := by
          simp only [pendingReport, C05Spec.step, if_true]; rfl
        rw [hold, hnew]
        simp only [sweptEpochs, true_and, C05Spec.step]
        omega
      · cases hg : n.copies.get c with
        | none => simp [C05Spec.step, pendingReport, sweptEpochs, hg, hk, Ne.symm hk]
        | some d0 =>
          by_cases hs : sweptAfter p c d0 n.now n.lastCleanup evs = true <;>
            simp [C05Spec.step, pendingReport, sweptAfter, sweptEpochs, hg, hk, Ne.symm hk, hs]
    | tick =>
      by_cases hc : n.now - n.lastCleanup ≥ p.cleanupInterval * nsPerSec
      · -- a cleaning tick turns a due pending report into a report
        cases hg : n.copies.get c with
        | none => simp [C05Spec.step, C05Spec.cleans, hc, pendingReport, sweptEpochs, C05Spec.due, hg]
        | some d =>
          by_cases hd : d ≤ n.now <;>
            simp [C05Spec.step, C05Spec.cleans, hc, pendingReport, sweptAfter, sweptEpochs, C05Spec.due, hg, hd]
      · cases hg : n.copies.get c <;> simp [C05Spec.step, C05Spec.cleans, hc, pendingReport, sweptAfter, sweptEpochs, hg]

theorem reported_init (p : Params) (c : String) (t0 : Int) (evs : List Ev) :
    (C05Spec.run p (N.init t0) evs).reported.get c = sweptEpochs p c t0 t0 evs :=
  (reported_eq p c evs (N.init t0)).trans (Nat.zero_add _)

theorem sweptEpochs_le_stores (p : Params) (c : String) : ∀ (now last : Int) (evs : List Ev),
    sweptEpochs p c now last evs ≤ stores c evs
  | _, _, [] => Nat.le_refl 0
  | now, last, .store k ttl :: rest => by
    have := sweptEpochs_le_stores p c now last rest
    simp only [sweptEpochs, stores]
    by_cases hk : k = c
    · simp only [hk, true_and, if_true]; split <;> omega
    · simp only [hk, false_and, if_false]; omega
  | now, last, .adv n :: rest => sweptEpochs_le_stores p c (now + n) last rest
  | now, last, .tick :: rest => by
    simp only [sweptEpochs, stores]
    split <;> exact sweptEpochs_le_stores ..
  | now, last, .other :: rest => sweptEpochs_le_stores p c now last rest

end EphVerif.Sys
