import EphVerif.Lemmas.C18Base64
import EphVerif.Lemmas.C17Wire

/-! Helper lemmas for C18: every reader of the decoder answers `ok` or `invalidArg`
    (`Res.Acceptable`): the guards make the `.oob` / `.ub` answers of the raw reads unreachable. -/
namespace EphVerif.Manifest
open EphVerif.Gen.C17

section
variable {β : Type} {s : Bytes} {n : Nat} {c : Prop} [Decidable c]

theorem acc_ite {x y : Res β} (hx : c → x.Acceptable) (hy : ¬ c → y.Acceptable) : (if c then x else y).Acceptable := by
  split
  · exact hx ‹_›
  · exact hy ‹_›

theorem acc_guard {x : Res β} (hx : ¬ c → x.Acceptable) : (if c then .invalidArg else x).Acceptable :=
  acc_ite (fun _ => acc_invalidArg) hx

theorem rawByte_ok (h : 0 < s.length) : ∃ b r, s = b :: r ∧ rawByte s = .ok (b, r) := by
  cases s with
  | nil => simp at h
  | cons b r => exact ⟨b, r, rfl, rfl⟩

theorem acc_rawByte {f : UInt8 × Bytes → Res β} (h : 0 < s.length)
    (hf : ∀ b r, r.length + 1 = s.length → (f (b, r)).Acceptable) : ((rawByte s).bind f).Acceptable := by
  obtain ⟨b, r, rfl, hb⟩ := rawByte_ok h
  exact hb ▸ hf b r rfl

theorem acc_rawTake {f : Bytes × Bytes → Res β} (h : n ≤ s.length)
    (hf : ∀ x r, r.length + n = s.length → (f (x, r)).Acceptable) : ((rawTake n s).bind f).Acceptable := by
  rw [rawTake_ok h]; exact hf _ _ (by rw [List.length_drop]; omega)
end

theorem needByte_acc (s : Bytes) : (needByte s).Acceptable := by
  cases s with
  | nil => exact acc_invalidArg
  | cons b r => exact acc_ok (b, r)

theorem needBytes_acc (n : Nat) (s : Bytes) : (needBytes n s).Acceptable :=
  acc_guard fun h => rawTake_ok (Nat.le_of_not_gt h) ▸ acc_ok _

theorem readU16_acc (s : Bytes) : (readU16 s).Acceptable :=
  acc_guard fun _ => acc_rawByte (by omega) fun _ _ _ => acc_rawByte (by omega) fun _ _ _ => acc_ok _

theorem needU16_acc (s : Bytes) : (needU16 s).Acceptable := acc_guard fun _ => readU16_acc s

theorem str8_acc (s : Bytes) : (str8 s).Acceptable :=
  acc_bind (needByte_acc s) fun _ => needBytes_acc _ _

theorem str16_acc (s : Bytes) : (str16 s).Acceptable :=
  acc_bind (needU16_acc s) fun _ => needBytes_acc _ _

theorem readShards_ok : ∀ (n : Nat) (s : Bytes), n * 33 ≤ s.length → ∃ x, readShards n s = .ok x
  | 0, s, _ => ⟨_, rfl⟩
  | n + 1, s, h => by
    obtain ⟨b, r, rfl, hb⟩ := rawByte_ok (s := s) (by omega)
    have hr : 32 ≤ r.length := by simp at h; omega
    obtain ⟨x, hx⟩ := readShards_ok n (r.drop 32) (by simp at h ⊢; omega)
    exact ⟨(⟨b, r.take 32⟩ :: x.1, x.2), by simp [readShards, rawByte, shardValueSize, rawTake_ok hr, hx]⟩

theorem readShardSection_acc (n : Nat) (s : Bytes) : (readShardSection n s).Acceptable :=
  acc_guard fun h => by
    obtain ⟨x, hx⟩ := readShards_ok n s (by simp [shardStride] at h; omega)
    exact hx ▸ acc_ok x

theorem readMetaEntries_acc : ∀ (n : Nat) (acc : List (Bytes × Bytes)) (s : Bytes),
    (readMetaEntries n acc s).Acceptable
  | 0, _, _ => acc_ok _
  | n + 1, acc, s => by
    unfold readMetaEntries
    exact acc_bind (str8_acc s) fun _ => acc_bind (str16_acc _) fun _ => readMetaEntries_acc n _ _

theorem readMetaSection_acc (s : Bytes) : (readMetaSection s).Acceptable :=
  acc_bind (needByte_acc s) fun _ => readMetaEntries_acc _ _ _

theorem readDiscEntry_acc (v4 : Bool) (s : Bytes) : (readDiscEntry v4 s).Acceptable :=
  acc_bind (acc_ite (fun _ => str8_acc s) fun _ => acc_ok _) fun _ => acc_bind (str8_acc _) fun _ =>
    acc_bind (str16_acc _) fun _ => acc_bind (needByte_acc _) fun _ => acc_ok _

theorem readDiscEntries_acc (v4 : Bool) : ∀ (n : Nat) (s : Bytes), (readDiscEntries v4 n s).Acceptable
  | 0, _ => acc_ok _
  | n + 1, s => by
    unfold readDiscEntries
    exact acc_bind (readDiscEntry_acc v4 s) fun _ => acc_bind (readDiscEntries_acc v4 n _) fun _ => acc_ok _

theorem readDiscSection_acc (v4 : Bool) (s : Bytes) : (readDiscSection v4 s).Acceptable :=
  acc_bind (needByte_acc s) fun _ => readDiscEntries_acc v4 _ _

theorem readSecurity_acc (s : Bytes) : (readSecurity s).Acceptable :=
  acc_bind (needByte_acc s) fun _ => acc_bind (str16_acc _) fun _ => acc_bind (needByte_acc _) fun _ =>
    acc_ite (fun _ => acc_guard fun h =>
      acc_rawTake (by simp [kAttestationDigestSize, digestArraySize] at h ⊢; omega) fun _ _ _ => acc_ok _) fun _ => acc_ok _

theorem readFallbackEntries_acc : ∀ (n : Nat) (s : Bytes), (readFallbackEntries n s).Acceptable
  | 0, _ => acc_ok _
  | n + 1, s => by
    unfold readFallbackEntries
    exact acc_bind (str16_acc s) fun _ => acc_bind (needByte_acc _) fun _ =>
      acc_bind (readFallbackEntries_acc n _) fun _ => acc_ok _

theorem readFallbackSection_acc (s : Bytes) : (readFallbackSection s).Acceptable :=
  acc_bind (needByte_acc s) fun _ => readFallbackEntries_acc _ _

/-- the expiry field behind a guard that covers its eight bytes: the range check keeps the clock
    conversion from `.ub` -/
theorem acc_readExpiry {β : Type} {s : Bytes} {f : Int × Bytes → Res β} (h : 8 ≤ s.length)
    (hf : ∀ ns r, r.length + 8 = s.length → (f (ns, r)).Acceptable) : ((readExpiry s).bind f).Acceptable := by
  rw [readExpiry_of_le h]
  split
  · exact acc_invalidArg
  · exact hf _ _ (by rw [List.length_drop]; omega)

/-- the one size guard of the header covers the unguarded reads behind it -/
theorem readHeader_acc (p : Bytes) : (readHeader p).Acceptable :=
  acc_guard fun h => by
    have : 1 + chunkIdSize + chunkHashSize + nonceSize + 8 + 3 ≤ headerMin := by decide
    exact acc_rawByte (by omega) fun _ _ h0 => acc_guard fun _ =>
      acc_rawTake (by omega) fun _ _ h1 => acc_rawTake (by omega) fun _ _ h2 =>
      acc_rawTake (by omega) fun _ _ h3 => acc_readExpiry (by omega) fun _ _ h4 =>
      acc_rawByte (by omega) fun _ _ h5 => acc_rawByte (by omega) fun _ _ h6 => acc_rawByte (by omega) fun _ _ _ => acc_ok _

theorem decodePayload_acc (p : Bytes) : (decodePayload p).Acceptable :=
  acc_bind (readHeader_acc p) fun _ => acc_bind (readShardSection_acc _ _) fun _ =>
    acc_ite (fun _ => acc_ok _) fun _ => acc_bind (readMetaSection_acc _) fun _ =>
    acc_ite (fun _ => acc_ok _) fun _ => acc_bind (readDiscSection_acc _ _) fun _ =>
    acc_bind (readSecurity_acc _) fun _ => acc_bind (readFallbackSection_acc _) fun _ => acc_ok _

end EphVerif.Manifest
