/-
Histories: running the ChunkStore model and the abstract store side by side (C01).
-/
import EphVerif.Lemmas.C01Judge

namespace EphVerif.ChunkStore
open EphVerif.StoreSpec (Op Obs Params Entry W last readWire readRecord live judge)

def runModel (nc : NodeCfg) (w : World) (ops : List Op) : World := ops.foldl (fun w o => (step nc w o).1) w
def runSpec (p : Params) (a : W) (ops : List Op) : W := ops.foldl (StoreSpec.step p) a

def fresh (t0 : Int) (fs : FS) : World := { now := t0, sys := { recs := [], fs := fs }, lastCleanup := t0 }
def freshSpec (t0 : Int) : W := { now := t0, s := [] }

theorem rel_empty {w : World} {a : W} (hn : w.now = a.now) (hr : w.sys.recs = []) (hs : a.s = []) : Rel w a := by
  refine ⟨hn, ?_, fun id r h => ?_, fun id e h => ?_⟩
  · rw [hr]; exact List.Pairwise.nil
  · rw [hr] at h; cases h
  · rw [hs] at h; cases h

theorem rel_fresh (t0 : Int) (fs : FS) : Rel (fresh t0 fs) (freshSpec t0) := rel_empty rfl rfl rfl

theorem rel_run {nc : NodeCfg} (hs : SaneCfg nc) (ops : List Op) {w : World} {a : W} (h : Rel w a) :
    Rel (runModel nc w ops) (runSpec (paramsOf nc) a ops) := by
  induction ops generalizing w a with
  | nil => exact h
  | cons o rest ih => exact ih (rel_step hs h o)

theorem accepted_of_rel {nc : NodeCfg} (hs : SaneCfg nc) (ops : List Op) {w : World} {a : W} (h : Rel w a) :
    accepted nc (paramsOf nc) w a ops = true := by
  induction ops generalizing w a with
  | nil => rfl
  | cons o rest ih =>
    simp only [accepted, Bool.and_eq_true]
    exact ⟨by rw [judge_step hs h o]; rfl, ih (rel_step hs h o)⟩

def storesId (id : String) : Op → Bool
  | .store i .. => i == id
  | .nstore i .. => i == id
  | _ => false

def invisible : Op → Bool
  | .lookup _ | .record _ | .fetch _ | .request _ | .list | .sweep | .tick => true
  | _ => false

theorem spec_step_invisible (p : Params) (a : W) {o : Op} (h : invisible o = true) : StoreSpec.step p a o = a := by
  cases o with
  | store | nstore | advance => cases h
  | _ => rfl

theorem runSpec_cons (p : Params) (a : W) (o : Op) (ops : List Op) :
    runSpec p a (o :: ops) = runSpec p (StoreSpec.step p a o) ops := rfl

theorem runSpec_filter (p : Params) (a : W) (ops : List Op) :
    runSpec p a (ops.filter (fun o => !invisible o)) = runSpec p a ops := by
  induction ops generalizing a with
  | nil => rfl
  | cons o rest ih =>
    rw [List.filter_cons, runSpec_cons]
    cases h : invisible o
    · exact ih _
    · rw [spec_step_invisible p a h]; exact ih a

theorem last_step_other (p : Params) (a : W) (id : String) {o : Op} (h : storesId id o = false) :
    last (StoreSpec.step p a o).s id = last a.s id := by
  cases o with
  | store | nstore => exact if_neg (by simpa [storesId] using h)
  | _ => rfl

theorem last_run_other (p : Params) (a : W) (id : String) (ops : List Op)
    (h : ∀ o ∈ ops, storesId id o = false) : last (runSpec p a ops).s id = last a.s id := by
  induction ops generalizing a with
  | nil => rfl
  | cons o rest ih =>
    rw [runSpec_cons, ih _ fun o' ho' => h o' (List.mem_cons_of_mem _ ho'), last_step_other p a id (h o List.mem_cons_self)]

theorem now_run_ge (p : Params) (a : W) (ops : List Op) : a.now ≤ (runSpec p a ops).now := by
  induction ops generalizing a with
  | nil => exact Int.le_refl _
  | cons o rest ih =>
    refine Int.le_trans ?_ (ih (StoreSpec.step p a o))
    cases o with
    | advance d => exact Int.le_add_of_nonneg_right (Int.natCast_nonneg d)
    | _ => exact Int.le_refl _

end EphVerif.ChunkStore
