/-
C05 helper lemmas, part 5: histories from construction (`reach`) and operations that do not move the clock.
-/
import EphVerif.Lemmas.C05Once

namespace EphVerif.C05
open EphVerif.NodeCleanup EphVerif.C05L

def reach (cfg : Cfg) (t0 : Int) (ops : List Op) : Run := run cfg (Run.init cfg t0) ops

def Still : Op → Prop
  | .adv d => d = 0
  | _ => True

theorem still_step (cfg : Cfg) (s : State) (op : Op) (hs : Still op) (h : s.lastCleanup = s.now) :
    (step cfg s op).now = s.now ∧ (step cfg s op).lastCleanup = s.now := by
  constructor
  · cases op with
    | adv d => exact (show d = 0 from hs) ▸ Int.add_zero _
    | tick => exact (tick_clock cfg s).1
    | ingest | announce | reannounce | lookup => exact (step_other cfg s rfl).1
    | store | probe | drain | audit => rfl
  · rcases (step_clock cfg s op).2 with hl | ⟨_, hl⟩
    · exact hl.trans h
    · exact hl

theorem still_run (cfg : Cfg) (r : Run) (ops : List Op) (hs : ∀ op ∈ ops, Still op) (h : r.s.lastCleanup = r.s.now) :
    (run cfg r ops).s.now = r.s.now ∧ (run cfg r ops).s.lastCleanup = r.s.now :=
  run_invariant (I := fun s => s.now = r.s.now ∧ s.lastCleanup = r.s.now)
    (fun s op hop ⟨hn, hl⟩ => (still_step cfg s op (hs op hop) (hl.trans hn.symm)).imp (·.trans hn) (·.trans hn)) ⟨rfl, h⟩

theorem reach_append (cfg : Cfg) (t0 : Int) (a b : List Op) : reach cfg t0 (a ++ b) = run cfg (reach cfg t0 a) b :=
  List.foldl_append ..

end EphVerif.C05
