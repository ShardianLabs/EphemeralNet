import EphVerif.Model.Advertise

/-! Helper lemmas for C34: digits and decimal octets, `parse_ipv4 ∘ inet_ntop(AF_INET) = id`. -/
namespace EphVerif.C34L
open EphVerif.Adv EphVerif.Gen.C34

/-- a "plain" character survives `normalize_ipv6` untouched -/
def plain (c : Char) : Bool := c != '%' && lowerC c == c

theorem digit_facts (c : Char) (h : isDigit c = true) : (c != '.') = true ∧ plain c = true := by
  have h' : 48 ≤ c.toNat ∧ c.toNat ≤ 57 := of_decide_eq_true h
  have ne : ∀ d : Char, (d.toNat < 48 ∨ 57 < d.toNat) → (c != d) = true := by
    intro d hd; rw [bne_iff_ne]; intro hcd; subst hcd; omega
  have hl : lowerC c = c := if_neg (by omega)
  rw [plain, hl, ne '.' (by decide), ne '%' (by decide)]
  exact ⟨rfl, by simp⟩

theorem parseOctetAux_digits : ∀ (s : Str) (v r : Nat), parseOctetAux s v = some r → ∀ c ∈ s, isDigit c = true
  | [], _, _, _ => by simp
  | c :: cs, v, r, h => by
    rw [parseOctetAux] at h
    cases hc : isDigit c with
    | false => rw [hc] at h; cases h
    | true =>
      rw [hc] at h
      by_cases hv : v * 10 + (c.toNat - 48) > 255
      · simp [hv] at h
      · simp only [Bool.not_true, Bool.false_eq_true, if_false, hv] at h
        intro x hx
        rcases List.mem_cons.mp hx with rfl | hx
        · exact hc
        · exact parseOctetAux_digits cs _ r h x hx

theorem parseOctet_digits (s : Str) (r : Nat) (h : parseOctet s = some r) : ∀ c ∈ s, isDigit c = true := by
  unfold parseOctet at h
  split at h
  · cases h
  · exact parseOctetAux_digits s 0 r h

theorem parseIpv4_none (s : Str) (h : parseOctet (s.takeWhile (· != '.')) = none) : parseIpv4 s = none := by
  rw [parseIpv4, parseIpv4Aux]
  split
  · rfl
  · rw [h]

theorem dec8_parse : ∀ n, n < 256 → parseOctet (dec8 n) = some n := by decide +kernel

theorem dec8_digits (n : Nat) (h : n < 256) : ∀ c ∈ dec8 n, isDigit c = true :=
  parseOctet_digits _ n (dec8_parse n h)

theorem dec8_chars (n : Nat) (h : n < 256) : ∀ c ∈ dec8 n, (c != '.') = true ∧ plain c = true :=
  fun c hc => digit_facts c (dec8_digits n h c hc)

theorem dec8_ne_nil (n : Nat) : dec8 n ≠ [] := by
  unfold dec8
  split
  · exact List.cons_ne_nil _ _
  · split <;> exact List.cons_ne_nil _ _

theorem parseIpv4Aux_seg (k : Nat) (s r : Str) (h : ∀ c ∈ s, (c != '.') = true) :
    parseIpv4Aux (k + 1) (s ++ '.' :: r) = (parseOctet s).bind fun v => (parseIpv4Aux k r).map (v :: ·) := by
  have hdot : ¬(('.' : Char) != '.') = true := by decide
  rw [parseIpv4Aux, List.dropWhile_append_of_pos h, List.dropWhile_cons_of_neg (p := (· != '.')) hdot,
    List.takeWhile_append_of_pos h, List.takeWhile_cons_of_neg (p := (· != '.')) hdot, List.append_nil]
  cases parseOctet s <;> rfl

theorem parseIpv4_fmt4 (a b c d : Nat) (ha : a < 256) (hb : b < 256) (hc : c < 256) (hd : d < 256) :
    parseIpv4 (fmt4 a b c d) = some [a, b, c, d] := by
  rw [parseIpv4, fmt4,
    parseIpv4Aux_seg 2 _ _ fun x hx => (dec8_chars a ha x hx).1, dec8_parse a ha,
    parseIpv4Aux_seg 1 _ _ fun x hx => (dec8_chars b hb x hx).1, dec8_parse b hb,
    parseIpv4Aux_seg 0 _ _ fun x hx => (dec8_chars c hc x hx).1, dec8_parse c hc,
    parseIpv4Aux, dec8_parse d hd]
  rfl

theorem fmt4_ne_nil (a b c d : Nat) : fmt4 a b c d ≠ [] :=
  fun h => dec8_ne_nil a (List.append_eq_nil_iff.mp h).1

theorem fmt4_plain (a b c d : Nat) (ha : a < 256) (hb : b < 256) (hc : c < 256) (hd : d < 256) :
    ∀ x ∈ fmt4 a b c d, plain x = true := by
  intro x hx
  unfold fmt4 at hx
  simp only [List.mem_append, List.mem_cons] at hx
  rcases hx with h | rfl | h | rfl | h | rfl | h
  · exact (dec8_chars a ha x h).2
  · decide
  · exact (dec8_chars b hb x h).2
  · decide
  · exact (dec8_chars c hc x h).2
  · decide
  · exact (dec8_chars d hd x h).2

end EphVerif.C34L
