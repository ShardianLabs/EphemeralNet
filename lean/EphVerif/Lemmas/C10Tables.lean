/-
C10, table facts (core Lean only).  The log/exp tables built by the model of
`build_exp_table` / `build_log_table` are evaluated once by the kernel and shown equal to the
tables dumped from the compiled source (`Generated/C10.lean`); every other fact is a
one-dimensional `decide +kernel` over at most 512 entries of the dumped tables.
-/
import EphVerif.Model.Shamir
import EphVerif.Spec.Shamir

namespace EphVerif.C10L
open EphVerif.Shamir EphVerif.Gen.C10 EphVerif.ShamirSpec

/-- (T) the Lean model of the two builders computes exactly what the compiled builders compute.
    One evaluation for both: the log table is filled from the exp table. -/
theorem tables_eq : expList = expTableLit ∧ logList = logTableLit := by decide +kernel

theorem expList_eq : expList = expTableLit := tables_eq.1
theorem logList_eq : logList = logTableLit := tables_eq.2

/-! A lookup `l.getD i 0` in a list literal makes the kernel walk `i` cells, and a sweep over all indices
walks the table once per index.  The sweeps below therefore read the tables through one numeral
(entry `i` in bits `8i … 8i+7`, the layout of the model's `tget`): the kernel computes the numeral
once per sweep (it remembers the value of the closed term `packBytes …`) and each lookup is a shift
and a remainder. -/

def packBytes (l : List Nat) : Nat := l.foldr (fun a t => a + 256 * t) 0

theorem tget_packBytes {l : List Nat} (h : ∀ a ∈ l, a < 256) (i : Nat) :
    tget (packBytes l) i = l.getD i 0 := by
  induction l generalizing i with
  | nil => simp [packBytes, tget]
  | cons a l ih =>
    have ha := h a List.mem_cons_self
    cases i with
    | zero => simp [packBytes, tget]; omega
    | succ i =>
      rw [List.getD_cons_succ, ← ih (fun b hb => h b (List.mem_cons_of_mem _ hb)) i]
      simp only [tget, packBytes, List.foldr_cons]
      rw [Nat.mul_succ, Nat.add_comm (8 * i), Nat.shiftRight_add]
      congr 2
      rw [Nat.shiftRight_eq_div_pow]
      omega

def E (i : Nat) : Nat := tget (packBytes expTableLit) i
def L (a : Nat) : Nat := tget (packBytes logTableLit) a

theorem expAt_eq (i : Nat) : expAt i = E i := by
  rw [E, tget_packBytes (by decide +kernel)]
  simp [expAt, expTable, expList_eq]

theorem logAt_eq (a : Nat) : logAt a = L a := by
  rw [L, tget_packBytes (by decide +kernel)]
  simp [logAt, logTable, logList_eq]

/- Only the kernel is meant to evaluate `E` and `L`; the elaborator's `rfl` attempts (inside `congr`, `simp`, …)
   must not try. -/
attribute [irreducible] E L

theorem kMulMod_eq : kMulMod = 255 := by decide
theorem kDivMod_eq : kDivMod = 255 := by decide
theorem kDivAdd_eq : kDivAdd = 255 := by decide
theorem kFieldPolynomial_eq : kFieldPolynomial = 0x11D := by decide
theorem kShareIndexStart_eq : kShareIndexStart = 1 := by decide
theorem kDegreeStart_eq : kDegreeStart = 1 := by decide
theorem kShareIndexModulus_gt : 255 < kShareIndexModulus := by decide
theorem kSecretBytes_eq : kSecretBytes = 32 ∧ kInterpolateBytes = 32 := by decide

theorem exp_facts : ∀ k, k < 255 → E k ≠ 0 ∧ E k < 256 ∧ L (E k) = k := by decide +kernel

theorem log_facts : ∀ a, a < 256 → a ≠ 0 → L a < 255 ∧ E (L a) = a := by decide +kernel

/-- `exp[k+1] = x · exp[k]` in F_2[x]/(x^8+x^4+x^3+x^2+1): the table lists the powers of `x`. -/
theorem exp_xtime : ∀ k, k < 255 → xtime (E k) = E ((k + 1) % 255) := by decide +kernel

theorem exp_small : ∀ i, i < 8 → E i = 2 ^ i := by decide +kernel

theorem exp_zero : E 0 = 1 := exp_small 0 (by decide)

end EphVerif.C10L
