/-
C05 lemmas, part 3: the invariant `Inv` of the node model — what the node holds expires strictly after the last
cleanup, every swarm plan has a cached manifest, the node is a holder only of chunks it stores.  The proofs go through
`InvAt cfg T s`, the same about any instant `T ≤ now`: only `tick` mentions `lastCleanup`, and a later `T` implies an earlier.
-/
import EphVerif.Lemmas.C05Ops

namespace EphVerif.C05L
open EphVerif.NodeCleanup
open EphVerif.ChunkStore (aget aset adel Recs Uniq)
open EphVerif.Providers (Table Loc Holder)

def RecsOk (T : Int) (recs : Recs) : Prop := ∀ e ∈ recs, T < e.2.expires
def LocsOk (T : Int) (t : Table) : Prop := ∀ c l, t c = some l → T < l.exp ∧ ∀ h ∈ l.holders, T < h.exp
def RoutesOk (T : Int) (r : Routing.Table) : Prop := ∀ i, ∀ x ∈ r.buckets i, T < x.exp
def ListOk (T : Int) (l : List (String × Int)) : Prop := ∀ e ∈ l, T < e.2
def PlansOk (cache plans : List (String × Int)) : Prop := ∀ e ∈ plans, (aget cache e.1).isSome = true
def SelfOk (self : String) (t : Table) (recs : Recs) : Prop :=
  ∀ c l, t c = some l → (∃ h ∈ l.holders, h.peer = self) → ∃ r, (c, r) ∈ recs

structure Inv (cfg : Cfg) (s : State) : Prop where
  time : s.lastCleanup ≤ s.now
  recs : RecsOk s.lastCleanup s.recs
  locs : LocsOk s.lastCleanup s.locs
  routes : RoutesOk s.lastCleanup s.routes
  shards : ListOk s.lastCleanup s.shards
  cache : ListOk (s.lastCleanup + cfg.wallOff) s.cache
  plans : PlansOk s.cache s.plans
  self : SelfOk cfg.self s.locs s.recs

/-- announcements come from other peers (the node's own go through `store` / `reannounce`) -/
def OpWf (cfg : Cfg) : Op → Prop
  | .announce _ _ _ p _ _ _ _ => p ≠ cfg.self
  | _ => True

def OpsWf (cfg : Cfg) (ops : List Op) : Prop := ∀ op ∈ ops, OpWf cfg op

section
variable {cache plans : List (String × Int)} {self : String} {t : Table} {recs : Recs}

theorem plansOk_aset (h : PlansOk cache plans) {c : String} {e n : Int} :
    PlansOk (aset cache c e) (aset plans c n) := by
  intro x hx
  rw [aget_aset]
  split
  · rfl
  · next hne =>
    rcases mem_aset.mp hx with rfl | ⟨hx, _⟩
    · exact absurd rfl hne
    · exact h x hx

theorem plansOk_cleanup (h : PlansOk cache plans) {W : Int} :
    PlansOk (cache.filter fun e => !(manifestDead W e.2)) (plans.filter fun e => !(planDead cache W e.1)) := by
  intro e he
  obtain ⟨hm, hd⟩ := List.mem_filter.mp he
  have hs := h e hm
  -- the plan survives, so its manifest is not dead, so the manifest survives
  cases hc : aget cache e.1 with
  | none => rw [hc] at hs; cases hs
  | some v =>
    rw [planDead, hc] at hd
    rw [aget_filter_of_pos _ hc hd]
    rfl

theorem PlansOk.of_keys {plans' : List (String × Int)} (h : PlansOk cache plans)
    (hk : ∀ e ∈ plans', ∃ e0 ∈ plans, e0.1 = e.1) : PlansOk cache plans' := fun e he =>
  let ⟨e0, h0, hk⟩ := hk e he
  hk ▸ h e0 h0

theorem selfOk_addContact (h : SelfOk self t recs) {now : Int} {c p : String}
    {ttlNs : Int} {hint : Option (List String)} (hp : p = self → ∃ r, (c, r) ∈ recs) :
    SelfOk self (Providers.addContact t now c p ttlNs hint) recs := by
  intro k l' hk ⟨x, hx, hxs⟩
  rcases addContact_get hk with ⟨_, hold⟩ | ⟨rfl, _, hh⟩
  · exact h k l' hold ⟨x, hx, hxs⟩
  · rcases hh x hx with rfl | ⟨_, l, hl, hx'⟩
    · exact hp hxs
    · exact h k l hl ⟨x, hx', hxs⟩

theorem selfOk_put (h : SelfOk self t recs) {c : ChunkStore.Cfg} {now : Int}
    {id : String} {d p : ChunkStore.Bytes} {ttl : Int} {n : ChunkStore.Bytes} {enc : Bool} :
    SelfOk self t (ChunkStore.put c recs now id d p ttl n enc) := by
  intro k l hk hs
  obtain ⟨r, hr⟩ := h k l hk hs
  by_cases hki : k = id
  · exact ⟨_, mem_aset.mpr (.inl (by rw [hki]))⟩
  · exact ⟨r, mem_aset.mpr (.inr ⟨hr, hki⟩)⟩

theorem selfOk_of_shrinks {t' : Table} (h : SelfOk self t recs) (hs : Shrinks t' t) :
    SelfOk self t' recs := by
  intro k l' hk ⟨x, hx, hxs⟩
  obtain ⟨l, hl, _, hh⟩ := hs k l' hk
  exact h k l hl ⟨x, hh x hx, hxs⟩

theorem selfOk_cleanup (h : SelfOk self t recs) {now : Int} :
    SelfOk self (Providers.sweep (withdrawAll t self (ChunkStore.sweep recs now).2) now) (ChunkStore.sweep recs now).1 := by
  intro k l' hk ⟨x, hx, hxs⟩
  obtain ⟨l1, h1, hs1⟩ := sweep_shrinks _ now k l' hk
  obtain ⟨l, h0, hs0⟩ := withdrawAll_shrinks self _ t k l1 h1
  obtain ⟨r, hr⟩ := h k l h0 ⟨x, hs0.2 x (hs1.2 x hx), hxs⟩
  by_cases hexp : ChunkStore.expiredSweep now r.expires = true
  · -- then `k` was swept and the node's announcement withdrawn
    have hk' : k ∈ (ChunkStore.sweep recs now).2 := List.mem_map.mpr ⟨(k, r), List.mem_filter.mpr ⟨hr, hexp⟩, rfl⟩
    exact absurd hxs (withdrawAll_removes hk' h1 x (hs1.2 x hx))
  · exact ⟨r, List.mem_filter.mpr ⟨hr, by simpa using hexp⟩⟩

end

/-- the clauses of the invariant that are not bounds on steady-clock deadlines -/
structure Linked (cfg : Cfg) (T : Int) (s : State) : Prop where
  cache : ListOk (T + cfg.wallOff) s.cache
  plans : PlansOk s.cache s.plans
  self : SelfOk cfg.self s.locs s.recs

structure InvAt (cfg : Cfg) (T : Int) (s : State) : Prop where
  time : T ≤ s.now
  deadlines : Deadlines (T < ·) s
  linked : Linked cfg T s

/-- `Inv` is `InvAt` at the last cleanup: `LocsOk T` is `AllLocs (T < ·)`, `RoutesOk T` is `AllRoutes (T < ·)` -/
theorem Inv.at {cfg : Cfg} {s : State} (h : Inv cfg s) : InvAt cfg s.lastCleanup s :=
  ⟨h.time, ⟨h.recs, h.locs, h.routes, h.shards⟩, ⟨h.cache, h.plans, h.self⟩⟩

theorem InvAt.inv {cfg : Cfg} {s : State} (h : InvAt cfg s.lastCleanup s) : Inv cfg s :=
  ⟨h.time, h.deadlines.recs, h.deadlines.locs, h.deadlines.routes, h.deadlines.shards, h.linked.cache, h.linked.plans,
   h.linked.self⟩

theorem InvAt.mono {cfg : Cfg} {s : State} {T T' : Int} (h : InvAt cfg T s) (hT : T' ≤ T) : InvAt cfg T' s :=
  ⟨Int.le_trans hT h.time, h.deadlines.mono fun _ hd => Int.lt_of_le_of_lt hT hd,
   { h.linked with cache := fun e he => Int.lt_of_le_of_lt (Int.add_le_add_right hT _) (h.linked.cache e he) }⟩

namespace Linked
variable {cfg : Cfg} {T : Int} {s : State}

theorem acceptManifest (h : Linked cfg T s) (hT : T ≤ s.now) {c : String} {e t : Int}
    (ht : manifestTtl cfg (wall cfg s) e = some t) : Linked cfg T (acceptManifest cfg s c e t) :=
  have he : s.now + cfg.wallOff < e := (manifestTtl_some ht).1
  { h with cache := forall_mem_aset h.cache (by show T + cfg.wallOff < e; omega), plans := plansOk_aset h.plans }

theorem addProvider (h : Linked cfg T s) {now : Int} {c p : String} (hp : p = cfg.self → ∃ r, (c, r) ∈ s.recs)
    {pid : Routing.Id} {addr : String} {ttlNs : Int} {hint : Option (List String)} :
    Linked cfg T (addProvider s now c p pid addr ttlNs hint) :=
  { h with self := selfOk_addContact h.self hp }

theorem probe (h : Linked cfg T s) (c : String) : Linked cfg T (probe s c) :=
  { h with self := selfOk_of_shrinks h.self (findProviders_shrinks s.locs s.now c) }

theorem step (h : Linked cfg T s) (hT : T ≤ s.now) {op : Op} (ht : op ≠ .tick) (hw : OpWf cfg op) :
    Linked cfg T (step cfg s op) := by
  cases op with
  | tick => exact absurd rfl ht
  | adv | drain | audit => exact { h with }
  | store c ttl hint =>
    have := mul_ns_pos (nodeTtl_pos cfg.node ttl)
    exact ⟨forall_mem_aset h.cache (by show _ < s.now + cfg.wallOff + _; omega), plansOk_aset h.plans,
      selfOk_addContact (selfOk_put h.self) fun _ => ⟨_, mem_aset.mpr (.inl rfl)⟩⟩
  | ingest c e same => exact ingest_ind h fun t ht => h.acceptManifest hT ht
  | announce c e same p pid addr ttl hint =>
    exact announce_ind h (fun t ht => h.acceptManifest hT ht)
      fun _ _ _ h1 => h1.addProvider fun hp => absurd hp hw
  | reannounce c ttl hint =>
    exact reannounce_ind h fun r hr _ => h.addProvider fun _ => ⟨r, (getRecord_mem hr).1⟩
  | lookup c => exact lookup_ind h (fun _ _ _ _ => { h with }) (h.probe c)
  | probe c => exact h.probe c

end Linked

theorem InvAt.step {cfg : Cfg} {T : Int} {s : State} (h : InvAt cfg T s) {op : Op} (ht : op ≠ .tick) (hw : OpWf cfg op) :
    InvAt cfg T (step cfg s op) :=
  ⟨Int.le_trans h.time (step_clock cfg s op).1,
   h.deadlines.step cfg op fun _ hd => Int.lt_of_le_of_lt h.time (creates_pos hd), h.linked.step h.time ht hw⟩

theorem inv_init (cfg : Cfg) (t0 : Int) : Inv cfg (State.init cfg t0) :=
  InvAt.inv ⟨Int.le_refl _, .init cfg t0, List.forall_mem_nil _, List.forall_mem_nil _, fun _ _ h => nomatch h⟩

theorem inv_cleanup {cfg : Cfg} {s : State} (h : Inv cfg s) : Inv cfg (cleanup cfg s) := by
  rw [cleanup_eq]
  exact ⟨Int.le_refl _, fun _ he => lt_of_not_dead ChunkStore.expiredSweep_iff (List.mem_filter.mp he).2,
    fun _ _ hk => sweep_live hk, fun _ _ hx => (mem_sweepBuckets hx).2,
    fun _ he => lt_of_not_dead shardDead_iff (List.mem_filter.mp he).2,
    fun _ he => lt_of_not_dead manifestDead_iff (List.mem_filter.mp he).2, plansOk_cleanup h.plans, selfOk_cleanup h.self⟩

theorem inv_rebalance {cfg : Cfg} {s : State} (h : Inv cfg s) : Inv cfg (rebalance cfg s) :=
  { h with plans := h.plans.of_keys (Sys.sub_rebalance cfg s).plans }

theorem inv_tick {cfg : Cfg} {s : State} (h : Inv cfg s) : Inv cfg (tick cfg s) := by
  unfold tick
  split
  · exact inv_rebalance (inv_cleanup h)
  · exact inv_rebalance h

theorem inv_step {cfg : Cfg} {s : State} (h : Inv cfg s) (op : Op) (hw : OpWf cfg op) : Inv cfg (step cfg s op) := by
  by_cases ht : op = .tick
  · exact ht ▸ inv_tick h
  · refine InvAt.inv ?_
    rw [(step_clock cfg s op).2.resolve_right fun h => ht h.1]
    exact h.at.step ht hw

theorem run_s_append (cfg : Cfg) (r : Run) (ops : List Op) (op : Op) :
    run cfg r (ops ++ [op]) = exec cfg (run cfg r ops) op := by
  simp [run, List.foldl_append]

theorem inv_run {cfg : Cfg} {r : Run} (h : Inv cfg r.s) (ops : List Op) (hw : OpsWf cfg ops) :
    Inv cfg (run cfg r ops).s :=
  run_invariant (I := Inv cfg) (fun _ op hop h => inv_step h op (hw op hop)) h

theorem last_mono_run {cfg : Cfg} {r : Run} (h : Inv cfg r.s) (ops : List Op) (hw : OpsWf cfg ops) :
    r.s.lastCleanup ≤ (run cfg r ops).s.lastCleanup :=
  (run_invariant (I := fun s => Inv cfg s ∧ r.s.lastCleanup ≤ s.lastCleanup)
    (fun s op hop ⟨hi, hl⟩ => ⟨inv_step hi op (hw op hop), by
      rcases (step_clock cfg s op).2 with h | ⟨_, h⟩ <;> rw [h]
      · exact hl
      · exact Int.le_trans hl hi.time⟩)
    ⟨h, Int.le_refl _⟩).2

theorem inv_run_cleaning_tick {cfg : Cfg} {r : Run} (h : Inv cfg r.s) (hg : gate cfg r.s = true) (post : List Op)
    (hw : OpsWf cfg post) :
    Inv cfg (run cfg r (.tick :: post)).s ∧ r.s.now ≤ (run cfg r (.tick :: post)).s.lastCleanup := by
  have hmid : Inv cfg (exec cfg r .tick).s := inv_step h .tick trivial
  have hT : (exec cfg r .tick).s.lastCleanup = r.s.now := by
    have := (tick_clock cfg r.s).2
    rwa [hg, if_pos rfl] at this
  exact ⟨inv_run hmid post hw, hT ▸ last_mono_run hmid post hw⟩

open EphVerif.C05Spec (judgeDump judgeAudit staleSelf)

theorem mem_listing {α β : Type} {t : String → Option α} {f : String → α → β} {ks : List String} {x : β}
    (h : x ∈ ks.filterMap fun c => (t c).map (f c)) : ∃ c l, t c = some l ∧ x = f c l := by
  obtain ⟨c, _, hc⟩ := List.mem_filterMap.mp h
  cases hl : t c with
  | none => rw [hl] at hc; cases hc
  | some l => rw [hl] at hc; cases hc; exact ⟨c, l, hl, rfl⟩

theorem any_le_eq_false {α : Type} {l : List α} {f : α → Int} {T : Int} (h : ∀ x ∈ l, T < f x) :
    l.any (fun x => decide (f x ≤ T)) = false :=
  List.any_eq_false.mpr fun x hx => by have := h x hx; simp only [decide_eq_true_eq]; omega

theorem judgeDump_of_inv {cfg : Cfg} {T : Int} {s : State} (h : InvAt cfg T s) (ks : List String)
    (nameOf : Routing.Id → String) : judgeDump cfg.self T (T + cfg.wallOff) (dumpOf ks nameOf s) = none := by
  obtain ⟨_, hd, hl⟩ := h
  have h1 : (dumpOf ks nameOf s).chunks.any (fun e => decide (e.2 ≤ T)) = false :=
    any_le_eq_false fun e he => by obtain ⟨a, ha, rfl⟩ := List.mem_map.mp he; exact hd.recs a ha
  have h2 : (dumpOf ks nameOf s).locators.any (fun l => l.2.2.any (fun h => decide (h.2 ≤ T))) = false :=
    List.any_eq_false.mpr fun x hx => by
      obtain ⟨c, l, hl, rfl⟩ := mem_listing hx
      rw [Bool.not_eq_true]
      exact any_le_eq_false fun y hy => by obtain ⟨a, ha, rfl⟩ := List.mem_map.mp hy; exact (hd.locs c l hl).2 a ha
  have h3 : (dumpOf ks nameOf s).contacts.any (fun e => decide (e.2 ≤ T)) = false :=
    any_le_eq_false fun e he => by
      obtain ⟨a, ha, rfl⟩ := List.mem_map.mp he
      obtain ⟨i, hi⟩ := mem_allContacts ha
      exact hd.routes i a hi
  have h4 : (dumpOf ks nameOf s).locators.any (fun l => decide (l.2.1 ≤ T)) = false :=
    any_le_eq_false fun x hx => by obtain ⟨c, l, hl, rfl⟩ := mem_listing hx; exact (hd.locs c l hl).1
  have h5 : (dumpOf ks nameOf s).shards.any (fun e => decide (e.2 ≤ T)) = false := any_le_eq_false hd.shards
  have h6 : (dumpOf ks nameOf s).manifests.any (fun e => decide (e.2 ≤ T + cfg.wallOff)) = false :=
    any_le_eq_false hl.cache
  have h7 : (dumpOf ks nameOf s).plans.any (C05Spec.planDead (T + cfg.wallOff)) = false :=
    List.any_eq_false.mpr fun e he => by
      obtain ⟨a, ha, rfl⟩ := List.mem_map.mp he
      have hs := hl.plans a ha
      cases hc : aget s.cache a.1 with
      | none => rw [hc] at hs; cases hs
      | some v =>
        have := hl.cache (a.1, v) (ChunkStore.mem_of_aget hc)
        simp only [C05Spec.planDead, decide_eq_true_eq]
        omega
  have h8 : (dumpOf ks nameOf s).locators.any (staleSelf cfg.self (dumpOf ks nameOf s).chunks) = false :=
    List.any_eq_false.mpr fun x hx => by
      obtain ⟨c, l, hl', rfl⟩ := mem_listing hx
      simp only [staleSelf, Bool.and_eq_true, Bool.not_eq_true', not_and, Bool.not_eq_false]
      intro hany
      obtain ⟨y, hy, hys⟩ := List.any_eq_true.mp hany
      obtain ⟨a, ha, rfl⟩ := List.mem_map.mp hy
      obtain ⟨r, hr⟩ := hl.self c l hl' ⟨a, ha, by simpa using hys⟩
      exact List.any_eq_true.mpr ⟨(c, r.expires), List.mem_map.mpr ⟨(c, r), hr, rfl⟩, by simp⟩
  simp only [judgeDump, h1, h2, h3, h4, h5, h6, h7, h8, Bool.false_eq_true, if_false]

theorem judgeAudit_of_inv {cfg : Cfg} {s : State} (h : InvAt cfg s.now s) (ks : List String) :
    judgeAudit (audit cfg ks s) = none := by
  obtain ⟨_, hd, hl⟩ := h
  have hloc : ∀ x ∈ ks.eraseDups.filterMap (fun c => (s.locs c).map fun l => (c, l)), s.locs x.1 = some x.2 :=
    fun x hx => by obtain ⟨c, l, hl, rfl⟩ := mem_listing hx; exact hl
  have e1 : (audit cfg ks s).expiredLocal = [] :=
    List.map_eq_nil_iff.mpr (List.filter_eq_nil_iff.mpr fun e he => Bool.eq_false_iff.mp (cmp_eq_false (hd.recs e he)))
  have e2 : (audit cfg ks s).expiredLocators = [] :=
    List.map_eq_nil_iff.mpr (List.filter_eq_nil_iff.mpr fun x hx =>
      Bool.eq_false_iff.mp (cmp_eq_false (hd.locs x.1 x.2 (hloc x hx)).1))
  have e3 : (audit cfg ks s).expiredContacts = [] :=
    List.flatMap_eq_nil_iff.mpr fun x hx => List.map_eq_nil_iff.mpr (List.filter_eq_nil_iff.mpr fun y hy =>
      Bool.eq_false_iff.mp (cmp_eq_false ((hd.locs x.1 x.2 (hloc x hx)).2 y hy)))
  have e4 : (audit cfg ks s).orphans = [] := by
    refine List.map_eq_nil_iff.mpr (List.filter_eq_nil_iff.mpr fun x hx => ?_)
    simp only [Bool.and_eq_true, Bool.not_eq_true', not_and, Bool.not_eq_false]
    intro hany
    obtain ⟨y, hy, hys⟩ := List.any_eq_true.mp hany
    obtain ⟨r, hr⟩ := hl.self x.1 x.2 (hloc x hx) ⟨y, hy, by simpa using hys⟩
    exact List.contains_iff_mem.mpr (List.mem_map.mpr ⟨(x.1, r), hr, rfl⟩)
  simp [judgeAudit, e1, e2, e3, e4]
end EphVerif.C05L
