/-
Helper lemmas for C19 (proof-of-work acceptance): the arithmetic of `lz`, the four leading-zero
counters of the code against it, and unambiguous parsing of the fixed-width / length-prefixed
digest preimages.  Core Lean only.
-/
import EphVerif.Model.Pow
import EphVerif.Spec.Pow

namespace EphVerif.C19L
open EphVerif.Pow EphVerif.Spec.Pow

theorem foldl_beVal (bs : List UInt8) (acc : Nat) :
    bs.foldl (fun acc b => acc * 256 + b.toNat) acc = acc * 256 ^ bs.length + beVal bs := by
  induction bs generalizing acc with
  | nil => simp [beVal]
  | cons b bs ih =>
    simp only [List.foldl_cons, List.length_cons, beVal]
    rw [ih, ih (0 * 256 + b.toNat)]
    simp only [Nat.zero_mul, Nat.zero_add, Nat.pow_succ]
    rw [Nat.add_mul, Nat.mul_assoc, Nat.mul_comm 256, Nat.add_assoc]

theorem beVal_nil : beVal [] = 0 := rfl

theorem beVal_cons (b : UInt8) (bs : List UInt8) : beVal (b :: bs) = b.toNat * 256 ^ bs.length + beVal bs := by
  simpa [beVal] using foldl_beVal bs (0 * 256 + b.toNat)

theorem beVal_lt (bs : List UInt8) : beVal bs < 256 ^ bs.length := by
  induction bs with
  | nil => exact Nat.one_pos
  | cons b bs ih =>
    have := Nat.mul_le_mul_right (256 ^ bs.length) (b.toNat_lt : b.toNat + 1 ≤ 256)
    rw [Nat.succ_mul] at this
    rw [beVal_cons, List.length_cons, Nat.pow_succ, Nat.mul_comm _ 256]
    omega

theorem bitLength_le_iff (n k : Nat) : bitLength n ≤ k ↔ n < 2 ^ k := by
  unfold bitLength
  split
  · next h => simp [h, Nat.two_pow_pos]
  · next h => exact Nat.log2_lt h

theorem bitLength_pos {n : Nat} (h : n ≠ 0) : 0 < bitLength n := by
  simp [bitLength, h]

theorem bitLength_div_pow_le_iff (x j k : Nat) : bitLength (x / 2 ^ j) ≤ k ↔ bitLength x ≤ k + j := by
  rw [bitLength_le_iff, bitLength_le_iff, Nat.pow_add, Nat.div_lt_iff_lt_mul (Nat.two_pow_pos j)]

theorem bitLength_div_pow (x j : Nat) (h : x / 2 ^ j ≠ 0) : bitLength x = bitLength (x / 2 ^ j) + j := by
  have h1 := (bitLength_div_pow_le_iff x j (bitLength (x / 2 ^ j))).mp (Nat.le_refl _)
  have h2 := bitLength_div_pow_le_iff x j (bitLength (x / 2 ^ j) - 1)
  have := bitLength_pos h
  omega

theorem pow256 (L : Nat) : 256 ^ L = 2 ^ (8 * L) := by
  rw [Nat.pow_mul]

theorem bitLength_beVal_le (bs : List UInt8) : bitLength (beVal bs) ≤ 8 * bs.length := by
  rw [bitLength_le_iff, ← pow256]; exact beVal_lt bs

theorem lz_nil : lz [] = 0 := rfl

theorem lz_cons_zero (bs : List UInt8) : lz (0 :: bs) = 8 + lz bs := by
  have := bitLength_beVal_le bs
  have : beVal (0 :: bs) = beVal bs := by simp [beVal_cons]
  rw [lz, lz, this, List.length_cons]
  omega

theorem toNat_ne_zero {b : UInt8} (hb : b ≠ 0) : b.toNat ≠ 0 :=
  fun h => hb (UInt8.toNat_inj.mp h)

theorem lz_cons_nonzero (b : UInt8) (bs : List UInt8) (hb : b ≠ 0) :
    lz (b :: bs) = 8 - bitLength b.toNat := by
  have hdiv : beVal (b :: bs) / 2 ^ (8 * bs.length) = b.toNat := by
    rw [beVal_cons, ← pow256, Nat.mul_comm, Nat.mul_add_div (Nat.pow_pos (by decide)),
      Nat.div_eq_of_lt (beVal_lt bs), Nat.add_zero]
  have h := bitLength_div_pow (beVal (b :: bs)) (8 * bs.length) (by rw [hdiv]; exact toNat_ne_zero hb)
  have : bitLength b.toNat ≤ 8 := (bitLength_le_iff _ 8).mpr b.toNat_lt
  rw [lz, h, hdiv, List.length_cons]
  omega

theorem scanBitsNode_eq (b : UInt8) (k t : Nat) :
    scanBitsNode b k t = t + (k - bitLength (b.toNat % 2 ^ k)) := by
  induction k generalizing t with
  | zero => simp [scanBitsNode, Nat.mod_one, bitLength]
  | succ k ih =>
    have hk := (bitLength_le_iff _ k).mpr (Nat.mod_lt b.toNat (Nat.two_pow_pos k))
    have hm := @Nat.mod_pow_succ b.toNat 2 k
    rw [scanBitsNode, Nat.and_one_is_mod, Nat.shiftRight_eq_div_pow, ih]
    rcases Nat.mod_two_eq_zero_or_one (b.toNat / 2 ^ k) with h | h <;> rw [h] at hm ⊢
    · rw [hm]; simp; omega
    · -- bit `k` is set: the low `k + 1` bits are a number of exactly `k + 1` bits
      have : ¬ bitLength (b.toNat % 2 ^ (k + 1)) ≤ k := by rw [bitLength_le_iff]; omega
      simp; omega

theorem scanBitsStore_eq_node (b : UInt8) (k t : Nat) : scanBitsStore b k t = scanBitsNode b k t := by
  induction k generalizing t with
  | zero => rfl
  | succ k ih => simp only [scanBitsStore, scanBitsNode, ih]

theorem scanBitsCli_eq_node (b : UInt8) (k t : Nat) : scanBitsCli b k t = scanBitsNode b k t := by
  induction k generalizing t with
  | zero => rfl
  | succ k ih => simp only [scanBitsCli, scanBitsNode, ih]

theorem scanBitsNode_byte (b : UInt8) (t : Nat) : scanBitsNode b 8 t = t + (8 - bitLength b.toNat) := by
  rw [scanBitsNode_eq, Nat.mod_eq_of_lt b.toNat_lt]

theorem clzNodeAux_eq (bs : List UInt8) (t : Nat) : clzNodeAux bs t = t + lz bs := by
  induction bs generalizing t with
  | nil => rfl
  | cons b bs ih =>
    rw [clzNodeAux]
    split
    · next h => rw [eq_of_beq h, ih, lz_cons_zero, Nat.add_assoc]
    · next h => rw [scanBitsNode_byte, lz_cons_nonzero b bs (by simpa using h)]

theorem clzStoreAux_eq (bs : List UInt8) (t : Nat) : clzStoreAux bs t = clzNodeAux bs t := by
  induction bs generalizing t with
  | nil => rfl
  | cons b bs ih =>
    simp only [clzStoreAux, clzNodeAux, ih, scanBitsStore_eq_node, scanBitsNode_byte, Nat.zero_add]

theorem clzCliAux_eq (bs : List UInt8) (t : Nat) : clzCliAux bs t = clzNodeAux bs t := by
  induction bs generalizing t with
  | nil => rfl
  | cons b bs ih => simp only [clzCliAux, clzNodeAux, ih, scanBitsCli_eq_node]

theorem clzNode_eq_lz (bs : List UInt8) : clzNode bs = lz bs := by
  rw [clzNode, clzNodeAux_eq, Nat.zero_add]

theorem clzStore_eq_lz (bs : List UInt8) : clzStore bs = lz bs := by
  rw [clzStore, clzStoreAux_eq, clzNodeAux_eq, Nat.zero_add]

theorem clzCli_eq_lz (bs : List UInt8) : clzCli bs = lz bs := by
  rw [clzCli, clzCliAux_eq, clzNodeAux_eq, Nat.zero_add]

theorem mask_table : ∀ n < 256, ∀ d < 8, 0 < d →
    ((UInt8.ofNat n &&& UInt8.ofNat (255 <<< (8 - d))) == 0) = decide (d ≤ 8 - bitLength n) := by
  decide +kernel

theorem meets_nil (d : Nat) : meetsDifficulty [] d = decide (d ≤ 0) := by
  unfold meetsDifficulty
  by_cases h0 : d = 0
  · simp [h0]
  · by_cases h8 : d / 8 = 0
    · have : d % 8 ≠ 0 := by omega
      simp [*]
    · have : 0 < d / 8 := by omega
      simp [*]

theorem meets_small (b : UInt8) (bs : List UInt8) (d : Nat) (h0 : 0 < d) (h8 : d < 8) :
    meetsDifficulty (b :: bs) d = ((b &&& UInt8.ofNat (255 <<< (8 - d))) == 0) := by
  have hd : d / 8 = 0 := by omega
  have hr : d % 8 = d := by omega
  have hne : d ≠ 0 := by omega
  simp [meetsDifficulty, hd, hr, hne]

theorem meets_big (b : UInt8) (bs : List UInt8) (d : Nat) :
    meetsDifficulty (b :: bs) (d + 8) = (b == 0 && meetsDifficulty bs d) := by
  have hd : (d + 8) / 8 = d / 8 + 1 := by omega
  have hr : (d + 8) % 8 = d % 8 := by omega
  unfold meetsDifficulty
  by_cases hb : b = 0 <;> by_cases h0 : d = 0 <;> simp [hd, hr, hb, h0]

theorem meets_eq (bs : List UInt8) (d : Nat) : meetsDifficulty bs d = decide (d ≤ lz bs) := by
  induction bs generalizing d with
  | nil => rw [meets_nil, lz_nil]
  | cons b bs ih =>
    rcases Nat.lt_or_ge d 8 with h8 | h8
    · by_cases h0 : d = 0
      · simp [h0, meetsDifficulty]
      · have := mask_table b.toNat b.toNat_lt d h8 (by omega)
        rw [UInt8.ofNat_toNat] at this
        rw [meets_small b bs d (by omega) h8, this]
        by_cases hb : b = 0
        · simp [hb, lz_cons_zero, bitLength]
          omega
        · rw [lz_cons_nonzero b bs hb]
    · obtain ⟨d', rfl⟩ := Nat.exists_eq_add_of_le' h8
      rw [meets_big, ih]
      by_cases hb : b = 0
      · simp [hb, lz_cons_zero]
        omega
      · have := bitLength_pos (toNat_ne_zero hb)
        simp [beq_false_of_ne hb, lz_cons_nonzero b bs hb]
        omega

@[simp] theorem beBytes_length (w v : Nat) : (beBytes w v).length = w := by
  induction w with
  | zero => rfl
  | succ w ih => simp [beBytes, ih]

theorem beVal_beBytes (w v : Nat) : beVal (beBytes w v) = v % 256 ^ w := by
  induction w with
  | zero => simp [beBytes, beVal, Nat.mod_one]
  | succ w ih =>
    rw [beBytes, beVal_cons, ih, beBytes_length, UInt8.toNat_ofNat', Nat.shiftRight_eq_div_pow, ← pow256]
    have h1 : (256 : Nat) ^ (w + 1) = 256 ^ w * 256 := Nat.pow_succ ..
    have h2 : (2 : Nat) ^ 8 = 256 := by decide
    rw [h1, h2, Nat.mod_mul, Nat.mul_comm (256 ^ w)]
    omega

theorem beBytes_inj {w a b : Nat} (ha : a < 256 ^ w) (hb : b < 256 ^ w) (h : beBytes w a = beBytes w b) :
    a = b := by
  have := congrArg beVal h
  rwa [beVal_beBytes, beVal_beBytes, Nat.mod_eq_of_lt ha, Nat.mod_eq_of_lt hb] at this

theorem be8_inj {a b : Nat} (ha : a < 2 ^ 64) (hb : b < 2 ^ 64) (h : be8 a = be8 b) : a = b :=
  beBytes_inj (w := 8) ha hb h

theorem be4_inj {a b : Nat} (ha : a < 2 ^ 32) (hb : b < 2 ^ 32) (h : be4 a = be4 b) : a = b :=
  beBytes_inj (w := 4) ha hb h

@[simp] theorem be8_length (v : Nat) : (be8 v).length = 8 := beBytes_length 8 v
@[simp] theorem be4_length (v : Nat) : (be4 v).length = 4 := beBytes_length 4 v

theorem u64OfInt_lt (i : Int) : u64OfInt i < 2 ^ 64 := by
  unfold u64OfInt; omega

theorem u64OfInt_inj {i j : Int} (hi : -9223372036854775808 ≤ i ∧ i < 9223372036854775808)
    (hj : -9223372036854775808 ≤ j ∧ j < 9223372036854775808) (h : u64OfInt i = u64OfInt j) : i = j := by
  unfold u64OfInt at h; omega

theorem be8_append_inj {a b : Nat} {r r' : List UInt8} (ha : a < 2 ^ 64) (hb : b < 2 ^ 64)
    (h : be8 a ++ r = be8 b ++ r') : a = b ∧ r = r' :=
  have h1 := List.append_inj h (by simp)
  ⟨be8_inj ha hb h1.1, h1.2⟩

theorem lp8_append_inj {x y r r' : List UInt8} (hx : x.length < 2 ^ 64) (hy : y.length < 2 ^ 64)
    (h : lp8 x ++ r = lp8 y ++ r') : x = y ∧ r = r' := by
  rw [lp8, lp8, List.append_assoc, List.append_assoc] at h
  obtain ⟨hl, h⟩ := be8_append_inj hx hy h
  exact List.append_inj h hl

theorem capTo_eq_min (d : Nat) : capTo 24 d = capped d := by
  unfold capTo capped; rw [Nat.min_def]; split <;> split <;> omega

theorem capTo_idem (c d : Nat) : capTo c (capTo c d) = capTo c d := by
  unfold capTo
  by_cases h : d > c <;> simp [h]

end EphVerif.C19L

namespace EphVerif.C19

/-- the validators' early exit for difficulty 0 is redundant -/
theorem zero_or_le (d n : Nat) : (if d == 0 then true else decide (d ≤ n)) = decide (d ≤ n) := by
  by_cases h : d = 0 <;> simp [h]

end EphVerif.C19
