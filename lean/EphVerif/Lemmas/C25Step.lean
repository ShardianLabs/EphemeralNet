/-
Helper lemmas for C25/C26: accounting of sessions and closed descriptors (`Acc`), and the theorem
about one event: `step` keeps `Inv` and `Acc` and relays only across established bridges.
-/
import EphVerif.Lemmas.C25Loop
namespace EphVerif.Relay
open EphVerif.Gen.C25

structure Acc (σ : State) : Prop where
  live : ∀ a, (σ.get a).isSome → a ∈ σ.used
  closed : ∀ a, a ∈ closedList σ ↔ a ∈ σ.used ∧ σ.get a = none
  nodup : (closedList σ).Nodup

theorem acc_init : Acc init :=
  ⟨fun a h => (by simp at h), fun a => (by simp [closedList, init]), List.nodup_nil⟩

theorem Acc.dead {σ : State} (hA : Acc σ) {a : Client} (h : a ∉ σ.used) : σ.get a = none :=
  Option.not_isSome_iff_eq_none.mp fun hs => h (hA.live a hs)

theorem Acc.close {σ σ' : State} (hA : Acc σ) (L : List Client) (hu : σ'.used = σ.used)
    (hc : closedList σ' = L ++ closedList σ) (hL : L.Nodup) (hl : ∀ a ∈ L, (σ.get a).isSome)
    (hd : ∀ a, σ'.get a = none ↔ σ.get a = none ∨ a ∈ L) : Acc σ' := by
  refine ⟨fun a ha => ?_, fun a => ?_, ?_⟩
  · rw [hu]
    refine hA.live a ?_
    cases h : σ.get a with
    | some _ => rfl
    | none => rw [(hd a).mpr (.inl h)] at ha; cases ha
  · rw [hc, hu, List.mem_append, hd, hA.closed]
    constructor
    · rintro (h | ⟨h1, h2⟩)
      · exact ⟨hA.live a (hl a h), .inr h⟩
      · exact ⟨h1, .inl h2⟩
    · rintro ⟨h1, h2 | h2⟩
      · exact .inr ⟨h1, h2⟩
      · exact .inl h2
  · rw [hc]
    refine List.nodup_append.mpr ⟨hL, hA.nodup, fun a ha b hb e => ?_⟩
    have := hl a ha
    rw [e, ((hA.closed b).mp hb).2] at this
    cases this

theorem Calm.acc {c : Client} {σ σ' : State} (h : Calm c σ σ') (hA : Acc σ) : Acc σ' :=
  hA.close [] h.used h.closed List.nodup_nil (fun _ h => by cases h) fun a => by
    have := h.dom a
    cases h1 : σ'.get a <;> cases h2 : σ.get a <;> simp_all

theorem acc_closeSession {σ : State} (c : Client) (hI : Inv σ) (hA : Acc σ) : Acc (closeSession σ c) := by
  cases hc : σ.get c with
  | none => rw [closeSession_of_dead hc]; exact hA
  | some s =>
    obtain ⟨-, hu, hg⟩ := closeSession_cases hI hc
    rcases hg with ⟨-, hg, ho, -⟩ | ⟨p, ps, -, hpc, hps, -, hg, ho, -⟩ | ⟨p, ps, -, hpc, hps, -, hg, ho, -⟩
    · refine hA.close [c] hu (closedList_of_out (new := [.closed c]) ho) (by simp)
        (fun a h => by simp_all) fun a => ?_
      rw [hg]; split <;> simp [*]
    · refine hA.close [c, p] hu (closedList_of_out (new := [.closed c, .closed p]) ho)
        (by simpa using hpc.symm) (fun a h => by simp at h; rcases h with rfl | rfl <;> simp [*]) fun a => ?_
      rw [hg]; split <;> simp_all
    · refine hA.close [c] hu (closedList_of_out (new := [.closed c]) ho) (by simp)
        (fun a h => by simp_all) fun a => ?_
      rw [hg]; split
      · simp [*]
      split
      · subst a; simp [hps, hpc]
      · simp [*]

theorem step_recv_bridged {σ : State} (hI : Inv σ) {c : Client} {s : Session} (hc : σ.get c = some s)
    (hst : s.state = .bridged) (data : Bytes) :
    ∃ p ps, s.partner = some p ∧ p ≠ c ∧ σ.get p = some ps ∧ ps.partner = some c ∧ ps.state = .bridged ∧
      step σ (.recv c data) = (σ.put p { ps with writeBuf := ps.writeBuf ++ data }).emit (.queued p (.relay c data)) := by
  obtain ⟨p, ps, hp, hne, hps, hpp, hpb⟩ := hI.partner_of hc (.inr hst)
  refine ⟨p, ps, hp, hne, hps, hpp, (hst ▸ hpb).of_bridged, ?_⟩
  simp [step, hc, hst, forwardToPartner, State.lock, hp, hps, queue, Item.bytes]

def Event.client : Event → Client
  | .accept c => c | .recv c _ => c | .eof c => c | .err c => c | .flush c _ => c

def NewOK (c : Client) (σ σ' : State) : Prop :=
  ∃ new, σ'.out = new ++ σ.out ∧ (∀ o ∈ new, ItemOK σ' c o) ∧
    (σ.stateOf c = some .bridged → ∀ it, .queued c it ∉ new)

theorem NewOK.of_out_eq {c : Client} {σ σ' : State} (h : σ'.out = σ.out) : NewOK c σ σ' :=
  ⟨[], h, by simp, by simp⟩

theorem newOK_closeSession {σ : State} (c : Client) (hI : Inv σ) : NewOK c σ (closeSession σ c) := by
  cases hc : σ.get c with
  | none => exact .of_out_eq (by rw [closeSession_of_dead hc])
  | some s =>
    obtain ⟨-, -, hg⟩ := closeSession_cases hI hc
    rcases hg with ⟨-, -, ho, -⟩ | ⟨p, -, -, -, -, -, -, ho, -⟩ | ⟨-, -, -, -, -, -, -, ho, -⟩
    · exact ⟨[.closed c], ho, by simp [ItemOK], by simp⟩
    · exact ⟨[.closed c, .closed p], ho, by simp [ItemOK], by simp⟩
    · exact ⟨[.closed c], ho, by simp [ItemOK], by simp⟩

theorem accept_ok {σ : State} {c : Client} (hu : c ∉ σ.used) (hI : Inv σ) (hA : Acc σ) :
    Inv { σ.put c {} with used := c :: σ.used } ∧ Acc { σ.put c {} with used := c :: σ.used } := by
  have hcn := hA.dead hu
  have hg : ∀ a, ({ σ.put c {} with used := c :: σ.used } : State).get a = if a = c then some {} else σ.get a :=
    fun a => get_put σ c a {}
  have gc := hg c; rw [if_pos rfl] at gc
  refine ⟨?_, fun a => ?_, fun a => ?_, hA.nodup⟩
  · refine hI.unpair (· = c) ⟨?_, ?_, ?_, rfl⟩ ?_
    · rintro a b rfl h; rw [(proj_of_dead hcn).1] at h; cases h
    · intro a ha; exact proj_congr (by rw [hg, if_neg ha])
    · intro k d h
      refine .inl ⟨h, ?_⟩
      rintro rfl
      have := hI.reg_alive h
      rw [hcn] at this; cases this
    · rintro a rfl; rw [partnerOf_of_get gc, stateOf_of_get gc]; simp
  · rw [hg]; split
    · intro _; subst a; exact List.mem_cons_self
    · exact fun h => List.mem_cons_of_mem _ (hA.live a h)
  · show a ∈ closedList σ ↔ _
    rw [hA.closed, hg, List.mem_cons]
    split
    · subst a; simp [hu]
    · simp [*]

theorem step_ok (σ : State) (ev : Event) (hI : Inv σ) (hA : Acc σ) :
    Inv (step σ ev) ∧ Acc (step σ ev) ∧ NewOK ev.client σ (step σ ev) := by
  cases ev with
  | accept c =>
    rw [step]
    split
    · exact ⟨hI, hA, .of_out_eq rfl⟩
    next hu => exact ⟨(accept_ok hu hI hA).1, (accept_ok hu hI hA).2, .of_out_eq rfl⟩
  | recv c data =>
    cases hc : σ.get c with
    | none => simp only [step, hc]; exact ⟨hI, hA, .of_out_eq rfl⟩
    | some s =>
      by_cases hst : s.state = .bridged
      · obtain ⟨p, ps, hp, hne, hps, hpp, hpb, heq⟩ := step_recv_bridged hI hc hst data
        have hq : step σ (.recv c data) = queue σ p (.relay c data) := by rw [heq, queue_of_get hps]; rfl
        rw [hq]
        have hout : (queue σ p (.relay c data)).out = [.queued p (.relay c data)] ++ σ.out := by
          rw [out_queue, hps]; rfl
        have hitem : ∀ o ∈ [Out.queued p (.relay c data)], ItemOK (queue σ p (.relay c data)) c o := by
          intro o ho
          rw [List.mem_singleton] at ho; subst ho
          refine .inr ⟨?_, ?_, ?_, fun _ _ h => by cases h; rfl⟩
          · rw [stateOf_queue, stateOf_of_get hps, hpb]
          · rw [partnerOf_queue, partnerOf_of_get hps, hpp]
          · rw [stateOf_queue, stateOf_of_get hc, hst]
        have hcalm : Calm c σ (queue σ p (.relay c data)) :=
          ⟨by simp, by simp, closedList_eq hout (by simp [Out.closedOf]), ⟨_, hout, hitem⟩⟩
        exact ⟨inv_queue _ _ hI, hcalm.acc hA, _, hout, hitem, by simp [Event.client, hne.symm]⟩
      · simp only [step, hc, hst, if_false]
        obtain ⟨hI', hcalm⟩ := processProtocol_ok (s.readBuf.length + data.length + 1)
          (σ.put c { s with readBuf := s.readBuf ++ data }) c { s with readBuf := s.readBuf ++ data }
          (hI.put hc _ rfl rfl rfl) (by simp) (by simp) (fun e => absurd e hst)
        have hcalm' := hcalm.after_put hc _
        obtain ⟨new, ho, hok⟩ := hcalm'.out
        exact ⟨hI', hcalm'.acc hA, new, ho, hok, fun h => by simp [Event.client, stateOf_of_get hc, hst] at h⟩
  | eof c => exact ⟨inv_closeSession c hI, acc_closeSession c hI hA, newOK_closeSession c hI⟩
  | err c => exact ⟨inv_closeSession c hI, acc_closeSession c hI hA, newOK_closeSession c hI⟩
  | flush c n =>
    cases hc : σ.get c with
    | none => simp only [step, hc]; exact ⟨hI, hA, .of_out_eq rfl⟩
    | some s =>
      simp only [step, hc]
      have hI' : Inv ((σ.put c { s with writeBuf := s.writeBuf.drop n }).emit (.sent c (s.writeBuf.take n))) :=
        (hI.put hc { s with writeBuf := s.writeBuf.drop n } rfl rfl rfl).congr (fun _ => ⟨rfl, rfl, rfl⟩) (fun _ _ h => h) rfl
      have hok : ∀ o ∈ [Out.sent c (s.writeBuf.take n)], ItemOK ((σ.put c { s with writeBuf := s.writeBuf.drop n }).emit
          (.sent c (s.writeBuf.take n))) c o := by simp [ItemOK]
      have hcalm : Calm c σ ((σ.put c { s with writeBuf := s.writeBuf.drop n }).emit (.sent c (s.writeBuf.take n))) := by
        refine ⟨fun a => ?_, rfl, closedList_eq (new := [.sent c (s.writeBuf.take n)]) rfl (by simp [Out.closedOf]), ⟨_, rfl, hok⟩⟩
        rw [get_emit, get_put]; split <;> simp [*]
      exact ⟨hI', hcalm.acc hA, _, rfl, hok, by simp⟩

theorem run_cons (σ : State) (ev : Event) (evs : List Event) : run σ (ev :: evs) = run (step σ ev) evs := rfl

theorem run_invariant {P : State → Prop} (hstep : ∀ σ ev, P σ → P (step σ ev)) (evs : List Event) :
    ∀ σ, P σ → P (run σ evs) := by
  induction evs with
  | nil => exact fun _ h => h
  | cons ev evs ih => exact fun σ h => ih _ (hstep σ ev h)

theorem run_ok (evs : List Event) : Inv (run init evs) ∧ Acc (run init evs) :=
  run_invariant (P := fun σ => Inv σ ∧ Acc σ)
    (fun σ ev h => let ⟨hI, hA, _⟩ := step_ok σ ev h.1 h.2; ⟨hI, hA⟩) evs init ⟨inv_init, acc_init⟩

end EphVerif.Relay
