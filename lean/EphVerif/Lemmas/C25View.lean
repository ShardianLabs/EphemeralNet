/-
Helper lemmas for C25/C26: the observer's view of a model state (`viewOf`, `resourcesOf`) and of one
step (`obsOf`), i.e. the arguments at which the specification's predicates (Spec/Relay.lean) are proved.
-/
import EphVerif.Lemmas.C25Step
import EphVerif.Spec.Relay
namespace EphVerif.Relay
open EphVerif.RelaySpec

def peerOf (c : Client) (s : Session) : Peer :=
  { client := c, bridged := decide (s.state = .bridged), partner := s.partner }

def viewOf (σ : State) : View := σ.used.filterMap fun c => (σ.get c).map (peerOf c)

theorem mem_viewOf {σ : State} {a : Peer} :
    a ∈ viewOf σ ↔ ∃ c s, c ∈ σ.used ∧ σ.get c = some s ∧ a = peerOf c s := by
  simp only [viewOf, List.mem_filterMap]
  constructor
  · rintro ⟨c, hc, h⟩
    cases hg : σ.get c with
    | none => simp [hg] at h
    | some s => exact ⟨c, s, hc, hg, by simpa [hg] using h.symm⟩
  · rintro ⟨c, s, hc, hg, rfl⟩
    exact ⟨c, hc, by simp [hg]⟩

theorem find_filterMap_peer (σ : State) (l : List Client) (c : Client) :
    (l.filterMap fun d => (σ.get d).map (peerOf d)).find? (fun p => p.client == c) =
      if c ∈ l then (σ.get c).map (peerOf c) else none := by
  induction l with
  | nil => rfl
  | cons d l ih =>
    rw [List.filterMap_cons]
    by_cases e : d = c
    · subst e
      cases hg : σ.get d with
      | none => simp [ih, hg]
      | some s => simp [peerOf]
    · have : c ∈ d :: l ↔ c ∈ l := by simp [Ne.symm e]
      simp only [this]
      cases σ.get d with
      | none => exact ih
      | some s => rw [Option.map_some, List.find?_cons_of_neg (by simpa [peerOf] using e)]; exact ih

theorem peer_viewOf {σ : State} (hA : Acc σ) (c : Client) : (viewOf σ).peer c = (σ.get c).map (peerOf c) := by
  unfold View.peer viewOf
  rw [find_filterMap_peer]
  split
  · rfl
  next h => rw [hA.dead h]; rfl

theorem partnerOf_viewOf {σ : State} (hA : Acc σ) (c : Client) : (viewOf σ).partnerOf c = σ.partnerOf c := by
  unfold View.partnerOf State.partnerOf
  rw [peer_viewOf hA]
  cases σ.get c <;> simp [peerOf]

theorem isBridged_viewOf {σ : State} (hA : Acc σ) (c : Client) :
    (viewOf σ).isBridged c = true ↔ σ.stateOf c = some .bridged := by
  unfold View.isBridged State.stateOf
  rw [peer_viewOf hA]
  cases σ.get c <;> simp [peerOf]

theorem bridged_of_view {σ : State} (hA : Acc σ) {c : Client} (h : (viewOf σ).isBridged c = true) :
    ∃ s, σ.get c = some s ∧ s.state = .bridged := by
  rw [isBridged_viewOf hA, State.stateOf] at h
  cases hc : σ.get c with
  | none => rw [hc] at h; cases h
  | some s => rw [hc] at h; exact ⟨s, rfl, Option.some.inj h⟩

def Out.queuedOf : Out → Option (Nat × Bytes)
  | .queued d it => some (d, it.bytes)
  | _ => none

def obsOf (new : List Out) : Obs Bytes :=
  { rx := new.reverse.filterMap Out.queuedOf, closed := new.reverse.filterMap Out.closedOf }

def newOuts (σ σ' : State) : List Out := σ'.out.take (σ'.out.length - σ.out.length)

theorem newOuts_eq {σ σ' : State} {new : List Out} (h : σ'.out = new ++ σ.out) : newOuts σ σ' = new := by
  simp [newOuts, h]

def resourcesOf (σ : State) : Resources :=
  { sessions := σ.sessions.map (·.1), registrations := σ.registered.map fun e => if (σ.get e.2).isSome then some e.2 else none,
    fds := σ.sessions.length }

end EphVerif.Relay
