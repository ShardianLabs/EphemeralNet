/-
SystemControl — bridges between the control-plane model (C27/C28/C29), the models of C19 (store proof of work) and C02
(the STORE TTL window generated from the source), and the CLI `store` request.  Nothing of those properties is re-proved:
C19's `StoreFields` is the `work` record of `storeAdmitted`; C02's `control_store_ttl` / `control_store_ttl_rejected` are
C28's `secondsOfU64` / `ttlOutOfRange`.
-/
import EphVerif.Proofs.C27
import EphVerif.Proofs.C28
import EphVerif.Proofs.C29
import EphVerif.Proofs.C19
import EphVerif.Proofs.C02

namespace EphVerif.System.Control
open EphVerif EphVerif.Control

/-- The bytes of a literal from its characters.  `rw [ascii_ofList]` turns `ascii "…"` into a `List.map` over the
    characters (a literal unifies with `String.ofList _`); the kernel evaluates that in linear time, whereas
    `String.toList` of a literal encodes and decodes UTF-8 with indexed reads, quadratic in the length. -/
theorem ascii_ofList (l : List Char) : ascii (String.ofList l) = l.map fun c => UInt8.ofNat c.toNat := by
  rw [ascii, String.toList_ofList]

theorem secondsOfU64_eq {n : Nat} (h : n < 18446744073709551616) : secondsOfU64 n = Gen.C02.control_store_ttl n := by
  unfold secondsOfU64 Gen.C02.control_store_ttl Gen.C02.toInt64
  rw [Nat.mod_eq_of_lt h]
  split <;> simp

theorem ttlOutOfRange_eq (cfg : Config) (ttl : Int) :
    ttlOutOfRange cfg ttl = Gen.C02.control_store_ttl_rejected ttl cfg.minTtl cfg.maxTtl := by
  unfold ttlOutOfRange Gen.C02.control_store_ttl_rejected cmpGt
  have h1 : Gen.C28.ttlLowStrict = 1 := by decide
  have h2 : Gen.C28.ttlHighStrict = 1 := by decide
  simp only [h1, h2, ↓reduceIte]
  by_cases a : ttl < cfg.minTtl <;> by_cases b : ttl > cfg.maxTtl <;> simp [a, b]

theorem ttlOutOfRange_eq_false (cfg : Config) (ttl : Int) :
    ttlOutOfRange cfg ttl = false ↔ cfg.minTtl ≤ ttl ∧ ttl ≤ cfg.maxTtl := by
  rw [ttlOutOfRange_eq]
  unfold Gen.C02.control_store_ttl_rejected
  simp only [decide_eq_false_iff_not, not_or]
  omega

def agreesWith (cfg : Config) (c : Gen.C02.Cfg) : Prop :=
  cfg.minTtl = (Ttl.effective c).min_manifest_ttl ∧ cfg.maxTtl = (Ttl.effective c).max_manifest_ttl ∧
    cfg.defaultTtl = (Ttl.effective c).default_chunk_ttl

theorem ttl_decision_eq {cfg : Config} {c : Gen.C02.Cfg} (hc : agreesWith cfg c) {n : Nat} (h : n < 18446744073709551616) :
    (if ttlOutOfRange cfg (secondsOfU64 n) then none else some (secondsOfU64 n)) = Ttl.controlStore c n := by
  rw [Ttl.controlStore, ttlOutOfRange_eq, secondsOfU64_eq h, hc.1, hc.2.1]

/-- the difficulty the CLI solves for: STORE_POW as reported by DEFAULTS, capped at 24 -/
def cliDifficulty (daemon : Nat) : Nat := Pow.capTo Gen.C19.kMaxStorePowDifficulty daemon

/-- a nonce valid at the capped difficulty is valid at the configured one (the validator caps itself) -/
theorem storePowValid_capped (sha : Bytes → Bytes) {s : Pow.StoreFields} {n d : Nat}
    (h : Pow.storePowValid sha s n (cliDifficulty d) = true) : Pow.storePowValid sha s n d = true := by
  unfold Pow.storePowValid cliDifficulty at *
  by_cases h0 : d = 0
  · simp only [h0, beq_self_eq_true, ↓reduceIte]
  · have hc : Pow.capTo Gen.C19.kMaxStorePowDifficulty d ≠ 0 := by
      have : 0 < Gen.C19.kMaxStorePowDifficulty := by decide
      unfold Pow.capTo
      split <;> omega
    simp only [beq_iff_eq, hc, h0, ↓reduceIte, C19L.capTo_idem] at h ⊢
    exact h

/-- what `eph store <path> [--ttl n]` sends (src/main.cpp, `command == "store"`) -/
structure CliStore where
  /-- `input_path.string()`: any bytes -/
  path : Bytes
  payload : Bytes
  /-- `--ttl` in seconds, if given -/
  ttl : Option Nat
  /-- `--control-token`, if given -/
  token : Option Bytes

/-- the `StoreWorkInput` the CLI hands to `compute_store_pow` -/
def cliWork (sha : Bytes → Bytes) (c : CliStore) : Pow.StoreFields :=
  { chunkId := sha c.payload, payloadSize := c.payload.length, filenameHint := (Pow.cliHint c.path).getD [] }

/-- the request as `parse_request` hands it to the handlers, described by its lookups (so: for every
    order in which the client's `unordered_map` emits PATH / TTL / STORE-POW) -/
structure IsCliStore (c : CliStore) (nonce : Nat) (req : Request) : Prop where
  command : getField req.fields (ascii "COMMAND") = some (ascii "STORE")
  token : getField req.fields (ascii "TOKEN") = c.token
  /-- the PATH value as received: what the line reader makes of the CR/LF-stripped path -/
  path : getField req.fields (ascii "PATH") = some (Pow.wireValue (Pow.cliWirePath c.path))
  ttl : getField req.fields (ascii "TTL") = c.ttl.map toDec
  pow : getField req.fields (ascii "STORE-POW") = some (toDec nonce)
  header : req.payloadHeaderPresent = true
  payload : req.payload = c.payload

def optField (k : Bytes) : Option Bytes → Fields
  | some v => [(k, v)]
  | none => []

theorem forall_mem_optField {P : Bytes × Bytes → Prop} (k : Bytes) (o : Option Bytes) :
    (∀ p ∈ optField k o, P p) ↔ ∀ v, o = some v → P (k, v) := by
  cases o <;> simp [optField]

theorem keys_optField_sublist (k : Bytes) (o : Option Bytes) : ((optField k o).map (·.1)).Sublist [k] := by
  cases o
  · exact List.nil_sublist _
  · exact List.Sublist.refl _

/-- the header list `eph store` + `ControlClient::send` produce -/
def cliStoreHeaders (c : CliStore) (nonce : Nat) : Fields :=
  [(ascii "COMMAND", ascii "STORE")] ++ optField (ascii "TOKEN") c.token ++
    [(ascii "PATH", Pow.cliWirePath c.path)] ++ optField (ascii "TTL") (c.ttl.map toDec) ++
    [(ascii "STORE-POW", toDec nonce)]

/-- the request those headers, PAYLOAD-LENGTH and the payload are parsed into: one concrete emission order -/
def cliStoreRequest (c : CliStore) (nonce : Nat) : Request :=
  { fields := cliStoreHeaders c nonce ++ [(ascii "PAYLOAD-LENGTH", toDec c.payload.length)],
    payload := c.payload, payloadHeaderPresent := true }

theorem getField_nil (key : Bytes) : getField [] key = none := rfl

theorem getField_cons (k v key : Bytes) (fs : Fields) :
    getField ((k, v) :: fs) key = if k = key then some v else getField fs key := by
  unfold getField
  by_cases h : k = key <;> simp [h]

theorem getField_append (a b : Fields) (key : Bytes) : getField (a ++ b) key = (getField a key).or (getField b key) := by
  induction a with
  | nil => rfl
  | cons p a ih => rw [List.cons_append, getField_cons, getField_cons, ih]; split <;> rfl

theorem getField_optField (k key : Bytes) (o : Option Bytes) :
    getField (optField k o) key = if k = key then o else none := by
  cases o
  · exact (ite_self none).symm
  · exact getField_cons ..

theorem cliWirePath_clean (path : Bytes) : ∀ b ∈ Pow.cliWirePath path, b ≠ 10 ∧ b ≠ 13 := by
  intro b hb
  simp only [Pow.cliWirePath, List.mem_filter, Bool.and_eq_true, bne_iff_ne, ne_eq] at hb
  exact hb.2

theorem cliStoreRequest_spec (c : CliStore) (nonce : Nat) : IsCliStore c nonce (cliStoreRequest c nonce) := by
  -- each lookup walks the list; that two of the six literal keys differ is settled by `decide`
  constructor <;>
    simp (decide := true) [cliStoreRequest, cliStoreHeaders, getField_append, getField_optField, getField_cons, getField_nil,
      C19.wire_identity _ (cliWirePath_clean c.path)]

def TtlOk (cfg : Config) : Option Nat → Prop
  | some n => cfg.minTtl ≤ (n : Int) ∧ (n : Int) ≤ cfg.maxTtl
  | none => cfg.minTtl ≤ cfg.defaultTtl ∧ cfg.defaultTtl ≤ cfg.maxTtl

def ttlOf (cfg : Config) : Option Nat → Int
  | some n => n
  | none => cfg.defaultTtl

theorem ttlOk_iff (cfg : Config) (o : Option Nat) :
    TtlOk cfg o ↔ cfg.minTtl ≤ ttlOf cfg o ∧ ttlOf cfg o ≤ cfg.maxTtl := by
  cases o <;> rfl

section
variable {ν : Type} (sha : Bytes → Bytes) (ops : NodeOps ν) (cfg : Config)

def afterStore (now : Int) (addr : Bytes) (st : ServerState ν) (payload : Bytes) (ttl : Int) (hint : Option Bytes) : ServerState ν :=
  { st with
    storeHist := setHist st.storeHist (rateIdentity cfg addr) (allowStore now (st.storeHist (rateIdentity cfg addr))).2,
    powFailures := setHist st.powFailures (rateIdentity cfg addr) [],
    node := ops.store st.node payload ttl hint }

/-- the token gate lets the configured token through (C27's `token_compare_exact`) -/
theorem checkToken_passes {fields : Fields} (h : getField fields (ascii "TOKEN") = cfg.token) : checkToken cfg fields = .ok := by
  unfold checkToken checkToken.getLast
  cases ht : cfg.token with
  | none => rfl
  | some t => simp only [h, ht, (C27.token_compare_exact t t).mpr rfl, ↓reduceIte]

/-- a `--ttl` inside a window of `int64` bounds survives the `uint64 → int64` reinterpretation -/
theorem requestTtl_cli {req : Request} {o : Option Nat} (h : getField req.fields (ascii "TTL") = o.map toDec)
    (httl : TtlOk cfg o) (hmax : cfg.maxTtl < 9223372036854775808) :
    requestTtl cfg req = some (ttlOf cfg o) := by
  unfold requestTtl
  rw [h]
  cases o with
  | none => rfl
  | some n =>
    have hn : n < 9223372036854775808 := by have := httl.2; omega
    simp only [Option.map_some, parseU64_toDec n (by omega), secondsOfU64, hn, ↓reduceIte, ttlOf]

theorem cli_store_admitted {σ : Type} {now : Int} {addr : Bytes} {st : ServerState ν} {c : CliStore} {req : Request}
    {init : Nat → σ} {next : σ → Nat × σ} {maxAttempts nonce : Nat}
    (hr : IsCliStore c nonce req)
    (htok : c.token = cfg.token)
    (hcap : c.payload.length ≤ cfg.cap)
    (httl : TtlOk cfg c.ttl) (hmax : cfg.maxTtl < 9223372036854775808)
    (hsolve : Pow.computeStorePow sha init next (cliWork sha c) (cliDifficulty cfg.powDifficulty) maxAttempts = some nonce)
    (hn64 : nonce < 18446744073709551616)
    (hrate : (allowStore now (st.storeHist (rateIdentity cfg addr))).1 = true) :
    handleRequest sha ops cfg now addr st req =
      (afterStore ops cfg now addr st c.payload (ttlOf cfg c.ttl) (Pow.cliHint c.path),
       { success := true, code := "OK_STORE", stored := some (c.payload, ttlOf cfg c.ttl, Pow.cliHint c.path) }) := by
  have hgate : checkToken cfg req.fields = .ok := checkToken_passes cfg (hr.token.trans htok)
  have hcap' : ¬ c.payload.length > cfg.cap := Nat.not_lt.mpr hcap
  have hwin := (ttlOutOfRange_eq_false cfg _).mpr ((ttlOk_iff cfg c.ttl).mp httl)
  -- C19: the daemon derives the hint the CLI hashed, and accepts the solver's nonce
  have hhint : (getField req.fields (ascii "PATH")).bind Pow.sanitizeFilenameHint = Pow.cliHint c.path := by
    rw [hr.path]
    exact C19.cli_daemon_hint_agree c.path
  have hvalid := storePowValid_capped sha (C19.solver_store sha init next _ _ _ _ hsolve)
  unfold cliWork at hvalid
  have n1 : ascii "STORE" ≠ ascii "STOP" := by decide
  have hup : toUpper (ascii "STORE") = ascii "STORE" := by decide
  simp only [handleRequest, hr.command, hup, n1, ↓reduceIte, handleStore, hgate, ne_eq, not_true_eq_false, hr.header,
    Bool.not_true, Bool.false_eq_true, hr.payload, hcap', requestTtl_cli cfg hr.ttl httl hmax, hwin, hrate,
    storeAdmitted, hhint, hr.pow, parseU64_toDec nonce hn64, hvalid, afterStore]
  split <;> rfl

end

end EphVerif.System.Control
