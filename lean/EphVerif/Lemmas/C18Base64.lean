import EphVerif.Model.Manifest

/-! Helper lemmas for C18: `base64_decode` never reads outside its input, whatever the table holds
    (nothing here depends on the generated alphabet). -/
namespace EphVerif.Manifest

theorem acc_invalidArg {α : Type} : (Res.invalidArg : Res α).Acceptable := trivial
theorem acc_ok {α : Type} (a : α) : (Res.ok a).Acceptable := trivial

theorem acceptable_iff {α : Type} {r : Res α} : r.Acceptable ↔ (∃ a, r = .ok a) ∨ r = .invalidArg := by
  cases r <;> simp [Res.Acceptable]

theorem acc_bind {α β : Type} {r : Res α} {f : α → Res β} (hr : r.Acceptable) (hf : ∀ a, (f a).Acceptable) :
    (r.bind f).Acceptable := by
  cases r with
  | ok a => exact hf a
  | invalidArg => exact acc_invalidArg
  | oob => exact hr.elim
  | ub => exact hr.elim
  | otherExc => exact hr.elim

theorem b64Quads_acceptable : ∀ (n : Nat) (s : Bytes), s.length = 4 * n → (b64Quads s).Acceptable
  | 0, s, h => by
    have : s = [] := List.eq_nil_of_length_eq_zero (by omega)
    subst this; exact acc_ok []
  | n + 1, s, h => by
    match s, h with
    | ca :: cb :: cc :: cd :: rest, h =>
      have ih := b64Quads_acceptable n rest (by simp at h; omega)
      simp only [b64Quads]
      split
      · exact acc_invalidArg
      · exact acc_bind ih fun _ => acc_ok _

theorem b64Decode_acceptable (s : Bytes) : (b64Decode s).Acceptable := by
  unfold b64Decode
  split
  · exact acc_invalidArg
  · rename_i h
    have : s.length % 4 = 0 := by simpa using h
    exact b64Quads_acceptable (s.length / 4) s (by omega)

end EphVerif.Manifest
