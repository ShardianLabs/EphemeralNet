/-
Helper lemmas for C24: the back-off arithmetic of `schedule_next_fetch_attempt` against the
property's "start at the initial back-off and double up to the maximum" (`C24Spec.delay`).
-/
import EphVerif.Model.Fetches
import EphVerif.Spec.Fetches

namespace EphVerif.Fetches

/-- (T) the exponent clamp in the working tree is the `8` of `2^8 = 256` in the specification -/
theorem expClamp_eq : expClamp = 8 := by decide

/-- (T) the doubling starts from factor 1 -/
theorem factorBase_eq : factorBase = 1 := by decide

theorem effBase_pos (cfg : Cfg) : 1 ≤ effBase cfg := by
  unfold effBase; split <;> omega

theorem mul_pow_clamp {B : Int} (hB : 1 ≤ B) (n : Nat) :
    B * ((2 ^ min n 8 : Nat) : Int) = min (B * ((2 ^ n : Nat) : Int)) (256 * B) := by
  rcases Nat.le_total n 8 with h | h
  · have := Nat.pow_le_pow_right (n := 2) (by decide) h
    have := Int.mul_le_mul_of_nonneg_left (show ((2 ^ n : Nat) : Int) ≤ 256 by omega) (show 0 ≤ B by omega)
    rw [Nat.min_eq_left h]
    omega
  · have := Nat.pow_le_pow_right (n := 2) (by decide) h
    have := Int.mul_le_mul_of_nonneg_left (show (256 : Int) ≤ ((2 ^ n : Nat) : Int) by omega) (show 0 ≤ B by omega)
    rw [Nat.min_eq_right h]
    omega

theorem backoff_eq_spec (cfg : Cfg) (k : Nat) (hk : 1 ≤ k) :
    backoffSeconds cfg k = C24Spec.delay (effBase cfg) cfg.maxBackoff k := by
  have hB := effBase_pos cfg
  -- `B ≤ B · 2^(k-1)`: the scaled delay is positive, so the code's fallback for a non-positive one is never taken
  have hscaled : effBase cfg * 1 ≤ effBase cfg * ((2 ^ (k - 1) : Nat) : Int) :=
    Int.mul_le_mul_of_nonneg_left (Int.ofNat_le.2 Nat.one_le_two_pow) (by omega)
  unfold backoffSeconds C24Spec.delay C24Spec.cap
  simp only [show k > 0 from hk, if_true, expClamp_eq, factorBase_eq, Nat.one_mul, mul_pow_clamp hB]
  omega

end EphVerif.Fetches
