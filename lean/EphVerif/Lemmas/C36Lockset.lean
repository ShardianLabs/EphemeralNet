/-
Helper lemmas for C36 (lockset discipline): every step is one thread executing one event, hence
the invariants of the interleaving semantics; membership characterisation of the checker;
execution of a run of acquisitions and of the canonical two-thread program; the checker evaluated
group by group; lock order.
-/
import EphVerif.Model.Lockset

namespace EphVerif.Lockset

theorem upd_same {α : Type} (g : Tid → α) (t : Tid) (v : α) : upd g t v t = v := if_pos rfl

theorem upd_other {α : Type} (g : Tid → α) {t u : Tid} (v : α) (h : u ≠ t) : upd g t v u = g u := if_neg h

theorem upd_upd {α : Type} (g : Tid → α) (t : Tid) (a b : α) : upd (upd g t a) t b = upd g t b := by
  funext u; simp only [upd]; split <;> rfl

theorem upd_self {α : Type} (g : Tid → α) (t : Tid) : upd g t (g t) = g := by
  funext u; simp only [upd]; split
  · next h => rw [h]
  · rfl

theorem mem_upd {g : Tid → List Lock} {t u : Tid} {v : List Lock} {l : Lock} (h : l ∈ upd g t v u) :
    l ∈ v ∨ l ∈ g u := by
  unfold upd at h
  split at h
  · exact .inl h
  · exact .inr h

theorem Reach.trans {a b c : State} (h1 : Reach a b) (h2 : Reach b c) : Reach a c := by
  induction h2 with
  | refl => exact h1
  | step _ hs ih => exact Reach.step ih hs

def Event.after : Event → List Lock → List Lock
  | .acq l, h => l :: h
  | .rel l, h => h.erase l
  | .access _ _, h => h

/-- the three rules of `Step` read as one: some thread executes its next event, and a lock it
    acquires was free -/
theorem Step.event {s s' : State} (hs : Step s s') :
    ∃ t e rest, s.prog t = e :: rest ∧ (∀ l, e = .acq l → ∀ u, l ∉ s.held u) ∧
      s' = ⟨upd s.prog t rest, upd s.held t (e.after (s.held t))⟩ := by
  cases hs with
  | acq hp hen => exact ⟨_, _, _, hp, fun _ h => Event.acq.inj h ▸ hen, rfl⟩
  | rel hp => exact ⟨_, _, _, hp, fun _ h => Event.noConfusion h, rfl⟩
  | @access t _ _ _ hp => exact ⟨t, _, _, hp, fun _ h => Event.noConfusion h, by rw [Event.after, upd_self]⟩

theorem Reach.thread_invariant {P : Tid → List Lock → List Event → Prop}
    (hP : ∀ {t h e r}, P t h (e :: r) → P t (e.after h) r) {s0 s : State}
    (h0 : ∀ t, P t (s0.held t) (s0.prog t)) (hr : Reach s0 s) : ∀ t, P t (s.held t) (s.prog t) := by
  induction hr with
  | refl => exact h0
  | step _ hs ih =>
    obtain ⟨t, e, rest, hp, -, rfl⟩ := hs.event
    intro u
    by_cases hu : u = t
    · subst hu
      simpa only [upd_same] using hP (hp ▸ ih u)
    · simpa only [upd_other _ _ hu] using ih u

theorem Follows.after {T : List Row} {role : Role} {h : List Lock} {e : Event} {r : List Event}
    (hf : Follows T role h (e :: r)) : Follows T role (e.after h) r := by
  cases e with
  | acq | rel => exact hf
  | access => exact hf.2

theorem Ordered.after {rank : Lock → Nat} {B : Nat} {h : List Lock} {e : Event} {r : List Event}
    (ho : Ordered rank B h (e :: r)) : Ordered rank B (e.after h) r := by
  cases e with
  | acq => exact ho.2.2
  | rel | access => exact ho

def Excl (s : State) : Prop := ∀ t u l, t ≠ u → l ∈ s.held t → l ∉ s.held u

theorem Excl.step {s s' : State} (he : Excl s) (hs : Step s s') : Excl s' := by
  obtain ⟨t, e, rest, -, hen, rfl⟩ := hs.event
  -- what the stepping thread holds afterwards, no other thread held before
  have key : ∀ l u, u ≠ t → l ∈ e.after (s.held t) → l ∉ s.held u := by
    intro l u hu hl
    cases e with
    | acq l' =>
      rcases List.mem_cons.mp hl with rfl | hl
      · exact hen _ rfl u
      · exact he t u l (Ne.symm hu) hl
    | rel l' => exact he t u l (Ne.symm hu) (List.mem_of_mem_erase hl)
    | access => exact he t u l (Ne.symm hu) hl
  intro t1 u1 l hne h1 h2
  by_cases ht : t1 = t <;> by_cases hu : u1 = t
  · exact hne (ht.trans hu.symm)
  · rw [ht] at h1
    simp only [upd_same, upd_other _ _ hu] at h1 h2
    exact key l u1 hu h1 h2
  · rw [hu] at h2
    simp only [upd_same, upd_other _ _ ht] at h1 h2
    exact key l t1 ht h2 h1
  · simp only [upd_other _ _ ht, upd_other _ _ hu] at h1 h2
    exact he t1 u1 l hne h1 h2

theorem Excl.reach {s0 s : State} (h0 : ∀ t, s0.held t = []) (hr : Reach s0 s) : Excl s := by
  induction hr with
  | refl => intro t u l _ h1 _; rw [h0 t] at h1; cases h1
  | step _ hs ih => exact ih.step hs

theorem mem_dedup {x : Viol} {l : List Viol} : x ∈ dedup l ↔ x ∈ l := by
  induction l with
  | nil => exact Iff.rfl
  | cons y ys ih =>
    simp only [dedup]
    split
    · next h =>
      have hy : y ∈ ys := List.contains_iff_mem.mp h
      rw [ih, List.mem_cons]
      exact ⟨Or.inr, fun hx => hx.elim (· ▸ hy) id⟩
    · rw [List.mem_cons, List.mem_cons, ih]

theorem mem_violationsOf {multi : List Role} {T : List Row} {a : Row} {v : Viol} :
    v ∈ violationsOf multi T a ↔
      ∃ b, b ∈ T ∧ conflict multi a b = true ∧ shareLock a b = false ∧ v = (a.field, normPair a.role b.role) := by
  simp only [violationsOf, List.mem_filterMap, Option.ite_none_right_eq_some, Option.some.injEq,
    Bool.and_eq_true, Bool.not_eq_true', and_assoc, eq_comm (b := v)]

theorem mem_violations {multi : List Role} {T : List Row} {v : Viol} :
    v ∈ violations multi T ↔
      ∃ a, a ∈ T ∧ ∃ b, b ∈ T ∧ conflict multi a b = true ∧ shareLock a b = false ∧
        v = (a.field, normPair a.role b.role) := by
  show v ∈ dedup (T.flatMap (violationsOf multi T)) ↔ _
  simp only [mem_dedup, List.mem_flatMap, mem_violationsOf]

theorem conflict_iff {multi : List Role} {a b : Row} :
    conflict multi a b = true ↔
      a.field = b.field ∧ (a.kind = Kind.W ∨ b.kind = Kind.W) ∧ (a.role ≠ b.role ∨ a.role ∈ multi) := by
  simp only [conflict, Bool.and_eq_true, Bool.or_eq_true, beq_iff_eq, bne_iff_ne, ne_eq,
    List.contains_iff_mem, and_assoc]

theorem shareLock_true {a b : Row} : shareLock a b = true ↔ ∃ l, l ∈ a.locks ∧ l ∈ b.locks := by
  simp only [shareLock, List.any_eq_true, List.contains_iff_mem]

theorem shareLock_false {a b : Row} (h : shareLock a b = false) : ∀ l, l ∈ a.locks → l ∉ b.locks :=
  fun l ha hb => Bool.false_ne_true (h ▸ shareLock_true.mpr ⟨l, ha, hb⟩)

theorem normPair_comm (a b : Role) : normPair a b = normPair b a := by
  unfold normPair
  rcases Nat.lt_trichotomy a b with h | rfl | h
  · rw [if_pos (Nat.le_of_lt h), if_neg (Nat.not_le_of_lt h)]
  · rfl
  · rw [if_neg (Nat.not_le_of_lt h), if_pos (Nat.le_of_lt h)]

theorem follows_acqs (T : List Row) (role : Role) (ls : List Lock) (h : List Lock) (rest : List Event) :
    Follows T role h (acqs ls ++ rest) ↔ Follows T role (ls.reverse ++ h) rest := by
  induction ls generalizing h with
  | nil => exact Iff.rfl
  | cons l ls ih =>
    rw [List.reverse_cons, List.append_assoc]
    exact ih (l :: h)

theorem follows_rowProg {T : List Row} {r : Row} (hr : r ∈ T) : Follows T r.role [] (rowProg r) :=
  (follows_acqs ..).mpr ⟨⟨r, hr, rfl, rfl, rfl, fun _ hl => List.mem_append_left _ (List.mem_reverse.mpr hl)⟩, trivial⟩

theorem run_acqs (ls : List Lock) (s : State) (t : Tid) (rest : List Event)
    (hp : s.prog t = acqs ls ++ rest) (hnd : ls.Nodup) (hfree : ∀ l, l ∈ ls → ∀ u, l ∉ s.held u) :
    Reach s ⟨upd s.prog t rest, upd s.held t (ls.reverse ++ s.held t)⟩ := by
  induction ls generalizing s with
  | nil =>
    rw [← show s.prog t = rest from hp, List.reverse_nil, List.nil_append, upd_self, upd_self]
    exact Reach.refl
  | cons l ls ih =>
    obtain ⟨hl, hnd'⟩ := List.nodup_cons.mp hnd
    have st : Step s ⟨upd s.prog t (acqs ls ++ rest), upd s.held t (l :: s.held t)⟩ :=
      Step.acq hp (hfree l (List.mem_cons_self ..))
    have := ih ⟨upd s.prog t (acqs ls ++ rest), upd s.held t (l :: s.held t)⟩ (upd_same ..) hnd'
      fun l' hl' u hm => by
        rcases mem_upd hm with h | h
        · rcases List.mem_cons.mp h with rfl | h
          · exact hl hl'
          · exact hfree l' (List.mem_cons_of_mem _ hl') t h
        · exact hfree l' (List.mem_cons_of_mem _ hl') u h
    simp only [upd_upd, upd_same] at this
    rw [List.reverse_cons, List.append_assoc]
    exact (Reach.step Reach.refl st).trans this

theorem pairRole_idle (a b : Row) (v : Tid) :
    a.role ≠ pairRole a b (v + 2) ∧ b.role ≠ pairRole a b (v + 2) := by
  show (a.role : Nat) ≠ a.role + b.role + (v + 2) ∧ (b.role : Nat) ≠ a.role + b.role + (v + 2)
  unfold Role
  omega

/-- two different threads of the canonical program have the same role only if the two rows have
    the same role (all idle threads have fresh, pairwise different roles) -/
theorem pairRole_eq (a b : Row) {t u : Tid} (hne : t ≠ u) (heq : pairRole a b t = pairRole a b u) :
    a.role = b.role ∧ pairRole a b t = a.role := by
  match t, u with
  | 0, 1 => exact ⟨heq, rfl⟩
  | 1, 0 => exact ⟨heq.symm, heq⟩
  | 0, 0 | 1, 1 => exact absurd rfl hne
  | 0, u + 2 => exact absurd heq (pairRole_idle a b u).1
  | 1, u + 2 => exact absurd heq (pairRole_idle a b u).2
  | t + 2, 0 => exact absurd heq.symm (pairRole_idle a b t).1
  | t + 2, 1 => exact absurd heq.symm (pairRole_idle a b t).2
  | t + 2, u + 2 => exact absurd (Nat.add_left_cancel heq) hne

theorem pairInit_admissible {multi : List Role} {T : List Row} {a b : Row} (ha : a ∈ T) (hb : b ∈ T)
    (hrole : a.role ≠ b.role ∨ a.role ∈ multi) : Admissible multi T (pairRole a b) (pairInit a b) := by
  refine ⟨fun _ => rfl, fun t => ?_, fun t u hne heq => ?_⟩
  · match t with
    | 0 => exact follows_rowProg ha
    | 1 => exact follows_rowProg hb
    | _ + 2 => exact trivial
  · obtain ⟨hab, ht⟩ := pairRole_eq a b hne heq
    exact ht ▸ hrole.resolve_left (absurd hab)

/-- the racy schedule of the canonical program: thread 0 takes its locks, then thread 1 takes its
    own, and both stand at their accesses -/
theorem pairInit_reach {a b : Row} (hna : a.locks.Nodup) (hnb : b.locks.Nodup) (hs : shareLock a b = false) :
    ∃ s, Reach (pairInit a b) s ∧ At s 0 a.field a.kind ∧ At s 1 b.field b.kind := by
  have r1 := run_acqs a.locks (pairInit a b) 0 [Event.access a.field a.kind] rfl hna
    fun _ _ _ hm => nomatch hm
  refine ⟨_, r1.trans (run_acqs b.locks _ 1 [Event.access b.field b.kind] rfl hnb fun l hl u hm => ?_),
    ⟨[], rfl⟩, ⟨[], rfl⟩⟩
  rcases mem_upd hm with h | h
  · rcases List.mem_append.mp h with h | h
    · exact shareLock_false hs l (List.mem_reverse.mp h) hl
    · cases h
  · cases h

theorem field_of_mem_groupRows {g : Group} {a : Row} (h : a ∈ groupRows g) : a.field = g.1 := by
  obtain ⟨r, _, rfl⟩ := List.mem_map.mp h
  rfl

theorem mem_flattenG {G : List Group} {a : Row} : a ∈ flattenG G ↔ ∃ g, g ∈ G ∧ a ∈ groupRows g :=
  List.mem_flatMap

theorem eq_of_key_eq {G : List Group} (hk : keysNodup G = true) :
    ∀ ⦃g1⦄, g1 ∈ G → ∀ ⦃g2⦄, g2 ∈ G → g1.1 = g2.1 → g1 = g2 :=
  have hnd := List.pairwise_map.mp (of_decide_eq_true hk : (G.map (·.1)).Nodup)
  List.Pairwise.forall_of_forall_of_flip (fun _ _ _ => rfl) (hnd.imp fun h e => absurd e h)
    (hnd.imp fun h e => absurd e.symm h)

/-- group-by-group evaluation finds exactly the triples of the flat checker: conflicting rows have
    the same location, hence lie in the same group -/
theorem mem_violationsG {multi : List Role} {G : List Group} (hk : keysNodup G = true) {v : Viol} :
    v ∈ violationsG multi G ↔ v ∈ violations multi (flattenG G) := by
  rw [mem_violations]
  unfold violationsG
  simp only [mem_dedup, List.mem_flatMap]
  constructor
  · rintro ⟨g, hg, a, ha, hv⟩
    obtain ⟨b, hb, hc, hs, rfl⟩ := mem_violationsOf.mp hv
    exact ⟨a, mem_flattenG.mpr ⟨g, hg, ha⟩, b, mem_flattenG.mpr ⟨g, hg, hb⟩, hc, hs, rfl⟩
  · rintro ⟨a, ha, b, hb, hc, hs, rfl⟩
    obtain ⟨g, hg, ha⟩ := mem_flattenG.mp ha
    obtain ⟨g', hg', hb⟩ := mem_flattenG.mp hb
    obtain rfl : g = g' := eq_of_key_eq hk hg hg' <| by
      rw [← field_of_mem_groupRows ha, ← field_of_mem_groupRows hb]
      exact (conflict_iff.mp hc).1
    exact ⟨g, hg, a, ha, mem_violationsOf.mpr ⟨b, hb, hc, hs, rfl⟩⟩

theorem violationsG_nil_iff {multi : List Role} {G : List Group} (hk : keysNodup G = true) :
    violationsG multi G = [] ↔ violations multi (flattenG G) = [] := by
  simp only [List.eq_nil_iff_forall_not_mem, mem_violationsG hk]

/-- keys in strictly increasing order (how the extractor emits the groups): a linear check -/
def keysIncreasing : List Group → Bool
  | g :: g' :: G => decide (g.1 < g'.1) && keysIncreasing (g' :: G)
  | _ => true

theorem keysNodup_of_increasing {G : List Group} (h : keysIncreasing G = true) : keysNodup G = true := by
  refine decide_eq_true (List.pairwise_map.mpr ?_)
  suffices hs : G.Pairwise (fun a b => a.1 < b.1) from hs.imp Nat.ne_of_lt
  induction G with
  | nil => exact .nil
  | cons g G ih =>
    cases G with
    | nil => exact List.pairwise_singleton ..
    | cons g' G =>
      simp only [keysIncreasing, Bool.and_eq_true, decide_eq_true_eq] at h
      have ih := ih h.2
      refine List.pairwise_cons.mpr ⟨fun x hx => ?_, ih⟩
      rcases List.mem_cons.mp hx with rfl | hx
      · exact h.1
      · exact Nat.lt_trans h.1 (List.rel_of_pairwise_cons ih hx)

/-- a thread blocked at an acquisition can always be traced to an enabled step: the holder of the
    awaited lock can step or awaits a lock of higher rank, and ranks stay below the bound -/
theorem blocked_progress {rank : Lock → Nat} {B : Nat} {s : State}
    (ho : ∀ t, Ordered rank B (s.held t) (s.prog t)) {t : Tid} {l : Lock} {rest : List Event}
    (hp : s.prog t = Event.acq l :: rest) : ∃ s', Step s s' := by
  induction hn : B - rank l using Nat.strongRecOn generalizing t l rest with
  | ind n ih =>
    by_cases hfree : ∀ u, l ∉ s.held u
    · exact ⟨_, Step.acq hp hfree⟩
    · obtain ⟨u, hu⟩ : ∃ u, l ∈ s.held u := Classical.not_forall_not.mp hfree
      have hou := ho u
      cases hpu : s.prog u with
      | nil =>
        rw [hpu] at hou
        rw [(hou : s.held u = [])] at hu
        cases hu
      | cons e rest' =>
        cases e with
        | rel l' => exact ⟨_, Step.rel hpu⟩
        | access f k => exact ⟨_, Step.access hpu⟩
        | acq l' =>
          rw [hpu] at hou
          have h1 : rank l < rank l' := hou.1 l hu
          have h2 : rank l' < B := hou.2.1
          exact ih (B - rank l') (by omega) hpu rfl

theorem getD_le_sum (ranks : List Nat) (l : Nat) : ranks.getD l 0 ≤ ranks.sum := by
  induction ranks generalizing l with
  | nil => exact Nat.le_refl 0
  | cons r rs ih =>
    cases l with
    | zero => simp only [List.getD_cons_zero, List.sum_cons]; omega
    | succ l =>
      have := ih l
      simp only [List.getD_cons_succ, List.sum_cons]
      omega

theorem rank_lt_of_edge {ranks : List Nat} {edges : List (Lock × Lock)}
    (hk : lockOrderAcyclic ranks edges = true) {a b : Lock} (he : (a, b) ∈ edges) :
    rankOf ranks a < rankOf ranks b :=
  of_decide_eq_true (List.all_eq_true.mp hk _ he)

theorem ordered_of_followsOrder {ranks : List Nat} {edges : List (Lock × Lock)}
    (hk : lockOrderAcyclic ranks edges = true) {h : List Lock} {prog : List Event}
    (hf : FollowsOrder edges h prog) : Ordered (rankOf ranks) (ranks.sum + 1) h prog := by
  induction prog generalizing h with
  | nil => exact hf
  | cons e rest ih =>
    cases e with
    | acq l =>
      exact ⟨fun x hx => rank_lt_of_edge hk (hf.1 x hx), Nat.lt_succ_of_le (getD_le_sum ranks l), ih hf.2⟩
    | rel l => exact ih hf
    | access f k => exact ih hf

theorem rank_lt_of_path {ranks : List Nat} {edges : List (Lock × Lock)}
    (hk : lockOrderAcyclic ranks edges = true) {a b : Lock} (hp : OrderPath edges a b) :
    rankOf ranks a < rankOf ranks b := by
  induction hp with
  | single he => exact rank_lt_of_edge hk he
  | cons he _ ih => exact Nat.lt_trans (rank_lt_of_edge hk he) ih

end EphVerif.Lockset
