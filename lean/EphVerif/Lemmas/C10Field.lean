/-
C10: the arithmetic of `gf_add` / `gf_mul` / `gf_div` on bytes is that of a field (core Lean only,
no table larger than 256 entries is inspected).  The multiplicative laws come through the log/exp
bijection (`Lemmas/C10Tables.lean`); distributivity from `exp[k] = x^k` (`exp_xtime`):
`gf_mul (exp[k]) b` is `k` applications of `xtime`, which is xor-linear.  `gfMul_eq_pmul`: the table
product is shift-and-add multiplication modulo x^8 + x^4 + x^3 + x^2 + 1 (`ShamirSpec.pmul`).
-/
import EphVerif.Lemmas.C10Tables

namespace EphVerif.C10L
open EphVerif.Shamir EphVerif.Gen.C10 EphVerif.ShamirSpec

theorem xor_lt {a b : Nat} (ha : a < 256) (hb : b < 256) : a ^^^ b < 256 :=
  Nat.xor_lt_two_pow (n := 8) ha hb

theorem xor_cancel (a b : Nat) : (a ^^^ b) ^^^ b = a := by
  rw [Nat.xor_assoc, Nat.xor_self, Nat.xor_zero]

theorem xor_eq_zero {a b : Nat} (h : a ^^^ b = 0) : a = b := by
  rw [← xor_cancel a b, h, Nat.zero_xor]

theorem gfMul_eq (a b : Nat) : gfMul a b = if a = 0 ∨ b = 0 then 0 else E ((L a + L b) % 255) := by
  simp only [gfMul, expAt_eq, logAt_eq, kMulMod_eq]

theorem gfMul_zero (a : Nat) : gfMul a 0 = 0 := by simp [gfMul]
theorem zero_gfMul (a : Nat) : gfMul 0 a = 0 := by simp [gfMul]

theorem gfMul_of_ne {a b : Nat} (ha : a ≠ 0) (hb : b ≠ 0) : gfMul a b = E ((L a + L b) % 255) := by
  rw [gfMul_eq, if_neg (by simp [ha, hb])]

theorem gfMul_comm (a b : Nat) : gfMul a b = gfMul b a := by
  simp only [gfMul_eq, Nat.add_comm (L a) (L b), Or.comm (a := a = 0)]

/-- `exp_facts` at an index reduced modulo 255, the form every table product has -/
theorem exp_mod (n : Nat) : E (n % 255) ≠ 0 ∧ E (n % 255) < 256 ∧ L (E (n % 255)) = n % 255 :=
  exp_facts _ (Nat.mod_lt _ (by decide))

theorem gfMul_lt (a b : Nat) : gfMul a b < 256 := by
  rw [gfMul_eq]
  split
  · decide
  · exact (exp_mod _).2.1

theorem gfMul_ne_zero {a b : Nat} (ha : a ≠ 0) (hb : b ≠ 0) : gfMul a b ≠ 0 :=
  gfMul_of_ne ha hb ▸ (exp_mod _).1

theorem gfMul_eq_zero {a b : Nat} (h : gfMul a b = 0) : a = 0 ∨ b = 0 :=
  Decidable.byContradiction fun hn => gfMul_ne_zero (fun ha => hn (.inl ha)) (fun hb => hn (.inr hb)) h

theorem log_gfMul {a b : Nat} (ha : a ≠ 0) (hb : b ≠ 0) : L (gfMul a b) = (L a + L b) % 255 :=
  gfMul_of_ne ha hb ▸ (exp_mod _).2.2

theorem gfMul_assoc (a b c : Nat) :
    gfMul (gfMul a b) c = gfMul a (gfMul b c) := by
  by_cases ha : a = 0
  · simp [ha, zero_gfMul]
  by_cases hb : b = 0
  · simp [hb, zero_gfMul, gfMul_zero]
  by_cases hc : c = 0
  · simp [hc, gfMul_zero]
  rw [gfMul_of_ne (gfMul_ne_zero ha hb) hc, gfMul_of_ne ha (gfMul_ne_zero hb hc), log_gfMul ha hb, log_gfMul hb hc]
  congr 1
  omega

theorem L_one : L 1 = 0 := exp_zero ▸ (exp_facts 0 (by decide)).2.2

theorem gfMul_one {a : Nat} (ha : a < 256) : gfMul a 1 = a := by
  by_cases ha0 : a = 0
  · simp [ha0, zero_gfMul]
  have h := log_facts a ha ha0
  rw [gfMul_of_ne ha0 (by decide), L_one, Nat.add_zero, Nat.mod_eq_of_lt h.1, h.2]

theorem one_gfMul {a : Nat} (ha : a < 256) : gfMul 1 a = a := by rw [gfMul_comm, gfMul_one ha]

/-- the multiplicative inverse that `gf_div` uses implicitly: `exp[(255 - log a) mod 255]` -/
def gfInv (a : Nat) : Nat := if a = 0 then 0 else E ((255 - L a) % 255)

theorem gfInv_zero : gfInv 0 = 0 := if_pos rfl

theorem gfInv_lt (a : Nat) : gfInv a < 256 := by
  unfold gfInv
  split
  · decide
  · exact (exp_mod _).2.1

theorem gfInv_ne_zero {a : Nat} (ha : a ≠ 0) : gfInv a ≠ 0 := by
  rw [gfInv, if_neg ha]
  exact (exp_mod _).1

theorem L_gfInv {a : Nat} (ha : a ≠ 0) : L (gfInv a) = (255 - L a) % 255 := by
  rw [gfInv, if_neg ha]
  exact (exp_mod _).2.2

theorem gfMul_gfInv {a : Nat} (ha : a < 256) (ha0 : a ≠ 0) : gfMul a (gfInv a) = 1 := by
  have h := (log_facts a ha ha0).1
  rw [gfMul_of_ne ha0 (gfInv_ne_zero ha0), L_gfInv ha0, show (L a + (255 - L a) % 255) % 255 = 0 by omega, exp_zero]

/-- the index `gf_div` computes with its signed remainder is the difference of the logarithms modulo 255 -/
theorem divIndex_eq {la lb : Nat} (ha : la < 255) (hb : lb < 255) :
    divIndex la lb = (la + (255 - lb) % 255) % 255 := by
  simp only [divIndex, kDivMod_eq, kDivAdd_eq]
  by_cases h : lb ≤ la
  · -- both sides are `la - lb`
    rw [if_pos h]; omega
  · -- `0 < lb - la < 255`: the remainder is `lb - la ≠ 0`, both sides are `255 - (lb - la)`
    rw [if_neg h, if_neg (by omega)]; omega

theorem gfDiv_eq {a b : Nat} (ha : a < 256) (hb : b < 256) (hb0 : b ≠ 0) :
    gfDiv a b = .ok (gfMul a (gfInv b)) := by
  by_cases ha0 : a = 0
  · simp [gfDiv, hb0, ha0, zero_gfMul]
  · rw [gfDiv, if_neg hb0, if_neg ha0, gfMul_of_ne ha0 (gfInv_ne_zero hb0), L_gfInv hb0, expAt_eq, logAt_eq, logAt_eq,
      divIndex_eq (log_facts a ha ha0).1 (log_facts b hb hb0).1]

theorem gfDiv_zero (a : Nat) : gfDiv a 0 = .invalidArgument := by simp [gfDiv]

theorem xtime_eq {a : Nat} (ha : a < 256) : xtime a = (a <<< 1) ^^^ ((a >>> 7) * 0x11D) := by
  have h7 : a >>> 7 = if a <<< 1 < 256 then 0 else 1 := by
    rw [Nat.shiftRight_eq_div_pow, Nat.shiftLeft_eq]
    split <;> omega
  rw [xtime, h7]
  split <;> simp

theorem xtime_xor {a b : Nat} (ha : a < 256) (hb : b < 256) : xtime (a ^^^ b) = xtime a ^^^ xtime b := by
  have hm : ∀ s, s < 2 → ∀ t, t < 2 → (s ^^^ t) * 0x11D = s * 0x11D ^^^ t * 0x11D := by decide
  have h7 : ∀ {a}, a < 256 → a >>> 7 < 2 := fun h => by rw [Nat.shiftRight_eq_div_pow]; omega
  rw [xtime_eq ha, xtime_eq hb, xtime_eq (xor_lt ha hb), Nat.shiftLeft_xor_distrib, Nat.shiftRight_xor_distrib,
    hm _ (h7 ha) _ (h7 hb)]
  ac_rfl

theorem xtime_lt : ∀ a, a < 256 → xtime a < 256 := by decide +kernel

theorem xtime_zero : xtime 0 = 0 := by decide

theorem xpow_succ' : ∀ k a, xpow (k + 1) a = xtime (xpow k a)
  | 0, _ => rfl
  | k + 1, a => xpow_succ' k (xtime a)

theorem xpow_lt {a : Nat} (ha : a < 256) : ∀ k, xpow k a < 256
  | 0 => ha
  | k + 1 => xpow_succ' k a ▸ xtime_lt _ (xpow_lt ha k)

theorem xpow_zero : ∀ k, xpow k 0 = 0
  | 0 => rfl
  | k + 1 => by rw [xpow, xtime_zero, xpow_zero k]

theorem xpow_xor {a b : Nat} (ha : a < 256) (hb : b < 256) : ∀ k, xpow k (a ^^^ b) = xpow k a ^^^ xpow k b
  | 0 => rfl
  | k + 1 => by simp only [xpow_succ', xpow_xor ha hb k, xtime_xor (xpow_lt ha k) (xpow_lt hb k)]

theorem gfMul_E (k : Nat) (hk : k < 255) {b : Nat} (hb : b < 256) : gfMul (E k) b = xpow k b := by
  by_cases hb0 : b = 0
  · rw [hb0, gfMul_zero, xpow_zero]
  have hE := fun k hk => (exp_facts k hk).1
  induction k with
  | zero => rw [exp_zero, one_gfMul hb]; rfl
  | succ k ih =>
    have hk' : k < 255 := by omega
    rw [xpow_succ', ← ih hk', gfMul_of_ne (hE _ hk) hb0, gfMul_of_ne (hE _ hk') hb0, (exp_facts _ hk).2.2,
      (exp_facts _ hk').2.2, exp_xtime _ (Nat.mod_lt _ (by decide))]
    congr 1
    omega

theorem gfMul_xor {a b c : Nat} (ha : a < 256) (hb : b < 256) (hc : c < 256) :
    gfMul a (b ^^^ c) = gfMul a b ^^^ gfMul a c := by
  by_cases ha0 : a = 0
  · simp [ha0, zero_gfMul]
  have h := log_facts a ha ha0
  rw [← h.2, gfMul_E _ h.1 (xor_lt hb hc), gfMul_E _ h.1 hb, gfMul_E _ h.1 hc, xpow_xor hb hc]

theorem xor_gfMul {a b c : Nat} (ha : a < 256) (hb : b < 256) (hc : c < 256) :
    gfMul (a ^^^ b) c = gfMul a c ^^^ gfMul b c := by
  rw [gfMul_comm, gfMul_xor hc ha hb, gfMul_comm c a, gfMul_comm c b]

def bitTerm (b i : Nat) : Nat := if b.testBit i then 2 ^ i else 0

theorem bitTerm_lt (b : Nat) {i : Nat} (hi : i < 8) : bitTerm b i < 256 := by
  unfold bitTerm
  split
  · exact Nat.pow_lt_pow_right (by decide) hi
  · decide

theorem byte_eq_bits : ∀ b, b < 256 → (List.range 8).foldl (fun acc i => acc ^^^ bitTerm b i) 0 = b := by
  decide +kernel

theorem gfMul_bitTerm {a : Nat} (ha : a < 256) (b : Nat) {i : Nat} (hi : i < 8) :
    gfMul a (bitTerm b i) = pmulTerm a b i := by
  unfold bitTerm pmulTerm
  split
  · rw [gfMul_comm, ← exp_small i hi, gfMul_E i (by omega) ha]
  · exact gfMul_zero a

/-- `pmul a b` sums `x^i · a` over the bits of `b`; the table product distributes over the same sum. -/
theorem gfMul_eq_pmul {a b : Nat} (ha : a < 256) (hb : b < 256) : gfMul a b = pmul a b := by
  have sum : ∀ is : List Nat, (∀ i ∈ is, i < 8) → ∀ acc, acc < 256 →
      gfMul a (is.foldl (fun acc i => acc ^^^ bitTerm b i) acc) =
        is.foldl (fun acc i => acc ^^^ pmulTerm a b i) (gfMul a acc) := by
    intro is
    induction is with
    | nil => intros; rfl
    | cons i is ih =>
      intro h acc hacc
      have hi := bitTerm_lt b (h i List.mem_cons_self)
      rw [List.foldl_cons, List.foldl_cons, ih (fun j hj => h j (List.mem_cons_of_mem _ hj)) _ (xor_lt hacc hi),
        gfMul_xor ha hacc hi, gfMul_bitTerm ha b (h i List.mem_cons_self)]
  have := sum (List.range 8) (fun i => List.mem_range.1) 0 (by decide)
  rwa [byte_eq_bits b hb, gfMul_zero] at this

end EphVerif.C10L
