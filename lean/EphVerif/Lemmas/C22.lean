import EphVerif.Model.Swarm

namespace EphVerif.Swarm

theorem mem_slots {s n i j : Nat} : j ∈ slots s n i ↔ j < s ∧ j % n = i := by
  simp [slots]

theorem slots_succ (s n i : Nat) :
    slots (s + 1) n i = slots s n i ++ (if s % n = i then [s] else []) := by
  unfold slots
  rw [List.range_succ, List.filter_append]
  by_cases h : s % n = i <;> simp [h]

theorem slots_length_succ (s n i : Nat) :
    (slots (s + 1) n i).length = (slots s n i).length + (if s % n = i then 1 else 0) := by
  rw [slots_succ]
  by_cases h : s % n = i <;> simp [h]

theorem slots_inv (n : Nat) (hn : 0 < n) (s : Nat) :
    ∃ q r, r < n ∧ s = n * q + r ∧
      ∀ i, i < n → (slots s n i).length = q + (if i < r then 1 else 0) := by
  induction s with
  | zero =>
    refine ⟨0, 0, hn, by simp, ?_⟩
    intro i _
    simp [slots]
  | succ s ih =>
    obtain ⟨q, r, hr, hs, hc⟩ := ih
    have hmod : s % n = r := by rw [hs, Nat.mul_add_mod, Nat.mod_eq_of_lt hr]
    by_cases hlast : r + 1 < n
    · refine ⟨q, r + 1, hlast, by omega, fun i hi => ?_⟩
      rw [slots_length_succ, hc i hi, hmod]
      -- position `s` goes to provider `r`: below `r` nothing changes, `r` itself gains its extra shard
      rcases Nat.lt_trichotomy i r with h | h | h
      · rw [if_pos h, if_neg (by omega), if_pos (by omega)]
      · rw [if_neg (by omega), if_pos h.symm, if_pos (by omega)]
      · rw [if_neg (by omega), if_neg (by omega), if_neg (by omega)]
    · refine ⟨q + 1, 0, hn, by rw [Nat.mul_add]; omega, fun i hi => ?_⟩
      rw [slots_length_succ, hc i hi, hmod]
      -- `r` is the last provider: with its extra shard every provider has `q + 1`
      rcases Nat.lt_or_eq_of_le (show i ≤ r by omega) with h | h
      · rw [if_pos h, if_neg (by omega), if_neg (by omega)]
      · rw [if_neg (by omega), if_pos h.symm, if_neg (by omega)]

theorem slots_balanced (s n i k : Nat) (hi : i < n) (hk : k < n) :
    (slots s n i).length ≤ (slots s n k).length + 1 := by
  obtain ⟨q, r, _, _, hc⟩ := slots_inv n (by omega) s
  rw [hc i hi, hc k hk]
  split <;> split <;> omega

theorem slots_nonempty (s n i : Nat) (hi : i < n) (hns : n ≤ s) : 1 ≤ (slots s n i).length := by
  obtain ⟨q, r, hr, hs, hc⟩ := slots_inv n (by omega) s
  rw [hc i hi]
  have : q ≠ 0 := fun h => by rw [h, Nat.mul_zero, Nat.zero_add] at hs; omega
  omega

end EphVerif.Swarm
