/-
Helper lemmas for C25/C26: what close_session and handle_identity_ready do to a state that satisfies the
pairing invariant, and that every handler keeps the invariant (each by `Inv.unpair` or `Inv.pair`, the two
forms of `Inv.local`, on the one or two sessions it rewrites).
-/
import EphVerif.Lemmas.C25Inv
namespace EphVerif.Relay
open EphVerif.Gen.C25

theorem lock_eq_of_inv {σ : State} (hI : Inv σ) {c : Client} {s : Session} (hc : σ.get c = some s) :
    σ.lock s.partner = s.partner := by
  cases hp : s.partner with
  | none => rfl
  | some p =>
    obtain ⟨_, ps, hps, _⟩ := hI.partner hc hp
    simp [State.lock, hps]

theorem kPeerIdBytes_pos : 0 < kPeerIdBytes := by decide

theorem inv_handleRegister {σ : State} (c : Client) (hex : Bytes) (hI : Inv σ) : Inv (handleRegister σ c hex) := by
  unfold handleRegister
  split
  · exact hI
  next s hc =>
    dsimp only
    repeat' split
    iterate 3 exact inv_queue _ _ hI
    next hlen hlock =>
      rw [lock_eq_of_inv hI hc] at hlock
      have hp : s.partner = none := Option.not_isSome_iff_eq_none.mp hlock
      -- a peer id of 2 * kPeerIdBytes digits is not empty
      have hne : hex.map lowerHex ≠ [] := fun e => by
        have h0 := kPeerIdBytes_pos
        have : hex.length = 0 := by simpa using congrArg List.length e
        omega
      have hc' : (((removeRegistration σ c s).put c { s with peerHex := hex.map lowerHex, state := .registered }).setReg
          (hex.map lowerHex) c).get c = some { s with peerHex := hex.map lowerHex, state := .registered } := by simp
      refine inv_queue _ _ (hI.unpair (· = c) ⟨?_, ?_, ?_, by simp⟩ ?_)
      · rintro a b rfl h; rw [partnerOf_of_get hc, hp] at h; cases h
      · intro a ha; exact proj_congr (by simp [ha])
      · intro k d h
        rw [reg_setReg] at h
        split at h
        next hk =>
          cases h
          exact .inr ⟨stateOf_of_get hc', (partnerOf_of_get hc').trans hp, hk ▸ hexOf_of_get hc',
            hk ▸ hne⟩
        · exact .inl (reg_removeRegistration hI hc h)
      · rintro a rfl; rw [partnerOf_of_get hc', stateOf_of_get hc']; simp [hp]

/-- handle_connect keeps the invariant (the session is in command mode when a line is handled) -/
theorem inv_handleConnect {σ : State} (c : Client) (self target : Bytes) (hI : Inv σ)
    (hnb : σ.stateOf c ≠ some .bridged) (hai : σ.stateOf c ≠ some .awaitingIdentity) :
    Inv (handleConnect σ c self target) := by
  unfold handleConnect
  split
  · exact hI
  next s hc =>
    rw [stateOf_of_get hc] at hnb hai
    dsimp only
    iterate 3 split; · exact inv_queue _ _ hI
    split
    next σ1 hf =>
      obtain rfl : (findRegistered σ target).1 = σ1 := by rw [hf]
      exact inv_queue _ _ ((erased_findRegistered σ target).inv hI)
    next hreg _ _ _ σ1 t hf =>
      obtain ⟨rfl, hrt, ts, hts, hst⟩ := findRegistered_some hf
      obtain ⟨_, htp, htx, _⟩ := hI.regOK target t hrt
      have hct : c ≠ t := by rintro rfl; rw [hc] at hts; cases hts; exact hreg hst
      have hcp := hI.unpaired hc (by simpa using hai) hreg (by simpa using hnb)
      have ht' : ((σ1.eraseReg target).put c { s with state := .awaitingIdentity, connectSelf := self, partner := some t }).get t
          = some ts := by simp [hct.symm, hts]
      simp only [ht']
      generalize hs' : ({ s with state := .awaitingIdentity, connectSelf := self, partner := some t } : Session) = s'
      generalize hts' : ({ ts with partner := some c } : Session) = ts'
      have gc : (((σ1.eraseReg target).put c s').put t ts').get c = some s' := by simp [hct]
      have gt : (((σ1.eraseReg target).put c s').put t ts').get t = some ts' := by simp
      have pc := partnerOf_of_get gc; have pt := partnerOf_of_get gt
      have sc := stateOf_of_get gc; have st := stateOf_of_get gt
      subst hs' hts'
      refine inv_queue _ _ (hI.pair hct ⟨?_, ?_, ?_, rfl⟩ pc pt ⟨_, _, sc, st, .inl ⟨rfl, hst⟩⟩)
      · rintro a b (rfl | rfl) h
        · rw [partnerOf_of_get hc, hcp] at h; cases h
        · rw [htp] at h; cases h
      · intro a ha; exact proj_congr (by simp [not_or.mp ha])
      · intro k d h
        simp only [reg_put, reg_eraseReg] at h
        split at h
        · cases h
        next hk =>
          refine .inl ⟨h, ?_⟩
          obtain ⟨hds, _, hdx, _⟩ := hI.regOK k d h
          rintro (rfl | rfl)
          · rw [stateOf_of_get hc] at hds; exact hreg (Option.some.inj hds)
          · rw [htx] at hdx; exact hk (Option.some.inj hdx).symm

theorem handleLine_cases {P : State → Prop} {σ : State} {c : Client} (line : Bytes) (h0 : P σ)
    (hreg : ∀ hex, P (handleRegister σ c hex)) (hcon : ∀ self target, P (handleConnect σ c self target))
    (hq : ∀ t, P (queue σ c (.ctrl t))) : P (handleLine σ c line) := by
  unfold handleLine
  repeat' split
  · exact h0
  · exact hreg _
  · exact hcon _ _
  · exact hq _
  · exact h0
  · exact hq _

theorem inv_handleLine {σ : State} (c : Client) (line : Bytes) (hI : Inv σ)
    (hnb : σ.stateOf c ≠ some .bridged) (hai : σ.stateOf c ≠ some .awaitingIdentity) :
    Inv (handleLine σ c line) :=
  handleLine_cases line hI (fun _ => inv_handleRegister _ _ hI) (fun _ _ => inv_handleConnect _ _ _ hI hnb hai)
    fun _ => inv_queue _ _ hI

theorem closeSession_of_dead {σ : State} {c : Client} (h : σ.get c = none) : closeSession σ c = σ := by
  simp only [closeSession, h]

theorem closeSession_of_get {σ : State} {c : Client} {s : Session} (h : σ.get c = some s) :
    closeSession σ c = (detachPartner ((removeRegistration σ c s).drop c) s).emit (.closed c) := by
  simp only [closeSession, h]

/-- What close_session does to a live session `c` in a state satisfying the invariant: `c` goes; a partner that is
    a connector or bridged goes with it; a claimed target is left unpaired and is registered again. -/
theorem closeSession_cases {σ : State} (hI : Inv σ) {c : Client} {s : Session} (hc : σ.get c = some s) :
    (closeSession σ c).hung = σ.hung ∧ (closeSession σ c).used = σ.used ∧
    ((s.partner = none ∧ (∀ a, (closeSession σ c).get a = if a = c then none else σ.get a) ∧
        (closeSession σ c).out = .closed c :: σ.out ∧
        ∀ k d, (closeSession σ c).reg k = some d → σ.reg k = some d ∧ d ≠ c) ∨
     (∃ p ps, s.partner = some p ∧ p ≠ c ∧ σ.get p = some ps ∧ (ps.state = .awaitingIdentity ∨ ps.state = .bridged) ∧
        (∀ a, (closeSession σ c).get a = if a = c ∨ a = p then none else σ.get a) ∧
        (closeSession σ c).out = .closed c :: .closed p :: σ.out ∧
        ∀ k d, (closeSession σ c).reg k = some d → σ.reg k = some d ∧ d ≠ c) ∨
     (∃ p ps, s.partner = some p ∧ p ≠ c ∧ σ.get p = some ps ∧ ps.state = .registered ∧
        (∀ a, (closeSession σ c).get a =
          if a = c then none else if a = p then some { ps with partner := none } else σ.get a) ∧
        (closeSession σ c).out = .closed c :: σ.out ∧
        ∀ k d, (closeSession σ c).reg k = some d → (σ.reg k = some d ∧ d ≠ c) ∨ (d = p ∧ k = ps.peerHex ∧ k ≠ []))) := by
  rw [closeSession_of_get hc]
  cases hp : s.partner with
  | none =>
    have e1 : detachPartner ((removeRegistration σ c s).drop c) s = (removeRegistration σ c s).drop c := by
      simp only [detachPartner, hp]
    rw [e1]
    exact ⟨by simp, by simp, .inl ⟨rfl, fun a => by simp, by simp, fun _ _ => reg_removeRegistration hI hc⟩⟩
  | some p =>
    obtain ⟨hpc, ps, hps, -, hst⟩ := hI.partner hc hp
    -- detach_partner finds the partner alive and resets its pointer; the resulting state is named `σ1` and used only through
    -- its lookups `g1`, `r1`, `o1`, `u1`, `h1`
    obtain ⟨σ1, hσ1⟩ : ∃ σ1, σ1 = ((removeRegistration σ c s).drop c).put p { ps with partner := none } := ⟨_, rfl⟩
    have e1 : detachPartner ((removeRegistration σ c s).drop c) s =
        if ps.state = .awaitingIdentity ∨ ps.state = .bridged then closeNoPartner σ1 p
        else if ps.state = .registered ∧ !ps.peerHex.isEmpty then σ1.setReg ps.peerHex p else σ1 := by
      simp only [detachPartner, hp, get_drop, get_removeRegistration, hpc, if_false, hps, hσ1]
    have g1 : ∀ a, σ1.get a = if a = p then some { ps with partner := none } else if a = c then none else σ.get a := by
      intro a; rw [hσ1, get_put, get_drop, get_removeRegistration]
    have r1 : ∀ k, σ1.reg k = (removeRegistration σ c s).reg k := fun k => by rw [hσ1]; rfl
    have o1 : σ1.out = σ.out := by rw [hσ1, out_put, out_drop, out_removeRegistration]
    have u1 : σ1.used = σ.used := by rw [hσ1, used_put, used_drop, used_removeRegistration]
    have h1 : σ1.hung = σ.hung := by rw [hσ1, hung_put, hung_drop, hung_removeRegistration]
    rw [e1]
    by_cases hIB : ps.state = .awaitingIdentity ∨ ps.state = .bridged
    · have e2 : closeNoPartner σ1 p = ((removeRegistration σ1 p { ps with partner := none }).drop p).emit (.closed p) := by
        simp only [closeNoPartner, g1, if_true]
      rw [if_pos hIB, e2]
      refine ⟨by simp [h1], by simp [u1], .inr (.inl ⟨p, ps, rfl, hpc, hps, hIB, fun a => ?_, by simp [o1], fun k d h => ?_⟩)⟩
      · simp only [get_emit, get_drop, get_removeRegistration, g1]
        by_cases e1 : a = p <;> by_cases e2 : a = c <;> simp [e1, e2]
      · exact reg_removeRegistration hI hc ((r1 k).symm.trans ((erased_removeRegistration σ1 p _).sub k d h))
    · have hst : ps.state = .registered := by
        rcases hst with ⟨_, h'⟩ | ⟨_, h'⟩ | ⟨_, h'⟩
        · exact h'
        · exact absurd (.inl h') hIB
        · exact absurd (.inr h') hIB
      rw [if_neg hIB]
      have hss : SameSessions σ1 (if ps.state = .registered ∧ !ps.peerHex.isEmpty then σ1.setReg ps.peerHex p else σ1) := by
        split
        · exact sameSessions_setReg σ1 _ p
        · exact ⟨rfl, rfl, rfl, rfl⟩
      refine ⟨hss.hung.trans h1, hss.used.trans u1, .inr (.inr ⟨p, ps, rfl, hpc, hps, hst, fun a => ?_, ?_, fun k d h => ?_⟩)⟩
      · rw [get_emit, hss.get, g1]
        by_cases e1 : a = p <;> by_cases e2 : a = c <;> simp [e1, e2, hpc, hpc.symm]
      · rw [out_emit, hss.out, o1]
      · split at h
        next hx =>
          rw [reg_emit, reg_setReg] at h
          split at h
          next hk =>
            cases h
            exact .inr ⟨rfl, hk, by rintro rfl; simp [hk] at hx⟩
          · rw [r1] at h; exact .inl (reg_removeRegistration hI hc h)
        · rw [reg_emit, r1] at h; exact .inl (reg_removeRegistration hI hc h)

theorem inv_closeSession {σ : State} (c : Client) (hI : Inv σ) : Inv (closeSession σ c) := by
  cases hc : σ.get c with
  | none => rw [closeSession_of_dead hc]; exact hI
  | some s =>
    obtain ⟨hh, -, hg⟩ := closeSession_cases hI hc
    have pc := partnerOf_of_get hc
    have dead : ∀ a, (closeSession σ c).get a = none → (closeSession σ c).partnerOf a = none ∧
        (closeSession σ c).stateOf a ≠ some .awaitingIdentity ∧ (closeSession σ c).stateOf a ≠ some .bridged := by
      intro a h; rw [(proj_of_dead h).1, (proj_of_dead h).2]; simp
    rcases hg with ⟨hp, hg, -, hr⟩ | ⟨p, ps, hp, hpc, hps, -, hg, -, hr⟩ | ⟨p, ps, hp, hpc, hps, hst, hg, -, hr⟩
    · refine hI.unpair (· = c) ⟨?_, ?_, fun k d h => .inl (hr k d h), hh⟩ ?_
      · rintro a b rfl h; rw [pc, hp] at h; cases h
      · intro a ha; exact proj_congr (by rw [hg, if_neg ha])
      · rintro a rfl; exact dead a (by rw [hg, if_pos rfl])
    all_goals
      have pp := (hI.paired c p (pc.trans hp)).2.1
      have hT := hI.closed_pair (pc.trans hp)
      have old : ∀ k d, σ.reg k = some d ∧ d ≠ c → σ.reg k = some d ∧ ¬ (d = c ∨ d = p) :=
        fun k d h => ⟨h.1, not_or.mpr ⟨h.2, hI.reg_ne h.1 pp⟩⟩
    · refine hI.unpair (fun a => a = c ∨ a = p) ⟨hT, ?_, fun k d h => .inl (old k d (hr k d h)), hh⟩ ?_
      · intro a ha; exact proj_congr (by rw [hg, if_neg ha])
      · intro a ha; exact dead a (by rw [hg, if_pos ha])
    · have gp : (closeSession σ c).get p = some { ps with partner := none } := by rw [hg, if_neg hpc, if_pos rfl]
      refine hI.unpair (fun a => a = c ∨ a = p) ⟨hT, ?_, ?_, hh⟩ ?_
      · intro a ha; rw [not_or] at ha; exact proj_congr (by rw [hg, if_neg ha.1, if_neg ha.2])
      · intro k d h
        rcases hr k d h with h | ⟨rfl, rfl, hk⟩
        · exact .inl (old k d h)
        · exact .inr ⟨(stateOf_of_get gp).trans (congrArg some hst), partnerOf_of_get gp, (hexOf_of_get gp :), hk⟩
      · rintro a (rfl | rfl)
        · exact dead a (by rw [hg, if_pos rfl])
        · rw [partnerOf_of_get gp, stateOf_of_get gp]; simp [hst]

/-- handle_identity_ready for a connector `c` whose claimed target `t` is alive: both become bridged, and `t` is
    queued the BEGIN line, the identity and whatever `c` had sent after it. -/
theorem handleIdentityReady_bridge {σ : State} {c t : Client} {s ts : Session} (hc : σ.get c = some s)
    (hp : s.partner = some t) (htc : t ≠ c) (ht : σ.get t = some ts) :
    (∀ a, (handleIdentityReady σ c).get a =
      if a = t then some { ts with writeBuf := ts.writeBuf ++ (beginPrefix ++ s.connectSelf ++ [nl]) ++ s.readBuf, state := .bridged }
      else if a = c then some { s with readBuf := [], state := .bridged } else σ.get a) ∧
    (handleIdentityReady σ c).out =
      ((if (s.readBuf.drop kPeerIdBytes).isEmpty then [] else [.queued t (.relay c (s.readBuf.drop kPeerIdBytes))]) ++
        [.queued t (.relay c (s.readBuf.take kPeerIdBytes)), .queued t (.ctrl (beginPrefix ++ s.connectSelf ++ [nl]))]) ++ σ.out ∧
    (∀ k, (handleIdentityReady σ c).reg k = σ.reg k) ∧ (handleIdentityReady σ c).used = σ.used ∧
    (handleIdentityReady σ c).hung = σ.hung := by
  have hct : c ≠ t := htc.symm
  simp only [handleIdentityReady, hc, hp, State.lock, ht, Option.isSome_some, if_true, get_queue, hct, if_false,
    get_put, Option.map_some]
  -- with or without bytes after the identity: either way `t` is queued the whole read buffer
  split
  next h =>
    have hk : s.readBuf.take kPeerIdBytes = s.readBuf :=
      List.take_of_length_le (List.drop_eq_nil_iff.mp (List.isEmpty_iff.mp h))
    refine ⟨fun a => by simp only [get_queue, get_put, if_true, Option.map_some, Item.bytes, hk]; split <;> rfl,
      ?_, fun k => ?_, ?_, ?_⟩
    · simp [out_queue, ht]
    all_goals simp
  next h =>
    refine ⟨fun a => by
        simp only [get_queue, get_put, if_true, Option.map_some, Item.bytes, List.append_assoc, List.take_append_drop]
        split <;> rfl,
      ?_, fun k => ?_, ?_, ?_⟩
    · simp [out_queue, ht]
    all_goals simp

theorem inv_handleIdentityReady {σ : State} (hI : Inv σ) {c : Client} {s : Session} (hc : σ.get c = some s)
    (hst : s.state = .awaitingIdentity) : Inv (handleIdentityReady σ c) := by
  obtain ⟨t, ts, hp, htc, ht, htp, -⟩ := hI.partner_of hc (.inl hst)
  obtain ⟨hg, -, hr, -, hh⟩ := handleIdentityReady_bridge hc hp htc ht
  have gc := hg c; rw [if_neg htc.symm, if_pos rfl] at gc
  have gt := hg t; rw [if_pos rfl] at gt
  have pc := (partnerOf_of_get hc).trans hp
  have pt := (partnerOf_of_get ht).trans htp
  have pc' := (partnerOf_of_get gc).trans hp
  have pt' := (partnerOf_of_get gt).trans htp
  refine hI.pair htc.symm ⟨hI.closed_pair pc, ?_, ?_, hh⟩ pc' pt'
    ⟨_, _, stateOf_of_get gc, stateOf_of_get gt, .inr (.inr ⟨rfl, rfl⟩)⟩
  · intro a ha; rw [not_or] at ha; exact proj_congr (by rw [hg, if_neg ha.2, if_neg ha.1])
  · intro k d h
    rw [hr] at h
    exact .inl ⟨h, not_or.mpr ⟨hI.reg_ne h pc, hI.reg_ne h pt⟩⟩

end EphVerif.Relay
