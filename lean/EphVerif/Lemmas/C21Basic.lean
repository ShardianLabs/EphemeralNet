import EphVerif.Model.Announce

/-! Helper lemmas for C21: the sanitised configuration, the exits of `peerAnnounce`, framing of `announce`, `run`. -/

namespace EphVerif.C21
open EphVerif.Announce

theorem NS_pos : (0 : Int) < NS := by decide

theorem setPeer_same (s : State) (p : String) (ps : PeerSt) : (setPeer s p ps).peers p = ps :=
  if_pos rfl

theorem setPeer_other (s : State) (p q : String) (ps : PeerSt) (h : q ≠ p) :
    (setPeer s p ps).peers q = s.peers q :=
  if_neg h

theorem sanitizeInterval_bounds (v : Int) : 1 ≤ sanitizeInterval v ∧ sanitizeInterval v ≤ 3600 := by
  unfold sanitizeInterval
  simp only [Gen.C21.kMinAnnounceInterval, Gen.C21.announceIntervalCap]
  repeat' split
  all_goals omega

theorem sanitizeWindow_bounds (v : Int) : 1 ≤ sanitizeWindow v ∧ sanitizeWindow v ≤ 3600 := by
  unfold sanitizeWindow
  simp only [Gen.C21.kMinAnnounceInterval, Gen.C21.kMaxAnnounceWindow]
  repeat' split
  all_goals omega

theorem verifyPow_true {cfg : Cfg} {a : Ann} (h : verifyPow cfg a = true) :
    cfg.powDifficulty = 0 ∨ (3 ≤ a.version ∧ a.powOk = true) := by
  have h3 : Gen.C21.kPowMinVersion = 3 := by decide
  rw [verifyPow, h3] at h
  split at h
  · next h0 => exact .inl h0
  · split at h
    · cases h
    · exact .inr ⟨by omega, h⟩

/-- `preCheck` and `postCheck` are chains of links `if !b then some r else rest`: a link lets through only if `b`
    holds and the rest lets through, and what it rejects with is `r` or a rejection of the rest -/
theorem guard_none {b : Bool} {r : Reject} {rest : Option Reject} (h : (if !b then some r else rest) = none) :
    b = true ∧ rest = none := by
  cases b
  · cases h
  · exact ⟨rfl, h⟩

theorem guard_some {b : Bool} {r r' : Reject} {rest : Option Reject} (h : (if !b then some r else rest) = some r') :
    r' = r ∨ rest = some r' := by
  cases b
  · exact .inl (Option.some.inj h).symm
  · exact .inr h

theorem preCheck_none {cfg : Cfg} {a : Ann} (h : preCheck cfg a = none) :
    a.senderMatch = true ∧ a.uriNonEmpty = true ∧ verifyPow cfg a = true := by
  obtain ⟨h1, h⟩ := guard_none h
  obtain ⟨h2, h⟩ := guard_none h
  exact ⟨h1, h2, (guard_none h).1⟩

theorem preCheck_some {cfg : Cfg} {a : Ann} {r : Reject} (h : preCheck cfg a = some r) :
    r ≠ .locked ∧ (Outcome.rejected r).passed = false := by
  repeat (rcases guard_some h with rfl | h; · exact ⟨nofun, rfl⟩)
  cases h

theorem postCheck_none {a : Ann} (h : postCheck a = none) :
    a.decodable = true ∧ a.idMatch = true ∧ a.thresholdMet = true ∧ a.unexpired = true ∧ a.assignedOk = true := by
  obtain ⟨h1, h⟩ := guard_none h
  obtain ⟨h2, h⟩ := guard_none h
  obtain ⟨h3, h⟩ := guard_none h
  obtain ⟨h4, h⟩ := guard_none h
  exact ⟨h1, h2, h3, h4, (guard_none h).1⟩

theorem postCheck_some {a : Ann} {r : Reject} (h : postCheck a = some r) :
    r ≠ .locked ∧ (Outcome.rejected r).passed = true := by
  repeat (rcases guard_some h with rfl | h; · exact ⟨nofun, rfl⟩)
  cases h

/-- no lockout, or one that has run out: `announce_sender_locked` answers false -/
def Unlocked (now : Int) (ps : PeerSt) : Prop := ∀ u, ps.lock = some u → u ≤ now

theorem senderLocked_cases (now : Int) (ps : PeerSt) :
    (∃ u, ps.lock = some u ∧ now < u ∧ senderLocked now ps = (ps, true)) ∨
    (Unlocked now ps ∧ senderLocked now ps = ({ ps with lock := none }, false)) := by
  unfold senderLocked Unlocked
  split
  · next h => exact .inr ⟨fun u hu => by simp [h] at hu, by simp [← h]⟩
  · next u h =>
    split
    · next hle => exact .inr ⟨fun u' hu => by simp_all, rfl⟩
    · next hlt => exact .inl ⟨u, h, by omega, rfl⟩

def failStep (now : Int) (fails : List Int) : List Int × Option Int :=
  let f := fails.dropWhile (fun t => decide (now - t > failureWindow)) ++ [now]
  if f.length ≥ failureThreshold then ([], some (now + lockoutDuration)) else (f, none)

theorem rejectP_unlocked {now : Int} {ps : PeerSt} {r : Reject} (h : ps.lock = none) :
    rejectP now ps r =
      ({ ps with fails := (failStep now ps.fails).1, lock := (failStep now ps.fails).2, rep := repFailure ps.rep },
       .rejected r) := by
  unfold rejectP recordFailure pushFailure failStep
  simp only [h]
  split <;> rfl

inductive Exit (cfg : Cfg) (now : Int) (ps : PeerSt) (a : Ann) : PeerSt × Outcome → Prop where
  | locked (u : Int) (hu : ps.lock = some u) (hlt : now < u) :
      Exit cfg now ps a ({ ps with rep := repFailure ps.rep }, .rejected .locked)
  /-- a counted rejection, before the throttle (history untouched) or at or after it -/
  | rejected (hl : Unlocked now ps) (r : Reject) (hr : r ≠ .locked) (hist : List Int)
      (hh : (hist = ps.hist ∧ (Outcome.rejected r).passed = false) ∨
            (hist = (register cfg now ps.hist).1 ∧ (Outcome.rejected r).passed = (register cfg now ps.hist).2)) :
      Exit cfg now ps a
        ({ ps with hist := hist, fails := (failStep now ps.fails).1, lock := (failStep now ps.fails).2,
                   rep := repFailure ps.rep }, .rejected r)
  | accepted (hl : Unlocked now ps) (hp : preCheck cfg a = none) (ht : (register cfg now ps.hist).2 = true)
      (hq : postCheck a = none) :
      Exit cfg now ps a
        ({ ps with hist := (register cfg now ps.hist).1, fails := [], lock := none, rep := repSuccess ps.rep },
         .accepted)

theorem peerAnnounce_exit (cfg : Cfg) (now : Int) (ps : PeerSt) (a : Ann) :
    Exit cfg now ps a (peerAnnounce cfg now ps a) := by
  unfold peerAnnounce
  rcases senderLocked_cases now ps with ⟨u, hu, hlt, e⟩ | ⟨hl, e⟩ <;> simp only [e]
  · exact .locked u hu hlt
  · simp only [Bool.false_eq_true, ↓reduceIte]
    split
    · next r hr =>
      rw [rejectP_unlocked rfl]
      exact .rejected hl r (preCheck_some hr).1 ps.hist (.inl ⟨rfl, (preCheck_some hr).2⟩)
    · next hp =>
      split
      · next ht =>
        rw [Bool.not_eq_true'] at ht
        rw [rejectP_unlocked rfl]
        exact .rejected hl .throttle nofun _ (.inr ⟨rfl, ht.symm⟩)
      · next ht =>
        rw [Bool.not_eq_true', Bool.not_eq_false] at ht
        split
        · next r hr =>
          rw [rejectP_unlocked rfl]
          exact .rejected hl r (postCheck_some hr).1 _ (.inr ⟨rfl, (postCheck_some hr).2.trans ht.symm⟩)
        · next hq => exact .accepted hl hp ht hq

theorem peerAnnounce_accepted {cfg : Cfg} {now : Int} {ps : PeerSt} {a : Ann}
    (h : (peerAnnounce cfg now ps a).2 = .accepted) :
    Unlocked now ps ∧ preCheck cfg a = none ∧ (register cfg now ps.hist).2 = true ∧ postCheck a = none := by
  have hx := peerAnnounce_exit cfg now ps a
  generalize peerAnnounce cfg now ps a = r at hx h
  cases hx with
  | accepted hl hp ht hq => exact ⟨hl, hp, ht, hq⟩
  | _ => cases h

theorem peerAnnounce_locked {cfg : Cfg} {now u : Int} {ps : PeerSt} (a : Ann) (hu : ps.lock = some u) (hlt : now < u) :
    peerAnnounce cfg now ps a = ({ ps with rep := repFailure ps.rep }, .rejected .locked) := by
  have : senderLocked now ps = (ps, true) := by rw [senderLocked, hu]; exact if_neg (Int.not_le.mpr hlt)
  rw [peerAnnounce, this]
  rfl

theorem peerAnnounce_hist (cfg : Cfg) (now : Int) (ps : PeerSt) (a : Ann) :
    ((peerAnnounce cfg now ps a).1.hist = ps.hist ∧ (peerAnnounce cfg now ps a).2.passed = false) ∨
    ((peerAnnounce cfg now ps a).1.hist = (register cfg now ps.hist).1 ∧
      (peerAnnounce cfg now ps a).2.passed = (register cfg now ps.hist).2) := by
  have hx := peerAnnounce_exit cfg now ps a
  generalize peerAnnounce cfg now ps a = r at hx
  cases hx with
  | locked => exact .inl ⟨rfl, rfl⟩
  | rejected _ _ _ _ hh => exact hh
  | accepted _ _ ht => exact .inr ⟨rfl, ht.symm⟩

theorem announce_now (cfg : Cfg) (s : State) (a : Ann) : (announce cfg s a).1.now = s.now := rfl

theorem announce_peer (cfg : Cfg) (s : State) (a : Ann) :
    (announce cfg s a).1.peers a.peer = (peerAnnounce cfg s.now (s.peers a.peer) a).1 :=
  if_pos rfl

theorem announce_other (cfg : Cfg) (s : State) (a : Ann) (q : String) (h : q ≠ a.peer) :
    (announce cfg s a).1.peers q = s.peers q :=
  if_neg h

theorem announce_out (cfg : Cfg) (s : State) (a : Ann) :
    (announce cfg s a).2 = (peerAnnounce cfg s.now (s.peers a.peer) a).2 := rfl

theorem announce_obs (cfg : Cfg) (s : State) (a : Ann) (h : (announce cfg s a).2 ≠ .accepted) :
    (announce cfg s a).1.obs = s.obs :=
  if_neg h

theorem step_now_le (cfg : Cfg) (s : State) (op : Op) : s.now ≤ (step cfg s op).1.now := by
  cases op with
  | adv d => simp [step]; omega
  | ann a => simp [step, announce_now]

theorem mem_run {cfg : Cfg} : ∀ (ops : List Op) (s : State) (log : List Ev) (e : Ev), e ∈ log →
    e ∈ (run cfg (s, log) ops).2
  | [], _, _, _, h => h
  | _ :: rest, _, _, e, h => mem_run rest _ _ e (List.mem_append_left _ h)

theorem run_now_le (cfg : Cfg) : ∀ (ops : List Op) (s : State) (log : List Ev), s.now ≤ (run cfg (s, log) ops).1.now
  | [], _, _ => Int.le_refl _
  | op :: rest, s, _ => Int.le_trans (step_now_le cfg s op) (run_now_le cfg rest _ _)

end EphVerif.C21
