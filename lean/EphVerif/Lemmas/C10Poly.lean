/-
C10: bytes as elements of the field `GF256`, and `evaluate_polynomial` of the model as the evaluation of a
Mathlib polynomial.
-/
import Mathlib.LinearAlgebra.Lagrange
import EphVerif.Lemmas.C10GF

namespace EphVerif.C10L
open EphVerif.Shamir Polynomial

def g (a : Nat) : GF256 := GF256.ofNat a

def Bytes (l : List Nat) : Prop := ∀ b ∈ l, b < 256

theorem g_val_of_lt {a : Nat} (h : a < 256) : (g a).val = a := Nat.mod_eq_of_lt h
theorem g_val (a : GF256) : g a.val = a := GF256.ext (Nat.mod_eq_of_lt a.lt)
theorem g_zero : g 0 = 0 := rfl
theorem g_one : g 1 = 1 := rfl

theorem g_inj {a b : Nat} (ha : a < 256) (hb : b < 256) (h : g a = g b) : a = b := by
  have := congrArg GF256.val h
  rwa [g_val_of_lt ha, g_val_of_lt hb] at this

theorem g_eq_zero {a : Nat} (ha : a < 256) : g a = 0 ↔ a = 0 :=
  ⟨fun h => g_inj ha (by decide) h, fun h => h ▸ rfl⟩

theorem g_xor {a b : Nat} (ha : a < 256) (hb : b < 256) : g (a ^^^ b) = g a + g b :=
  GF256.ext (by rw [GF256.val_add, g_val_of_lt ha, g_val_of_lt hb, g_val_of_lt (xor_lt ha hb)])

theorem g_mul {a b : Nat} (ha : a < 256) (hb : b < 256) : g (gfMul a b) = g a * g b :=
  GF256.ext (by rw [GF256.val_mul, g_val_of_lt ha, g_val_of_lt hb, g_val_of_lt (gfMul_lt a b)])

theorem g_inv {a : Nat} (ha : a < 256) : g (gfInv a) = (g a)⁻¹ :=
  GF256.ext (by rw [GF256.val_inv, g_val_of_lt ha, g_val_of_lt (gfInv_lt a)])

theorem gf_sub (a b : GF256) : a - b = a + b := by rw [sub_eq_add_neg, GF256.neg_eq]
theorem gf_add_self (a : GF256) : a + a = 0 := GF256.ext (Nat.xor_self _)
theorem gf_add_eq_zero {a b : GF256} : a + b = 0 ↔ a = b :=
  ⟨fun h => GF256.ext (xor_eq_zero (congrArg GF256.val h)), fun h => h ▸ gf_add_self a⟩

theorem getD_of_lt {α : Type} (d : α) {l : List α} {i : Nat} (h : i < l.length) : l.getD i d = l[i] := by
  rw [List.getD_eq_getElem?_getD, List.getElem?_eq_getElem h, Option.getD_some]

theorem getD_map_of_lt {α β : Type} (f : α → β) (d : β) (l : List α) {i : Nat} (h : i < l.length) :
    (l.map f).getD i d = f l[i] := by
  rw [getD_of_lt d (by rwa [List.length_map]), List.getElem_map]

theorem ext_getD {α : Type} (d : α) {l1 l2 : List α} (hl : l1.length = l2.length)
    (h : ∀ i, i < l1.length → l1.getD i d = l2.getD i d) : l1 = l2 :=
  List.ext_getElem hl fun i h1 h2 => by rw [← getD_of_lt d h1, ← getD_of_lt d h2, h i h1]

theorem eq_iff_getD {α : Type} (d : α) {l1 l2 : List α} {n : Nat} (h1 : l1.length = n) (h2 : l2.length = n) :
    l1 = l2 ↔ ∀ i, i < n → l1.getD i d = l2.getD i d :=
  ⟨fun h _ _ => h ▸ rfl, fun h => ext_getD d (h1.trans h2.symm) (h1 ▸ h)⟩

theorem range_map_getD {α : Type} (d : α) (l : List α) : (List.range l.length).map (fun b => l.getD b d) = l :=
  ext_getD d (by simp) fun i hi => by
    rw [List.length_map] at hi
    rw [getD_map_of_lt _ _ _ hi, List.getElem_range]

theorem forall_mem_iff_getD {α : Type} (d : α) {l : List α} {Q : α → Prop} :
    (∀ a ∈ l, Q a) ↔ ∀ i, i < l.length → Q (l.getD i d) :=
  ⟨fun h i hi => getD_of_lt d hi ▸ h _ (List.getElem_mem hi), fun h a ha => by
    obtain ⟨i, hi, rfl⟩ := List.getElem_of_mem ha
    exact getD_of_lt d hi ▸ h i hi⟩

theorem existsUnique_list {α : Type} (d : α) (n : Nat) {P : Nat → α → Prop} (h : ∀ b, ∃! a, P b a) :
    ∃! l : List α, l.length = n ∧ ∀ b, b < n → P b (l.getD b d) := by
  choose f hf using h
  have hcl : ((List.range n).map f).length = n := by rw [List.length_map, List.length_range]
  have hcg : ∀ b, b < n → ((List.range n).map f).getD b d = f b := fun b hb => by
    rw [getD_map_of_lt _ _ _ (by rwa [List.length_range]), List.getElem_range]
  refine ⟨_, ⟨hcl, fun b hb => hcg b hb ▸ (hf b).1⟩, ?_⟩
  rintro l ⟨hl, hP⟩
  refine ext_getD d (hl.trans hcl.symm) fun b hb => ?_
  rw [hcg b (hl ▸ hb)]
  exact (hf b).2 _ (hP b (hl ▸ hb))

theorem getD_lt {l : List Nat} (h : Bytes l) (j : Nat) : l.getD j 0 < 256 := by
  rw [List.getD_eq_getElem?_getD]
  cases hj : l[j]? with
  | none => decide
  | some v => exact h v (List.mem_of_getElem? hj)

theorem Bytes.cons {a : Nat} {l : List Nat} : Bytes (a :: l) ↔ a < 256 ∧ Bytes l := by
  simp [Bytes]

noncomputable def polyOfList : List GF256 → GF256[X]
  | [] => 0
  | a :: l => C a + X * polyOfList l

theorem coeff_polyOfList : ∀ (l : List GF256) (m : Nat), (polyOfList l).coeff m = l.getD m 0
  | [], m => by simp [polyOfList]
  | a :: l, 0 => by simp [polyOfList]
  | a :: l, m + 1 => by simp [polyOfList, coeff_polyOfList l m]

theorem degree_polyOfList_lt (l : List GF256) : (polyOfList l).degree < l.length := by
  rw [degree_lt_iff_coeff_zero]
  intro m hm
  rw [coeff_polyOfList, List.getD_eq_getElem?_getD, List.getElem?_eq_none hm]; rfl

theorem polyOfList_coeffs {p : GF256[X]} {n : ℕ} (h : p.degree < n) : polyOfList ((List.range n).map p.coeff) = p := by
  ext m
  rw [coeff_polyOfList]
  by_cases hm : m < n
  · rw [getD_map_of_lt _ _ _ (by rwa [List.length_range]), List.getElem_range]
  · rw [List.getD_eq_getElem?_getD, List.getElem?_eq_none (by simpa using hm)]
    exact (coeff_eq_zero_of_degree_lt (lt_of_lt_of_le h (Nat.cast_le.2 (Nat.le_of_not_lt hm)))).symm

theorem eval_polyOfList_zero (a : GF256) (l : List GF256) : (polyOfList (a :: l)).eval 0 = a := by
  simp [polyOfList]

theorem evalPolyLoop_lt {x : Nat} : ∀ {cs : List Nat} {p r : Nat}, r < 256 → evalPolyLoop x cs p r < 256
  | [], _, _, hr => hr
  | _ :: cs, _, _, hr => evalPolyLoop_lt (cs := cs) (xor_lt hr (gfMul_lt _ _))

theorem evalPolyLoop_g {x : Nat} (hx : x < 256) : ∀ {cs : List Nat} {p r : Nat}, Bytes cs → p < 256 → r < 256 →
    g (evalPolyLoop x cs p r) = g r + g p * g x * (polyOfList (cs.map g)).eval (g x)
  | [], p, r, _, _, _ => by simp [evalPolyLoop, polyOfList]
  | c :: cs, p, r, hcs, hp, hr => by
    have hc := (Bytes.cons.1 hcs).1
    have hpx := gfMul_lt p x
    rw [evalPolyLoop]
    simp only [gfAdd]
    rw [evalPolyLoop_g hx (Bytes.cons.1 hcs).2 hpx (xor_lt hr (gfMul_lt _ _))]
    simp only [ g_xor hr (gfMul_lt _ _), g_mul hc hpx, g_mul hp hx, List.map_cons, polyOfList, eval_add, eval_mul,
      eval_C, eval_X]
    ring

theorem evalPoly_lt {x s : Nat} {cs : List Nat} (hs : s < 256) : evalPoly x s cs < 256 := evalPolyLoop_lt hs

theorem evalPoly_g {x s : Nat} {cs : List Nat} (hx : x < 256) (hs : s < 256) (hcs : Bytes cs) :
    g (evalPoly x s cs) = (polyOfList (g s :: cs.map g)).eval (g x) := by
  rw [evalPoly, evalPolyLoop_g hx hcs (by decide) hs]
  simp only [g_one, polyOfList, eval_add, eval_mul, eval_C, eval_X]
  ring

end EphVerif.C10L
