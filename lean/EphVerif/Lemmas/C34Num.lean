import EphVerif.Generated.C34
import EphVerif.Spec.Advertise

/-! Helper lemmas for C34: the CIDR blocks of the specification in terms of octets / 16-bit groups. -/
namespace EphVerif.C34L
open EphVerif EphVerif.Gen.C34 EphVerif.AdvSpec

theorem v4_blocks (a b c d : Nat) (ha : a < 256) (hb : b < 256) (hc : c < 256) (hd : d < 256)
    (h : nonRoutable4 (ip4 a b c d)) :
    a = 0 ∨ a = 10 ∨ (a = 100 ∧ 64 ≤ b ∧ b ≤ 127) ∨ a = 127 ∨ (a = 169 ∧ b = 254) ∨ (a = 172 ∧ 16 ≤ b ∧ b ≤ 31)
    ∨ (a = 192 ∧ b = 0 ∧ c = 2) ∨ (a = 192 ∧ b = 168) ∨ (a = 198 ∧ 18 ≤ b ∧ b ≤ 19) ∨ (a = 198 ∧ b = 51 ∧ c = 100)
    ∨ (a = 203 ∧ b = 0 ∧ c = 113) ∨ 224 ≤ a := by
  unfold nonRoutable4 inBlock ip4 at h
  simp only [Nat.reduceSub, Nat.reducePow, Nat.reduceMul, Nat.reduceAdd, Nat.reduceDiv] at h
  -- block by block: each membership gives the octet fact in the same position
  exact h.imp (by omega) <| Or.imp (by omega) <| Or.imp (by omega) <| Or.imp (by omega) <| Or.imp (by omega) <|
    Or.imp (by omega) <| Or.imp (by omega) <| Or.imp (by omega) <| Or.imp (by omega) <| Or.imp (by omega) <|
    Or.imp (by omega) (by omega)

section groups
variable {g0 g1 g2 g3 g4 g5 g6 g7 k0 k1 k2 k3 k4 k5 k6 k7 : Nat}

theorem ip6_snoc : ip6 g0 g1 g2 g3 g4 g5 g6 g7 = ip6 0 g0 g1 g2 g3 g4 g5 g6 * 2 ^ 16 + g7 := by
  simp only [ip6, Nat.add_mul, Nat.mul_assoc, ← Nat.pow_add, Nat.zero_mul, Nat.zero_add]

theorem ip6_shift (h : g7 < 65536) : ip6 g0 g1 g2 g3 g4 g5 g6 g7 / 2 ^ 16 = ip6 0 g0 g1 g2 g3 g4 g5 g6 := by
  rw [ip6_snoc, Nat.mul_comm, Nat.mul_add_div (by decide), Nat.div_eq_of_lt h, Nat.add_zero]

theorem ip6_last (h : g7 < 65536) : ip6 g0 g1 g2 g3 g4 g5 g6 g7 % 2 ^ 16 = g7 := by
  rw [ip6_snoc, Nat.mul_comm, Nat.mul_add_mod, Nat.mod_eq_of_lt h]

theorem ip6_low : ip6 0 0 0 0 0 0 0 g7 = g7 := by
  simp only [ip6, Nat.zero_mul, Nat.zero_add]

theorem ip6_inj_step (hg : g7 < 65536) (hk : k7 < 65536)
    (h : ip6 g0 g1 g2 g3 g4 g5 g6 g7 = ip6 k0 k1 k2 k3 k4 k5 k6 k7) :
    ip6 0 g0 g1 g2 g3 g4 g5 g6 = ip6 0 k0 k1 k2 k3 k4 k5 k6 ∧ g7 = k7 :=
  ⟨by rw [← ip6_shift hg, h, ip6_shift hk], by rw [← ip6_last hg, h, ip6_last hk]⟩

-- Each lemma below takes the bounds included so far, in this order: `h6 h7`, then `h2 … h7`, then `h1 … h7`.
variable (h1 : g1 < 65536) (h2 : g2 < 65536) (h3 : g3 < 65536) (h4 : g4 < 65536) (h5 : g5 < 65536)
  (h6 : g6 < 65536) (h7 : g7 < 65536)
include h6 h7

theorem ip6_div32 : ip6 g0 g1 g2 g3 g4 g5 g6 g7 / 2 ^ 32 = ip6 0 0 g0 g1 g2 g3 g4 g5 := by
  rw [show (2 : Nat) ^ 32 = 2 ^ 16 * 2 ^ 16 from rfl, ← Nat.div_div_eq_div_mul, ip6_shift h7, ip6_shift h6]

theorem ip6_mod32 : ip6 g0 g1 g2 g3 g4 g5 g6 g7 % 2 ^ 32 = g6 * 2 ^ 16 + g7 := by
  rw [show (2 : Nat) ^ 32 = 2 ^ 16 * 2 ^ 16 from rfl, Nat.mod_mul, ip6_shift h7, ip6_last h7, ip6_last h6,
    Nat.mul_comm, Nat.add_comm]

include h2 h3 h4 h5
theorem ip6_div96 : ip6 g0 g1 g2 g3 g4 g5 g6 g7 / 2 ^ 96 = ip6 0 0 0 0 0 0 g0 g1 := by
  rw [show (2 : Nat) ^ 96 = 2 ^ 32 * 2 ^ 32 * 2 ^ 32 from rfl, ← Nat.div_div_eq_div_mul, ← Nat.div_div_eq_div_mul,
    ip6_div32 h6 h7, ip6_div32 h4 h5, ip6_div32 h2 h3]

include h1
theorem ip6_div112 : ip6 g0 g1 g2 g3 g4 g5 g6 g7 / 2 ^ 112 = g0 := by
  rw [show (2 : Nat) ^ 112 = 2 ^ 96 * 2 ^ 16 from rfl, ← Nat.div_div_eq_div_mul, ip6_div96 h2 h3 h4 h5 h6 h7,
    ip6_shift h1, ip6_low]

theorem inBlock_top (b len : Nat) (hl : len ≤ 16)
    (h : inBlock 128 (ip6 g0 g1 g2 g3 g4 g5 g6 g7) (ip6 b 0 0 0 0 0 0 0) len) :
    g0 / 2 ^ (16 - len) = b / 2 ^ (16 - len) := by
  have z : (0 : Nat) < 65536 := by decide
  rwa [inBlock, show 128 - len = 112 + (16 - len) by omega, Nat.pow_add, ← Nat.div_div_eq_div_mul,
    ← Nat.div_div_eq_div_mul, ip6_div112 h1 h2 h3 h4 h5 h6 h7, ip6_div112 z z z z z z z] at h

theorem ip6_inj (hk : ∀ k ∈ [k1, k2, k3, k4, k5, k6, k7], k < 65536)
    (h : ip6 g0 g1 g2 g3 g4 g5 g6 g7 = ip6 k0 k1 k2 k3 k4 k5 k6 k7) :
    g0 = k0 ∧ g1 = k1 ∧ g2 = k2 ∧ g3 = k3 ∧ g4 = k4 ∧ g5 = k5 ∧ g6 = k6 ∧ g7 = k7 := by
  simp only [List.forall_mem_cons] at hk
  obtain ⟨h, e7⟩ := ip6_inj_step h7 hk.2.2.2.2.2.2.1 h
  obtain ⟨h, e6⟩ := ip6_inj_step h6 hk.2.2.2.2.2.1 h
  obtain ⟨h, e5⟩ := ip6_inj_step h5 hk.2.2.2.2.1 h
  obtain ⟨h, e4⟩ := ip6_inj_step h4 hk.2.2.2.1 h
  obtain ⟨h, e3⟩ := ip6_inj_step h3 hk.2.2.1 h
  obtain ⟨h, e2⟩ := ip6_inj_step h2 hk.2.1 h
  obtain ⟨h, e1⟩ := ip6_inj_step h1 hk.1 h
  rw [ip6_low, ip6_low] at h
  exact ⟨h, e1, e2, e3, e4, e5, e6, e7⟩
end groups

theorem v6_blocks (g0 g1 g2 g3 g4 g5 g6 g7 : Nat)
    (h0 : g0 < 65536) (h1 : g1 < 65536) (h2 : g2 < 65536) (h3 : g3 < 65536)
    (h4 : g4 < 65536) (h5 : g5 < 65536) (h6 : g6 < 65536) (h7 : g7 < 65536)
    (h : nonRoutable6 (ip6 g0 g1 g2 g3 g4 g5 g6 g7)) :
    (g0 = 0 ∧ g1 = 0 ∧ g2 = 0 ∧ g3 = 0 ∧ g4 = 0 ∧ g5 = 0 ∧ g6 = 0 ∧ g7 = 0)
    ∨ (g0 = 0 ∧ g1 = 0 ∧ g2 = 0 ∧ g3 = 0 ∧ g4 = 0 ∧ g5 = 0 ∧ g6 = 0 ∧ g7 = 1)
    ∨ (0xfc00 ≤ g0 ∧ g0 ≤ 0xfdff)
    ∨ (0xfe80 ≤ g0 ∧ g0 ≤ 0xfebf)
    ∨ 0xff00 ≤ g0
    ∨ (g0 = 0x2001 ∧ g1 = 0xdb8)
    ∨ (g0 = 0 ∧ g1 = 0 ∧ g2 = 0 ∧ g3 = 0 ∧ g4 = 0 ∧ g5 = 0xffff ∧
        nonRoutable4 (ip4 (g6 / 256) (g6 % 256) (g7 / 256) (g7 % 256))) := by
  have z : (0 : Nat) < 65536 := by decide
  have top := fun b len hl => inBlock_top h1 h2 h3 h4 h5 h6 h7 (g0 := g0) b len hl
  -- disjunct by disjunct, in the order of `nonRoutable6`
  refine h.imp (ip6_inj h1 h2 h3 h4 h5 h6 h7 (k0 := 0) (k7 := 0) (by decide)) <|
    Or.imp (ip6_inj h1 h2 h3 h4 h5 h6 h7 (k0 := 0) (k7 := 1) (by decide)) <|
    Or.imp (fun h => by have := top _ 7 (by decide) h; omega) <|
    Or.imp (fun h => by have := top _ 10 (by decide) h; omega) <|
    Or.imp (fun h => by have := top _ 8 (by decide) h; omega) <| Or.imp (fun h => ?_) fun ⟨h, hv4⟩ => ?_
  · rw [inBlock, ip6_div96 h2 h3 h4 h5 h6 h7, ip6_div96 z z z z z z] at h
    have := ip6_inj z z z z z h0 h1 (by decide) h
    exact ⟨this.2.2.2.2.2.2.1, this.2.2.2.2.2.2.2⟩
  · rw [inBlock, ip6_div32 h6 h7, ip6_div32 z z] at h
    obtain ⟨-, -, e0, e1, e2, e3, e4, e5⟩ := ip6_inj z h0 h1 h2 h3 h4 h5 (by decide) h
    rw [ip6_mod32 h6 h7, show g6 * 2 ^ 16 + g7 = ip4 (g6 / 256) (g6 % 256) (g7 / 256) (g7 % 256) by
      unfold ip4; omega] at hv4
    exact ⟨e0, e1, e2, e3, e4, e5, hv4⟩

end EphVerif.C34L
