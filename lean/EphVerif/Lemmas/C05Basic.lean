/-
C05 lemmas, part 1: what each building block of the node model (locator table, routing table, association
lists) can put into / leave in the state.  Deadline facts are stated for an arbitrary predicate `P`: the C05
invariant instantiates it with `T < ·` (`T` the last cleanup), the system-level bound with `· ≤ now + max_ttl`.
-/
import EphVerif.Model.NodeCleanup
import EphVerif.Lemmas.C01Refine
import EphVerif.Lemmas.C06Cut

namespace EphVerif.C05L
open EphVerif.NodeCleanup
open EphVerif.ChunkStore (aget aset adel Recs Uniq)
open EphVerif.Providers (Table Loc Holder)

theorem cmp_true (a b : Int) : cmp true a b = decide (a ≥ b) := rfl

/-- whichever comparison the source uses, what ends after `a` has not expired at `a` -/
theorem cmp_eq_false {b : Bool} {a e : Int} (h : a < e) : cmp b a e = false := by
  cases b <;> simp only [cmp, if_true, Bool.false_eq_true, if_false, decide_eq_false_iff_not] <;> omega

theorem manifestDead_iff (W e : Int) : manifestDead W e = true ↔ e ≤ W := by
  simp [manifestDead, cmp, EphVerif.Gen.C05.manifestPruneIsGe]

theorem shardDead_iff (now e : Int) : shardDead now e = true ↔ e ≤ now := by
  simp [shardDead, cmp, EphVerif.Gen.C05.shardSweepIsGe]

theorem shardLive_iff (s : State) (c : String) : shardLive s c = true ↔ ∃ d, aget s.shards c = some d ∧ s.now < d := by
  unfold shardLive
  split
  · next d hd =>
    simp only [cmp, EphVerif.Gen.C05.shardRecordExpiredIsGe, if_true, Bool.not_eq_true', decide_eq_false_iff_not, hd,
      Option.some.injEq, exists_eq_left']
    omega
  · next hn => simp only [hn, Bool.false_eq_true, reduceCtorEq, false_and, exists_false]

theorem gate_iff (cfg : Cfg) (s : State) :
    gate cfg s = true ↔ s.now - s.lastCleanup ≥ cfg.node.cleanupInterval * 1000000000 := by
  simp [gate, cmp, EphVerif.Gen.C05.tickGateIsGe, ns]

theorem lt_of_not_dead {dead : Int → Int → Bool} (hd : ∀ now e, dead now e = true ↔ e ≤ now) {now e : Int}
    (h : (!dead now e) = true) : now < e := by
  rw [Bool.not_eq_true', ← Bool.not_eq_true, hd] at h
  omega

theorem getRecord_mem {recs : Recs} {now : Int} {c : String} {r : ChunkStore.Rec}
    (h : ChunkStore.getRecord recs now c = some r) : (c, r) ∈ recs ∧ now < r.expires :=
  have ⟨hr, hx⟩ := ChunkStore.getRecord_eq_some.mp h
  ⟨ChunkStore.mem_of_aget hr, hx⟩

theorem manifestTtl_some {cfg : Cfg} {W e t : Int} (h : manifestTtl cfg W e = some t) : W < e ∧ 0 < t := by
  simp only [manifestTtl, Option.ite_none_left_eq_some, Option.some.injEq] at h
  omega

theorem clampChunkTtl_pos (a mn mx : Int) : 0 < ChunkStore.clampChunkTtl a mn mx := by
  simp only [ChunkStore.clampChunkTtl, EphVerif.Gen.C01.kMinAllowedManifestTtlSec]
  split <;> omega

theorem nodeTtl_pos (nc : ChunkStore.NodeCfg) (ttl : Int) : 0 < ChunkStore.nodeTtl nc ttl :=
  clampChunkTtl_pos _ _ _

theorem mul_ns_pos {t : Int} (h : 0 < t) : 0 < t * ns := Int.mul_pos h (by decide)

section Assoc
variable {κ : Type} {ν : Type} [DecidableEq κ]

theorem mem_aset {l : List (κ × ν)} {x : κ} {v : ν} {e : κ × ν} :
    e ∈ aset l x v ↔ e = (x, v) ∨ (e ∈ l ∧ e.1 ≠ x) := by
  simp [aset, adel]

theorem forall_mem_aset {P : κ × ν → Prop} {l : List (κ × ν)} (h : ∀ e ∈ l, P e) {x : κ} {v : ν} (hv : P (x, v)) :
    ∀ e ∈ aset l x v, P e := by
  intro e he
  rcases mem_aset.mp he with rfl | ⟨he, _⟩
  · exact hv
  · exact h e he

theorem aget_filter_of_pos {l : List (κ × ν)} {x : κ} {v : ν} (p : κ × ν → Bool)
    (h : aget l x = some v) (hp : p (x, v) = true) : aget (l.filter p) x = some v := by
  induction l with
  | nil => cases h
  | cons e l ih =>
    obtain ⟨k, w⟩ := e
    by_cases hk : k = x
    · subst hk
      cases (if_pos rfl).symm.trans h
      simp [List.filter, hp, aget]
    · rw [aget, if_neg hk] at h
      by_cases hq : p (k, w) = true <;> simp [List.filter, hq, aget, hk, ih h]

theorem aget_isSome_of_mem {l : List (κ × ν)} {x : κ} {v : ν} (h : (x, v) ∈ l) : (aget l x).isSome = true := by
  induction l with
  | nil => cases h
  | cons e l ih =>
    obtain ⟨k, w⟩ := e
    by_cases hk : k = x
    · simp [aget, hk]
    · rw [aget, if_neg hk]
      rcases List.mem_cons.mp h with h | h
      · cases h; exact absurd rfl hk
      · exact ih h

theorem aget_aset (l : List (κ × ν)) (x y : κ) (v : ν) :
    aget (aset l x v) y = if y = x then some v else aget l y := by
  split
  · next h => rw [h, ChunkStore.aget_aset_self]
  · next h => rw [ChunkStore.aget_aset_ne l v (Ne.symm h)]

end Assoc

def Shrunk (l' l : Loc) : Prop := l'.exp = l.exp ∧ ∀ h ∈ l'.holders, h ∈ l.holders

theorem Shrunk.refl (l : Loc) : Shrunk l l := ⟨rfl, fun _ h => h⟩

theorem Shrunk.trans {a b c : Loc} (h1 : Shrunk a b) (h2 : Shrunk b c) : Shrunk a c :=
  ⟨h1.1.trans h2.1, fun x hx => h2.2 x (h1.2 x hx)⟩

theorem Shrunk.filter (l : Loc) (q : Holder → Bool) : Shrunk { l with holders := l.holders.filter q } l :=
  ⟨rfl, fun _ h => (List.mem_filter.mp h).1⟩

def Shrinks (t' t : Table) : Prop := ∀ k l', t' k = some l' → ∃ l, t k = some l ∧ Shrunk l' l

theorem Shrinks.refl (t : Table) : Shrinks t t := fun _ l' h => ⟨l', h, .refl l'⟩

theorem Shrinks.trans {a b c : Table} (h1 : Shrinks a b) (h2 : Shrinks b c) : Shrinks a c := by
  intro k l' h
  obtain ⟨l1, hl1, s1⟩ := h1 k l' h
  obtain ⟨l2, hl2, s2⟩ := h2 k l1 hl1
  exact ⟨l2, hl2, s1.trans s2⟩

theorem set_get (t : Table) (c : String) (v : Option Loc) (k : String) :
    (t.set c v) k = if k = c then v else t k := rfl

theorem shrinks_set {t : Table} {c : String} {v : Option Loc} (hv : ∀ l', v = some l' → ∃ l, t c = some l ∧ Shrunk l' l) :
    Shrinks (t.set c v) t := by
  intro k l' h
  rw [set_get] at h
  split at h
  · next hk => exact hk ▸ hv l' h
  · exact ⟨l', h, .refl l'⟩

theorem shrinks_set_none (t : Table) (c : String) : Shrinks (t.set c none) t := shrinks_set fun _ h => nomatch h

theorem shrinks_set_filter {t : Table} {c : String} {l : Loc} (hl : t c = some l) (q : Holder → Bool) :
    Shrinks (t.set c (some { l with holders := l.holders.filter q })) t :=
  shrinks_set fun _ h => Option.some.inj h ▸ ⟨l, hl, .filter l q⟩

theorem findProviders_shrinks (t : Table) (now : Int) (c : String) : Shrinks (Providers.findProviders t now c).1 t := by
  unfold Providers.findProviders
  split
  · exact .refl t
  · next hl =>
    dsimp only
    split
    · exact shrinks_set_none t c
    · exact shrinks_set_filter hl _

theorem withdraw_shrinks (t : Table) (c p : String) : Shrinks (Providers.withdraw t c p) t := by
  unfold Providers.withdraw
  split
  · exact .refl t
  · next hl =>
    dsimp only
    split
    · exact shrinks_set_none t c
    · exact shrinks_set_filter hl _

theorem withdraw_removes {t : Table} {c p : String} {l' : Loc} (h : (Providers.withdraw t c p) c = some l') :
    ∀ x ∈ l'.holders, x.peer ≠ p := by
  unfold Providers.withdraw at h
  split at h
  · next hn => rw [hn] at h; cases h
  · dsimp only at h
    split at h <;> rw [set_get, if_pos rfl] at h <;> cases h
    exact fun x hx => by simpa using (List.mem_filter.mp hx).2

theorem withdrawAll_shrinks (self : String) (cs : List String) (t : Table) : Shrinks (withdrawAll t self cs) t := by
  induction cs generalizing t with
  | nil => exact .refl t
  | cons c cs ih => exact (ih _).trans (withdraw_shrinks t c self)

theorem withdrawAll_removes {self : String} {cs : List String} {t : Table} {k : String} {l' : Loc} (hk : k ∈ cs)
    (h : (withdrawAll t self cs) k = some l') : ∀ x ∈ l'.holders, x.peer ≠ self := by
  induction cs generalizing t with
  | nil => cases hk
  | cons c cs ih =>
    rcases List.mem_cons.mp hk with rfl | hk
    · obtain ⟨l1, h1, hs⟩ := withdrawAll_shrinks self cs _ k l' h
      exact fun x hx => withdraw_removes h1 x (hs.2 x hx)
    · exact ih hk h

theorem sweep_shrinks (t : Table) (now : Int) : Shrinks (Providers.sweep t now) t := by
  intro k l' h
  simp only [Providers.sweep] at h
  split at h
  · cases h
  · next l hl =>
    split at h <;> cases h
    exact ⟨l, hl, .filter l _⟩

theorem sweep_live {t : Table} {now : Int} {k : String} {l' : Loc} (h : (Providers.sweep t now) k = some l') :
    now < l'.exp ∧ ∀ x ∈ l'.holders, now < x.exp := by
  simp only [Providers.sweep] at h
  split at h
  · cases h
  · next l _ =>
    split at h <;> cases h
    next hc =>
    simp only [Bool.or_eq_true, decide_eq_true_eq, not_or] at hc
    refine ⟨by show now < l.exp; omega, fun x hx => ?_⟩
    have := (List.mem_filter.mp hx).2
    simp only [Providers.expired, Bool.not_eq_true', decide_eq_false_iff_not] at this
    omega

theorem mem_cut {n : Nat} {base : List Holder} {hint : Option (List String)} {x : Holder}
    (h : x ∈ Providers.cut n base hint) : x ∈ base := by
  unfold Providers.cut at h
  have fallback : x ∈ (Providers.sortDesc base).take n → x ∈ base := fun hh =>
    (EphVerif.C06L.sortDesc_perm base).mem_iff.mp (List.mem_of_mem_take hh)
  split at h
  · split at h
    · exact (List.mem_filter.mp h).1
    · exact fallback h
  · exact fallback h

theorem mem_holdersOf {t : Table} {c : String} {x : Holder} (h : x ∈ Providers.holdersOf t c) :
    ∃ l, t c = some l ∧ x ∈ l.holders := by
  unfold Providers.holdersOf at h
  split at h
  · next l hl => exact ⟨l, hl, h⟩
  · cases h

theorem addContact_get {t : Table} {now : Int} {c p : String} {ttlNs : Int} {hint : Option (List String)}
    {k : String} {l' : Loc} (h : (Providers.addContact t now c p ttlNs hint) k = some l') :
    (k ≠ c ∧ t k = some l') ∨
    (k = c ∧ l'.exp = Providers.maxExp l'.holders (now + ttlNs) ∧
      ∀ x ∈ l'.holders, (x = ⟨p, now + ttlNs⟩) ∨ (x.peer ≠ p ∧ ∃ l, t c = some l ∧ x ∈ l.holders)) := by
  simp only [Providers.addContact] at h
  rw [set_get] at h
  split at h
  · next hk =>
    cases h
    refine .inr ⟨hk, rfl, fun x hx => ?_⟩
    have hb : x ∈ Providers.addBase (Providers.holdersOf t c) p (now + ttlNs) := by
      split at hx
      · exact mem_cut hx
      · exact hx
    simp only [Providers.addBase, List.mem_append, List.mem_filter, List.mem_singleton] at hb
    rcases hb with ⟨h1, h2⟩ | h1
    · exact .inr ⟨by simpa using h2, mem_holdersOf h1⟩
    · exact .inl h1
  · next hk => exact .inl ⟨hk, h⟩

def AllLocs (P : Int → Prop) (t : Table) : Prop := ∀ c l, t c = some l → P l.exp ∧ ∀ h ∈ l.holders, P h.exp

theorem AllLocs.shrinks {P : Int → Prop} {t t' : Table} (h : AllLocs P t) (hs : Shrinks t' t) : AllLocs P t' := by
  intro k l' hk
  obtain ⟨l, hl, he, hh⟩ := hs k l' hk
  exact ⟨he ▸ (h k l hl).1, fun x hx => (h k l hl).2 x (hh x hx)⟩

theorem maxExp_all {P : Int → Prop} {l : List Holder} {d : Int} (hl : ∀ h ∈ l, P h.exp) (hd : P d) :
    P (Providers.maxExp l d) := by
  unfold Providers.maxExp
  induction l generalizing d with
  | nil => exact hd
  | cons x xs ih =>
    refine ih (fun h hh => hl h (List.mem_cons_of_mem _ hh)) ?_
    show P (max d x.exp)
    rw [Int.max_def]
    split
    · exact hl x (List.mem_cons_self ..)
    · exact hd

theorem AllLocs.addContact {P : Int → Prop} {t : Table} (h : AllLocs P t) {now ttlNs : Int} (hnew : P (now + ttlNs))
    {c p : String} {hint : Option (List String)} : AllLocs P (Providers.addContact t now c p ttlNs hint) := by
  intro k l' hk
  rcases addContact_get hk with ⟨_, hold⟩ | ⟨_, hexp, hh⟩
  · exact h k l' hold
  · have hall : ∀ x ∈ l'.holders, P x.exp := fun x hx => by
      rcases hh x hx with rfl | ⟨_, l, hl, hx⟩
      · exact hnew
      · exact (h c l hl).2 x hx
    exact ⟨hexp ▸ maxExp_all hall hnew, hall⟩

theorem mem_upsertList {now : Int} {c x : Routing.Contact} {b : List Routing.Contact}
    (h : x ∈ Routing.upsertList now c b) : x.exp = c.exp ∨ x ∈ b := by
  simp only [Routing.upsertList] at h
  split at h <;> rcases List.mem_append.mp h with h | h
  · exact .inr (List.mem_filter.mp (List.mem_of_mem_eraseP h)).1
  · exact .inl (List.mem_singleton.mp h ▸ rfl)
  · right
    split at h
    · exact (List.mem_filter.mp (List.mem_of_mem_drop h)).1
    · exact (List.mem_filter.mp h).1
  · exact .inl (List.mem_singleton.mp h ▸ rfl)

theorem mem_addContactBucket {t : Routing.Table} {now : Int} {c x : Routing.Contact} {ttlNs : Int} {i : Nat}
    (h : x ∈ (Routing.addContactBucket t now c ttlNs).buckets i) : x.exp = now + ttlNs ∨ x ∈ t.buckets i := by
  unfold Routing.addContactBucket Routing.upsertBucket at h
  split at h
  · exact .inr h
  · dsimp only at h
    split at h
    · next hij => exact hij ▸ mem_upsertList h
    · exact .inr h

theorem mem_sweepBuckets {t : Routing.Table} {now : Int} {x : Routing.Contact} {i : Nat}
    (h : x ∈ (Routing.sweepBuckets t now).buckets i) : x ∈ t.buckets i ∧ now < x.exp := by
  obtain ⟨h1, h2⟩ := List.mem_filter.mp h
  simp only [Routing.live, Routing.expired, Bool.not_eq_true', decide_eq_false_iff_not] at h2
  exact ⟨h1, by omega⟩

theorem mem_allContacts {t : Routing.Table} {x : Routing.Contact} (h : x ∈ Routing.allContacts t) :
    ∃ i, x ∈ t.buckets i := by
  obtain ⟨i, _, hi⟩ := List.mem_flatMap.mp h
  exact ⟨i, hi⟩

def AllRoutes (P : Int → Prop) (r : Routing.Table) : Prop := ∀ i, ∀ x ∈ r.buckets i, P x.exp

theorem AllRoutes.addContact {P : Int → Prop} {r : Routing.Table} (h : AllRoutes P r) {now ttlNs : Int}
    (hnew : P (now + ttlNs)) {c : Routing.Contact} : AllRoutes P (Routing.addContactBucket r now c ttlNs) := by
  intro i x hx
  rcases mem_addContactBucket hx with hx | hx
  · exact hx ▸ hnew
  · exact h i x hx

end EphVerif.C05L
