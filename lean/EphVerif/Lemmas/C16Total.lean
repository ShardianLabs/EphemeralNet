/-
Helper lemmas for C16 and C13: the decoders of `Model/Message.lean` never produce `oob` — every
checked read sits behind a length test that covers it.  Independent of every version constant.
Core Lean only.

Each proof follows its decoder construct by construct: a length test (`guard_ne_oob`) hands its
negation to the reads behind it (`chk_rd_ne_oob`, `chk_rdNat_ne_oob`), whose bounds `omega` reads off it.
-/
import EphVerif.Lemmas.C15Bytes

namespace EphVerif.Message
open EphVerif.Gen.C15

section
variable {α β : Type} {d : Bytes} {off n : Nat} {c : Prop} [Decidable c]

theorem chk_rd_ne_oob {k : Bytes → Outcome β} (h : off + n ≤ d.length) (hk : ∀ b, k b ≠ .oob) :
    chk (rd d off n) k ≠ .oob := by
  rw [rd_some h]; exact hk _

/-- `rdU8`, `rdU32`, `rdU64` -/
theorem chk_rdNat_ne_oob {k : Nat → Outcome β} (h : off + n ≤ d.length) (hk : ∀ v, k v ≠ .oob) :
    chk ((rd d off n).map beNat) k ≠ .oob := by
  rw [rd_some h]; exact hk _

theorem ite_ne_oob {x y : Outcome β} (hx : c → x ≠ .oob) (hy : ¬ c → y ≠ .oob) : (if c then x else y) ≠ .oob := by
  split
  · exact hx ‹_›
  · exact hy ‹_›

theorem guard_ne_oob {x : Outcome β} (hx : ¬ c → x ≠ .oob) : (if c then .reject else x) ≠ .oob :=
  ite_ne_oob (fun _ => nofun) hx

theorem map_ne_oob {f : α → β} {o : Outcome α} (h : o ≠ .oob) : o.map f ≠ .oob := by
  cases o <;> simp_all [Outcome.map]
end

theorem parseAnnounce_ne_oob (d : Bytes) (pow : Bool) : parseAnnounce d pow ≠ .oob :=
  guard_ne_oob fun _ =>
  chk_rdNat_ne_oob (by omega) fun _ => chk_rdNat_ne_oob (by omega) fun _ =>
  chk_rdNat_ne_oob (by omega) fun _ => chk_rdNat_ne_oob (by omega) fun _ =>
  guard_ne_oob fun h =>
  chk_rd_ne_oob (by omega) fun _ => chk_rd_ne_oob (by omega) fun _ => chk_rd_ne_oob (by omega) fun _ =>
  chk_rd_ne_oob (by omega) fun _ => chk_rd_ne_oob (by omega) fun _ =>
  ite_ne_oob (fun hp => chk_rdNat_ne_oob (by simp only [hp, if_true] at h; omega) fun _ => nofun) fun _ => nofun

theorem decodePayloadV1_ne_oob (t : Nat) (d : Bytes) : decodePayloadV1 t d ≠ .oob :=
  ite_ne_oob (fun _ => map_ne_oob (parseAnnounce_ne_oob d false)) fun _ =>
  ite_ne_oob (fun _ => guard_ne_oob fun _ =>
    chk_rd_ne_oob (by omega) fun _ => chk_rd_ne_oob (by omega) fun _ => nofun) fun _ =>
  ite_ne_oob (fun _ => guard_ne_oob fun _ =>
    chk_rdNat_ne_oob (by omega) fun _ => chk_rdNat_ne_oob (by omega) fun _ => guard_ne_oob fun _ =>
    chk_rd_ne_oob (by omega) fun _ => chk_rd_ne_oob (by omega) fun _ => nofun) fun _ =>
  ite_ne_oob (fun _ => guard_ne_oob fun _ =>
    chk_rdNat_ne_oob (by omega) fun _ => guard_ne_oob fun _ =>
    chk_rd_ne_oob (by omega) fun _ => chk_rd_ne_oob (by omega) fun _ => nofun) fun _ =>
  ite_ne_oob (fun _ => guard_ne_oob fun _ =>
    chk_rdNat_ne_oob (by omega) fun _ => chk_rdNat_ne_oob (by omega) fun _ => chk_rdNat_ne_oob (by omega) fun _ =>
    nofun) fun _ =>
  ite_ne_oob (fun _ => guard_ne_oob fun _ =>
    chk_rdNat_ne_oob (by omega) fun _ => guard_ne_oob fun _ =>
    chk_rdNat_ne_oob (by omega) fun _ => chk_rdNat_ne_oob (by omega) fun _ => nofun) fun _ => nofun

theorem decode_ne_oob (buf : Bytes) : decode buf ≠ .oob :=
  guard_ne_oob fun _ => chk_rdNat_ne_oob (by omega) fun _ => chk_rdNat_ne_oob (by omega) fun _ =>
  guard_ne_oob fun _ => map_ne_oob <|
    ite_ne_oob (fun _ => map_ne_oob (parseAnnounce_ne_oob _ true)) fun _ => decodePayloadV1_ne_oob _ _

/-- past its length test, both cuts of `decode_signed` (`span.first`, `span.last`) lie inside the buffer -/
theorem decodeSigned_cuts (mac : Bytes → Bytes → Bytes) (buf key : Bytes) :
    decodeSigned mac buf key =
      if buf.length < kDigestSize then .reject
      else if !hmacVerify mac key (buf.take (buf.length - kDigestSize)) (buf.drop (buf.length - kDigestSize)) then .reject
      else decode (buf.take (buf.length - kDigestSize)) := by
  unfold decodeSigned
  split
  · rfl
  · simp only [spanFirst, spanLast, if_pos (Nat.sub_le _ _), if_pos (Nat.le_of_not_lt ‹_›), chk_some]

theorem decodeSigned_ne_oob (mac : Bytes → Bytes → Bytes) (buf key : Bytes) : decodeSigned mac buf key ≠ .oob :=
  decodeSigned_cuts mac buf key ▸ guard_ne_oob fun _ => guard_ne_oob fun _ => decode_ne_oob _

end EphVerif.Message
