/-
The sliding-window limiter (`allow_store_request` / `allow_stream_fetch`): whatever the sequence
of calls at non-decreasing instants, at most `L` calls are allowed in every closed window of `W` ns.
-/
import EphVerif.Model.Control
import EphVerif.Spec.Control

namespace EphVerif.Control

def countIn (W : Int) (acc : List Int) (t : Int) : Nat :=
  (acc.filter fun x => decide (t ≤ x) && decide (x ≤ t + W)).length

def Bounded (W : Int) (L : Nat) (acc : List Int) : Prop := ∀ t : Int, countIn W acc t ≤ L

/-- the bucket `h` holds exactly the allowed instants `acc` that were within `W` of the last
    pruning instant `p` -/
def BucketInv (W now : Int) (h acc : List Int) : Prop :=
  ∃ p : Int, p ≤ now ∧ (∀ x ∈ acc, x ≤ p) ∧ h = acc.filter fun x => decide (p - x ≤ W)

theorem BucketInv.mono {W now now' : Int} {h acc : List Int} (hle : now ≤ now') (hi : BucketInv W now h acc) :
    BucketInv W now' h acc := by
  obtain ⟨p, hp, ha, hh⟩ := hi
  exact ⟨p, by omega, ha, hh⟩

theorem BucketInv.init (W now : Int) : BucketInv W now [] [] := ⟨now, by omega, nofun, rfl⟩

/-- over the property's 30 s window `Bounded` is the specification's `RateOk` -/
theorem Bounded.rateOk {W : Int} {L : Nat} {acc : List Int} (hW : W = Spec.Control.windowNs) (h : Bounded W L acc) :
    Spec.Control.RateOk L acc := by
  subst hW; exact h

theorem Bounded.nil (W : Int) (L : Nat) : Bounded W L [] := fun _ => Nat.zero_le _

theorem Bounded.sublist {W : Int} {L : Nat} {a b : List Int} (hs : a.Sublist b) (hb : Bounded W L b) : Bounded W L a :=
  fun t => Nat.le_trans (hs.filter _).length_le (hb t)

theorem prune_eq {Ws : Nat} {now : Int} {h acc : List Int} (hi : BucketInv (Ws * nsPerSecond) now h acc) :
    prune 1 Ws now h = acc.filter fun x => decide (now - x ≤ Ws * nsPerSecond) := by
  obtain ⟨p, hp, ha, rfl⟩ := hi
  unfold prune cmpGt
  rw [List.filter_filter]
  refine List.filter_congr fun x hx => ?_
  have := ha x hx
  rw [Bool.eq_iff_iff]
  simp only [↓reduceIte, Bool.and_eq_true, Bool.not_eq_eq_eq_not, Bool.not_true, decide_eq_false_iff_not, decide_eq_true_eq]
  omega

/-- **one call of the limiter** on a bucket in step with the allowed instants `acc`: the bucket stays in
    step and, if the call is allowed, `acc` extended by `now` is still within the limit -/
theorem allow_inv {Ws L : Nat} {now : Int} {h acc : List Int}
    (hi : BucketInv (Ws * nsPerSecond) now h acc) (hb : Bounded (Ws * nsPerSecond) L acc) :
    BucketInv (Ws * nsPerSecond) now (allow 1 1 Ws L now h).2 (acc ++ if (allow 1 1 Ws L now h).1 then [now] else []) ∧
    Bounded (Ws * nsPerSecond) L (acc ++ if (allow 1 1 Ws L now h).1 then [now] else []) := by
  have hW : (0 : Int) ≤ Ws * nsPerSecond := Int.mul_nonneg (Int.natCast_nonneg Ws) (by decide)
  have hle : ∀ x ∈ acc, x ≤ now := by
    obtain ⟨p, hp, ha, _⟩ := hi
    exact fun x hx => Int.le_trans (ha x hx) hp
  unfold allow
  rw [prune_eq hi]
  simp only [↓reduceIte]
  split
  · exact ⟨⟨now, Int.le_refl _, by simpa using hle, by simp⟩, by simpa using hb⟩
  · rename_i hlen
    refine ⟨⟨now, Int.le_refl _, ?_, ?_⟩, fun t => ?_⟩
    · intro x hx
      rcases List.mem_append.mp hx with hx | hx
      · exact hle x hx
      · exact Int.le_of_eq (by simpa using hx)
    · simp [List.filter_append, hW]
    · -- a window that contains `now` lies within `W` of `now`, where fewer than `L` instants are
      unfold countIn
      rw [if_pos rfl, List.filter_append, List.length_append]
      by_cases hin : t ≤ now ∧ now ≤ t + Ws * nsPerSecond
      · have : (acc.filter fun x => decide (t ≤ x) && decide (x ≤ t + Ws * nsPerSecond)).length
            ≤ (acc.filter fun x => decide (now - x ≤ Ws * nsPerSecond)).length := by
          rw [← List.countP_eq_length_filter, ← List.countP_eq_length_filter]
          exact List.countP_mono_left fun x _ hx => by
            simp only [Bool.and_eq_true, decide_eq_true_eq] at hx ⊢; omega
        have hone : ([now].filter fun x => decide (t ≤ x) && decide (x ≤ t + Ws * nsPerSecond)).length ≤ 1 :=
          List.length_filter_le _ [now]
        -- the limiter's test
        have hlim : (acc.filter fun x => decide (now - x ≤ Ws * nsPerSecond)).length < L :=
          Nat.not_le.mp fun h => hlen (decide_eq_true h)
        omega
      · have := hb t
        unfold countIn at this
        simpa [hin] using this

end EphVerif.Control
