/-
C11 helper lemmas: the wiring read from `Generated/C11.lean`; the one test `receiveChunk` and `decryptChunkWithManifest`
apply to a manifest and replica bytes (`Opens`), and that they accept exactly when it passes; the key a held chunk is read
with (`KeyedBy`), which manifests arriving without the chunk do not change.
-/
import EphVerif.Model.StorePipeline
import EphVerif.Proofs.C08
import EphVerif.Proofs.C09
import EphVerif.Proofs.C10

namespace EphVerif.C11L
open EphVerif EphVerif.StorePipeline EphVerif.Gen

theorem pick_head {α : Type} (role : String) (a : α) (rest : List (String × α)) (dflt : α) :
    pick role ((role, a) :: rest) dflt = a := by
  rw [pick, List.lookup_cons_self, Option.getD_some]

@[simp] theorem pick_storeEncryptId (a : Bytes) : pick C11.storeEncryptIdRole [("id", a)] [] = a := pick_head ..
@[simp] theorem pick_storeEncrypt (a : Bytes) : pick C11.storeEncryptRole [("payload", a)] [] = a := pick_head ..
@[simp] theorem pick_storeHash (a b : Bytes) : pick C11.storeHashRole [("payload", a), ("sealed", b)] [] = a := pick_head ..
@[simp] theorem pick_storePutData (a b : Bytes) :
    pick C11.storePutDataRole [("sealed", a), ("payload", b)] [] = a := pick_head ..
@[simp] theorem pick_storePutNonce (a : Bytes) : pick C11.storePutNonceRole [("sealed", a)] [] = a := pick_head ..
@[simp] theorem pick_storeSplit (a : Bytes) : pick C11.storeSplitRole [("key", a)] [] = a := pick_head ..
@[simp] theorem pick_storeManifestNonce (a : Bytes) : pick C11.storeManifestNonceRole [("sealed", a)] [] = a := pick_head ..
@[simp] theorem pick_fetchId (a : Bytes) : pick C11.fetchDecryptIdRole [("id", a)] [] = a := pick_head ..
@[simp] theorem pick_fetchData (a : Bytes) : pick C11.fetchDataRole [("record", a)] [] = a := pick_head ..
@[simp] theorem pick_fetchNonce (a : Bytes) : pick C11.fetchNonceRole [("record", a)] [] = a := pick_head ..
@[simp] theorem pick_receiveHash (a b : Bytes) :
    pick C11.receiveHashRole [("decrypted", a), ("ciphertext", b)] [] = a := pick_head ..
@[simp] theorem pick_receivePut (a b : Bytes) :
    pick C11.receivePutDataRole [("ciphertext", a), ("decrypted", b)] [] = a := pick_head ..
@[simp] theorem pick_receiveReturn (a b : Bytes) :
    pick C11.receiveReturnRole [("decrypted", a), ("ciphertext", b)] [] = a := pick_head ..
@[simp] theorem pick_cliHash (a b : Bytes) :
    pick C11.cliHashRole [("decrypted", a), ("ciphertext", b)] [] = a := pick_head ..
@[simp] theorem pick_cliReturn (a b : Bytes) :
    pick C11.cliReturnRole [("decrypted", a), ("ciphertext", b)] [] = a := pick_head ..
@[simp] theorem receive_id (m : Manifest) : manifestBytes m C11.receiveDecryptIdArg = m.chunkId := pick_head ..
@[simp] theorem receive_nonce (m : Manifest) : manifestBytes m C11.receiveDecryptNonceArg = m.nonce := rfl
@[simp] theorem receive_threshold (m : Manifest) : manifestNat m C11.receiveCombineThresholdArg = m.threshold := pick_head ..
@[simp] theorem cli_id (m : Manifest) : manifestBytes m C11.cliDecryptIdArg = m.chunkId := pick_head ..
@[simp] theorem cli_nonce (m : Manifest) : manifestBytes m C11.cliDecryptNonceArg = m.nonce := rfl
@[simp] theorem cli_threshold (m : Manifest) : manifestNat m C11.cliCombineThresholdArg = m.threshold := pick_head ..
@[simp] theorem receive_compare (d : Bytes) (m : Manifest) :
    comparePasses C11.receiveCompareRole d m = (d == m.chunkHash) := pick_head ..
@[simp] theorem cli_compare (d : Bytes) (m : Manifest) :
    comparePasses C11.cliCompareRole d m = (d == m.chunkHash) := pick_head ..

theorem ofNats_toNats (b : Bytes) : ofNats (toNats b) = b := by
  simp only [ofNats, toNats, List.map_map, Function.comp_def, UInt8.ofNat_toNat, List.map_id']

theorem toNats_secret (key : Bytes) (hk : key.length = 32) : C10.Secret (toNats key) := by
  refine ⟨(List.length_map _).trans hk, fun b hb => ?_⟩
  obtain ⟨x, _, rfl⟩ := List.mem_map.1 hb
  exact x.toNat_lt

theorem find_upsert {β : Type} (l : List (Bytes × β)) (k : Bytes) (v : β) : find (upsert l k v) k = some v :=
  List.lookup_cons_self

theorem find_upsert_ne {β : Type} (l : List (Bytes × β)) (k k' : Bytes) (v : β) (h : k' ≠ k) :
    find (upsert l k v) k' = find l k' := by
  have hk : (k' == k) = false := by simpa using h
  unfold find upsert
  rw [List.lookup_cons, hk]
  show List.lookup k' (l.filter fun e => e.1 != k) = List.lookup k' l
  induction l with
  | nil => rfl
  | cons e rest ih =>
    obtain ⟨a, b⟩ := e
    by_cases ha : a = k
    · subst ha
      rw [List.filter_cons, if_neg (by simp), List.lookup_cons, hk, ih]
    · rw [List.filter_cons, if_pos (by simpa using ha), List.lookup_cons, List.lookup_cons, ih]

theorem clampChunkTtl_mem {mn mx : Int} (x : Int) (h0 : 0 < mn) (h : mn ≤ mx) :
    mn ≤ clampChunkTtl x mn mx ∧ clampChunkTtl x mn mx ≤ mx := by
  simp only [clampChunkTtl]
  omega

theorem manifestTtl_whole {mn mx s : Int} (now : Int) (h0 : 0 < mn) (h1 : mn ≤ s) (h2 : s ≤ mx) :
    manifestTtl (now + s * 1000000000) now mn mx = some s := by
  have hd : Int.tdiv (now + s * 1000000000 - now) 1000000000 = s := by
    rw [show now + s * 1000000000 - now = s * 1000000000 by omega, Int.mul_tdiv_cancel _ (by decide)]
  simp only [manifestTtl, enforceManifestTtl, hd, Option.ite_none_left_eq_some, Option.some.injEq]
  omega

theorem manifestTtl_pos {E now mn mx ttl : Int} (h : manifestTtl E now mn mx = some ttl) : 1 ≤ ttl := by
  simp only [manifestTtl, enforceManifestTtl, Option.ite_none_left_eq_some, Option.some.injEq] at h
  omega

/-- the TTL `store_chunk` works with: the default for a non-positive request, clamped into the window -/
def sanitizedTtl (cfg : Config) (ttl : Int) : Int :=
  clampChunkTtl (if ttl > 0 then ttl else cfg.defaultTtl) cfg.minTtl cfg.maxTtl

def sealedData (key id payload nonce rk : Bytes) : Bytes := (ChaCha20.encrypt_with_key key id payload nonce rk).data

def recordOf (cfg : Config) (id payload : Bytes) (ttl : Int) (key nonce rk : Bytes) : Record :=
  { data := sealedData key id payload nonce rk, nonce := nonce, encrypted := true, ttl := sanitizedTtl cfg ttl }

def manifestOf (cfg : Config) (wallNowNs : Int) (id payload : Bytes) (ttl : Int) (nonce : Bytes)
    (shares : List Shamir.Share) : Manifest :=
  { chunkId := id, chunkHash := Model.Sha256.digest payload, nonce := nonce, threshold := effThreshold cfg,
    totalShares := effTotal cfg, expiresNs := wallNowNs + sanitizedTtl cfg ttl * 1000000000, shards := shares }

def nodeAfterStore (cfg : Config) (st : NodeState) (wallNowNs : Int) (id payload : Bytes) (ttl : Int)
    (key nonce rk : Bytes) (shares : List Shamir.Share) : NodeState :=
  { chunks := upsert st.chunks id (recordOf cfg id payload ttl key nonce rk)
    manifests := upsert st.manifests id (manifestOf cfg wallNowNs id payload ttl nonce shares)
    shardTable := upsert st.shardTable id
      { shards := shares, threshold := effThreshold cfg, totalShares := effTotal cfg, ttl := sanitizedTtl cfg ttl }
    announced := upsert st.announced id (sanitizedTtl cfg ttl)
    seeds := id :: st.seeds.filter (· != id) }

theorem eff_bounds (cfg : Config) (hT : cfg.shardThreshold ≤ 255) (hN : cfg.shardTotal ≤ 255) :
    1 ≤ effThreshold cfg ∧ effThreshold cfg ≤ effTotal cfg ∧ effTotal cfg ≤ 255 := by
  have e : C11.kStoreMinThreshold = 1 := rfl
  simp only [effThreshold, effTotal, e]
  omega

/-- the first `t` of `shards` pass `validate_shards` and combine to `k` -/
structure Reconstructs (shards : List Shamir.Share) (t : Nat) (k : List Nat) : Prop where
  pos : 0 < t
  enough : t ≤ shards.length
  combine : Shamir.combine shards t = .ok k

/-- With shard counts that fit their `uint8_t` fields `store_chunk` succeeds, with `n` shares of which any selection with `t`
    distinct indices in front — in particular the list as it stands — reconstructs the key. -/
theorem store_ok (cfg : Config) (hT : cfg.shardThreshold ≤ 255) (hN : cfg.shardTotal ≤ 255) (st : NodeState)
    (wallNowNs : Int) (id payload : Bytes) (ttl : Int) (key nonce rk : Bytes) (hk : key.length = 32) (rd : Nat → Nat) :
    ∃ shares, storeChunk cfg st wallNowNs id payload ttl key nonce rk rd =
        .value { node := nodeAfterStore cfg st wallNowNs id payload ttl key nonce rk shares
                 manifest := manifestOf cfg wallNowNs id payload ttl nonce shares } ∧
      shares.length = effTotal cfg ∧ Reconstructs shares (effThreshold cfg) (toNats key) ∧
      ∀ sel : List Shamir.Share, (∀ s ∈ sel, s ∈ shares) → effThreshold cfg ≤ sel.length →
        ((sel.take (effThreshold cfg)).map (·.index)).Nodup → Shamir.combine sel (effThreshold cfg) = .ok (toNats key) := by
  obtain ⟨ht, htn, hn⟩ := eff_bounds cfg hT hN
  obtain ⟨shares, hs, hlen, _, hnd, _⟩ := C10.split rd (toNats key) _ _ ht htn hn
  have hsel := C10.combine rd (toNats key) (toNats_secret key hk) _ _ ht htn hn shares hs
  refine ⟨shares, ?_, hlen, ⟨ht, by omega, hsel shares (fun _ h => h) (by omega) ?_⟩, hsel⟩
  · unfold storeChunk
    simp only [pick_storeEncryptId, pick_storeEncrypt, pick_storeHash, pick_storePutData, pick_storePutNonce,
      pick_storeSplit, pick_storeManifestNonce, hs]
    rfl
  · rw [List.map_take]
    exact hnd.sublist (List.take_sublist _ _)

theorem store_caches {cfg : Config} {st : NodeState} {wallNowNs : Int} {id payload : Bytes} {ttl : Int} {key nonce rk : Bytes}
    {rd : Nat → Nat} {r : Stored} (h : storeChunk cfg st wallNowNs id payload ttl key nonce rk rd = .value r) :
    r.manifest.chunkId = id ∧ find r.node.manifests id = some r.manifest := by
  cases hs : Shamir.split rd (toNats key) (effThreshold cfg) (effTotal cfg) <;>
    simp only [storeChunk, pick_storeSplit, hs, reduceCtorEq, Outcome.value.injEq] at h
  subst h
  exact ⟨rfl, find_upsert _ _ _⟩

theorem decrypt_sealed (key id payload nonce rk rk' : Bytes) (hz : ChaCha20.allZero key = false) :
    ChaCha20.decrypt_with_key (ofNats (toNats key)) id (sealedData key id payload nonce rk) nonce rk' = some payload := by
  rw [ofNats_toNats]
  exact C09.manager_roundtrip key id payload nonce rk rk' hz

/-- the node holds `record` for `id` and `fetch_chunk` reads it with key `k` -/
def KeyedBy (st : NodeState) (id : Bytes) (record : Record) (k : List Nat) : Prop :=
  find st.chunks id = some record ∧ record.encrypted = true ∧
  ∃ shards threshold, shardSource st id = some (shards, threshold) ∧ Shamir.combine shards threshold = .ok k

theorem fetchChunk_keyed {st : NodeState} {id : Bytes} {record : Record} {k : List Nat} (h : KeyedBy st id record k)
    (rk : Bytes) :
    fetchChunk st id rk = .value (ChaCha20.decrypt_with_key (ofNats k) id record.data record.nonce rk) := by
  obtain ⟨h1, h2, shards, thr, h3, h4⟩ := h
  unfold fetchChunk
  simp only [h1, h2, if_true, h3, h4, pick_fetchId, pick_fetchData, pick_fetchNonce]

theorem keyed_of_table {st : NodeState} {id : Bytes} {record : Record} {sr : ShardRecord} {k : List Nat}
    (hrec : find st.chunks id = some record) (henc : record.encrypted = true) (hsr : find st.shardTable id = some sr)
    (h : Reconstructs sr.shards sr.threshold k) : KeyedBy st id record k := by
  refine ⟨hrec, henc, sr.shards, sr.threshold, ?_, h.combine⟩
  unfold shardSource
  simp only [hsr, gt_iff_lt, h.pos, ge_iff_le, h.enough, and_self, if_true]

theorem keyed_after_store {cfg : Config} {st : NodeState} {wallNowNs : Int} {id payload : Bytes} {ttl : Int}
    {key nonce rk : Bytes} {shares : List Shamir.Share} (h : Reconstructs shares (effThreshold cfg) (toNats key)) :
    KeyedBy (nodeAfterStore cfg st wallNowNs id payload ttl key nonce rk shares) id (recordOf cfg id payload ttl key nonce rk)
      (toNats key) :=
  keyed_of_table (find_upsert _ _ _) rfl (find_upsert _ _ _) h

theorem fetch_sealed {st : NodeState} {cfg : Config} {id payload : Bytes} {ttl : Int} {key nonce rk : Bytes}
    (h : KeyedBy st id (recordOf cfg id payload ttl key nonce rk) (toNats key)) (hz : ChaCha20.allZero key = false) (rk1 : Bytes) :
    fetchChunk st id rk1 = .value (some payload) :=
  (fetchChunk_keyed h rk1).trans (congrArg _ (decrypt_sealed key id payload nonce rk rk1 hz))

/-- the test `receive_chunk` and the CLI's `decrypt_chunk_with_manifest` apply to a manifest and replica bytes: the shares are
    usable, and the decryption of the bytes under their key (manifest's id and nonce) hashes to the manifest's content hash -/
def Opens (m : Manifest) (data rk pt : Bytes) : Prop :=
  ∃ k, Reconstructs m.shards m.threshold k ∧
    ChaCha20.decrypt_with_key (ofNats k) m.chunkId data m.nonce rk = some pt ∧ Model.Sha256.digest pt = m.chunkHash

theorem opens_sealed (cfg : Config) (wallNowNs : Int) (id payload : Bytes) (ttl : Int) {key : Bytes} (nonce rk : Bytes)
    (hz : ChaCha20.allZero key = false) {shares : List Shamir.Share}
    (h : Reconstructs shares (effThreshold cfg) (toNats key)) (rk' : Bytes) :
    Opens (wire (manifestOf cfg wallNowNs id payload ttl nonce shares)) (sealedData key id payload nonce rk) rk' payload :=
  ⟨toNats key, h, decrypt_sealed key id payload nonce rk rk' hz, rfl⟩

theorem onCombineFailure_not_accepted (role : String) : (onCombineFailure role).isAccepted = false := by
  unfold onCombineFailure
  split <;> rfl

theorem receive_accepts (cfg : Config) (st : NodeState) {wallNowNs : Int} {m : Manifest} {ct rk : Bytes} {ttl : Int}
    {pt : Bytes} (httl : manifestTtl m.expiresNs wallNowNs cfg.minTtl cfg.maxTtl = some ttl) (h : Opens m ct rk pt) :
    receiveChunk cfg st wallNowNs (some m) ct rk = (acceptEffects st m ttl ct, .accepted pt) := by
  obtain ⟨k, hr, hd, hh⟩ := h
  unfold receiveChunk
  simp only [hr.pos, hr.enough, httl, and_self, not_true_eq_false, if_false, receive_threshold, hr.combine, receive_id,
    receive_nonce, hd, pick_receiveHash, receive_compare, hh, beq_self_eq_true, if_true, pick_receivePut, pick_receiveReturn]

theorem receive_cases (cfg : Config) (st : NodeState) (wallNowNs : Int) (decoded : Option Manifest) (ct rk : Bytes) :
    (∃ m ttl pt, decoded = some m ∧ manifestTtl m.expiresNs wallNowNs cfg.minTtl cfg.maxTtl = some ttl ∧ Opens m ct rk pt ∧
        receiveChunk cfg st wallNowNs decoded ct rk = (acceptEffects st m ttl ct, .accepted pt)) ∨
    ((receiveChunk cfg st wallNowNs decoded ct rk).1 = st ∧
      (receiveChunk cfg st wallNowNs decoded ct rk).2.isAccepted = false) := by
  unfold receiveChunk
  simp only [receive_threshold, receive_id, receive_nonce, pick_receiveHash, receive_compare, pick_receivePut,
    pick_receiveReturn, beq_iff_eq]
  split
  · exact .inr ⟨rfl, rfl⟩
  · rename_i m
    split
    · exact .inr ⟨rfl, rfl⟩
    · rename_i hv
      split
      · exact .inr ⟨rfl, rfl⟩
      · rename_i ttl httl
        split
        · exact .inr ⟨rfl, onCombineFailure_not_accepted C11.receiveCombineFailure⟩
        · exact .inr ⟨rfl, rfl⟩
        · rename_i k hk
          split
          · exact .inr ⟨rfl, rfl⟩
          · rename_i pt hd
            split
            · rename_i hh
              exact .inl ⟨m, ttl, pt, rfl, httl, ⟨k, ⟨by omega, by omega, hk⟩, hd, hh⟩, rfl⟩
            · exact .inr ⟨rfl, rfl⟩

theorem receive_accepted {cfg : Config} {st : NodeState} {wallNowNs : Int} {m : Manifest} {ct rk pt : Bytes} {ttl : Int}
    (h : receiveChunk cfg st wallNowNs (some m) ct rk = (acceptEffects st m ttl ct, .accepted pt)) :
    manifestTtl m.expiresNs wallNowNs cfg.minTtl cfg.maxTtl = some ttl ∧ Opens m ct rk pt := by
  rcases receive_cases cfg st wallNowNs (some m) ct rk with ⟨m', ttl', pt', hd, httl, hopen, hr⟩ | ⟨_, hna⟩
  · cases hd
    obtain ⟨hst, hpt⟩ := Prod.mk.inj (hr.symm.trans h)
    -- the granted TTL can be read back from the provider entry
    have : some ttl' = some ttl := by
      rw [← find_upsert st.announced m.chunkId ttl', ← find_upsert st.announced m.chunkId ttl]
      exact congrArg (fun s => find s.announced m.chunkId) hst
    cases this
    cases hpt
    exact ⟨httl, hopen⟩
  · rw [h] at hna
    cases hna

theorem keyed_after_accept (st : NodeState) {m : Manifest} (ttl : Int) (ct : Bytes) {k : List Nat}
    (h : Reconstructs m.shards m.threshold k) :
    KeyedBy (acceptEffects st m ttl ct) m.chunkId { data := ct, nonce := m.nonce, encrypted := true, ttl := ttl } k :=
  keyed_of_table (find_upsert _ _ _) rfl (find_upsert _ _ _) h

theorem opens_receive (cfg : Config) (st : NodeState) {wallNowNs : Int} {m : Manifest} {data pt : Bytes} {ttl : Int}
    (httl : manifestTtl m.expiresNs wallNowNs cfg.minTtl cfg.maxTtl = some ttl) (rk : Bytes)
    (h : ∀ rk', Opens m data rk' pt) :
    (receiveChunk cfg st wallNowNs (some m) data rk).2 = .accepted pt ∧
    (exportRecord (receiveChunk cfg st wallNowNs (some m) data rk).1 m.chunkId).map (·.data) = some data ∧
    (find (receiveChunk cfg st wallNowNs (some m) data rk).1.announced m.chunkId).isSome = true ∧
    ∀ rk3, fetchChunk (receiveChunk cfg st wallNowNs (some m) data rk).1 m.chunkId rk3 = .value (some pt) := by
  rw [receive_accepts cfg st httl (h rk)]
  refine ⟨rfl, congrArg _ (find_upsert _ _ _), congrArg _ (find_upsert _ _ _), fun rk3 => ?_⟩
  obtain ⟨k, hk, hd, _⟩ := h rk3
  rw [fetchChunk_keyed (keyed_after_accept st ttl data hk)]
  exact congrArg _ hd

theorem cli_accepts {m : Manifest} {data rk pt : Bytes} (h : Opens m data rk pt) :
    decryptChunkWithManifest m data rk = .accepted pt := by
  obtain ⟨k, hr, hd, hh⟩ := h
  unfold decryptChunkWithManifest
  rw [if_neg (by have := hr.pos; have := hr.enough; omega)]
  simp only [cli_threshold, hr.combine, cli_id, cli_nonce, hd, pick_cliHash, cli_compare, hh, beq_self_eq_true, if_true,
    pick_cliReturn]

theorem cli_cases (m : Manifest) (data rk : Bytes) :
    (∃ pt, Opens m data rk pt ∧ decryptChunkWithManifest m data rk = .accepted pt) ∨
    (decryptChunkWithManifest m data rk).isAccepted = false := by
  unfold decryptChunkWithManifest
  simp only [cli_threshold, cli_id, cli_nonce, pick_cliHash, cli_compare, pick_cliReturn, beq_iff_eq]
  split
  · exact .inr rfl
  · split
    · exact .inr (onCombineFailure_not_accepted _)
    · exact .inr rfl
    · rename_i k hk
      split
      · exact .inr rfl
      · rename_i pt hd
        split
        · rename_i hh
          exact .inl ⟨pt, ⟨k, ⟨by omega, by omega, hk⟩, hd, hh⟩, rfl⟩
        · exact .inr rfl

/- (T) the repaired tree: both paths consult `manifest_keeps_held_chunk_readable` -/
theorem guard_ingest (st : NodeState) (m : Manifest) : guardPasses C11.ingestGuard st m = keepsHeldChunkReadable st m := rfl
theorem guard_announce (st : NodeState) (m : Manifest) : guardPasses C11.announceGuard st m = keepsHeldChunkReadable st m := rfl

theorem guard_same_key {st : NodeState} {m : Manifest} {record : Record} {k : List Nat} (hk : KeyedBy st m.chunkId record k)
    (hg : keepsHeldChunkReadable st m = true) : Shamir.combine m.shards m.threshold = .ok k := by
  obtain ⟨h1, h2, shards, thr, h3, h4⟩ := hk
  unfold keepsHeldChunkReadable at hg
  simp only [h1, h2, Bool.not_true, Bool.false_eq_true, if_false, h3, h4, Bool.and_eq_true] at hg
  obtain ⟨_, hg⟩ := hg
  cases hc : Shamir.combine m.shards m.threshold with
  | ok k' => rw [hc] at hg; rw [eq_of_beq hg]
  | _ => rw [hc] at hg; exact absurd hg Bool.false_ne_true

theorem adopt_keeps_key (st : NodeState) (m : Manifest) (ttl : Int) {id : Bytes} {record : Record} {k : List Nat}
    (hv : m.threshold > 0 ∧ m.shards.length ≥ m.threshold) (hk : KeyedBy st id record k)
    (hg : keepsHeldChunkReadable st m = true) : KeyedBy (adoptManifest st m ttl) id record k := by
  by_cases hid : id = m.chunkId
  · subst hid
    exact keyed_of_table hk.1 hk.2.1 (find_upsert _ _ _) ⟨hv.1, hv.2, guard_same_key hk hg⟩
  · obtain ⟨h1, h2, shards, thr, h3, h4⟩ := hk
    refine ⟨h1, h2, shards, thr, ?_, h4⟩
    unfold shardSource
    rw [show find (adoptManifest st m ttl).shardTable id = find st.shardTable id from find_upsert_ne _ _ _ _ hid,
      show find (adoptManifest st m ttl).manifests id = find st.manifests id from find_upsert_ne _ _ _ _ hid]
    exact h3

theorem announce_keeps_key (cfg : Config) (st : NodeState) (now : Int) (m : Manifest) {id : Bytes} {record : Record}
    {k : List Nat} (hk : KeyedBy st id record k) : KeyedBy (announceAdmitted cfg st now m) id record k := by
  unfold announceAdmitted
  rw [guard_announce]
  split
  · exact hk
  · rename_i hv
    split
    · exact hk
    · split
      · rename_i hg
        exact adopt_keeps_key st m _ (Decidable.not_not.1 hv) hk hg
      · exact hk

theorem ingest_eq_announce (cfg : Config) (st : NodeState) (now : Int) (m : Manifest) :
    (ingestManifest cfg st now (some m)).1 = announceAdmitted cfg st now m := by
  simp only [ingestManifest, announceAdmitted, guard_ingest, guard_announce]
  split
  · rfl
  · split
    · rfl
    · exact apply_ite Prod.fst ..

theorem ingest_keeps_key (cfg : Config) (st : NodeState) (now : Int) (d : Option Manifest) {id : Bytes} {record : Record}
    {k : List Nat} (hk : KeyedBy st id record k) : KeyedBy (ingestManifest cfg st now d).1 id record k := by
  cases d with
  | none => exact hk
  | some m =>
    rw [ingest_eq_announce]
    exact announce_keeps_key cfg st now m hk

end EphVerif.C11L

namespace EphVerif.C11
open EphVerif EphVerif.StorePipeline EphVerif.C11L EphVerif.Gen

/-- a manifest arriving without the chunk: through `ingest_manifest` (decoded or not), or in an ANNOUNCE that passed the
    admission chain — any manifest, at any time -/
inductive Forged where
  | ingest (wallNowNs : Int) (decoded : Option Manifest)
  | announce (wallNowNs : Int) (m : Manifest)

def applyForged (cfg : Config) (st : NodeState) : Forged → NodeState
  | .ingest now d => (ingestManifest cfg st now d).1
  | .announce now m => announceAdmitted cfg st now m

def runForged (cfg : Config) (st : NodeState) (ops : List Forged) : NodeState := ops.foldl (applyForged cfg) st

theorem applyForged_keeps_key (cfg : Config) {st : NodeState} {id : Bytes} {record : Record} {k : List Nat}
    (h : KeyedBy st id record k) : ∀ op, KeyedBy (applyForged cfg st op) id record k
  | .ingest now d => ingest_keeps_key cfg st now d h
  | .announce now m => announce_keeps_key cfg st now m h

theorem runForged_keeps_key (cfg : Config) {st : NodeState} {id : Bytes} {record : Record} {k : List Nat}
    (h : KeyedBy st id record k) (ops : List Forged) : KeyedBy (runForged cfg st ops) id record k := by
  induction ops generalizing st with
  | nil => exact h
  | cons op rest ih => exact ih (applyForged_keeps_key cfg h op)

end EphVerif.C11
