/-
C14 helper lemmas: the model's `receive_loop` and `send` against the independent specification
`EphVerif.Spec.Frames` (literal 1 MiB, literal big-endian layout, RFC 8439 counter 0).
-/
import EphVerif.Lemmas.C14Codec
import EphVerif.Spec.Frames

namespace EphVerif.Frames
open EphVerif.Gen

theorem readLength_eq_fromBe32 (b : Bytes) (h : b.length = 4) : readLength b = Spec.Frames.fromBe32 b :=
  match b, h with
  | [a, b, c, d], _ => readLength_eq a b c d

theorem lengthBytes_eq_be32 (n : Nat) (h : n < 4294967296) : lengthBytes n = Spec.Frames.be32 n := lengthBytes_eq n h

theorem cipher_recv (key nonce x : Bytes) : cipher key nonce C14.recvCounter x = Spec.chacha20 key nonce 0 x := rfl
theorem cipher_send (key nonce x : Bytes) : cipher key nonce C14.sendCounter x = Spec.chacha20 key nonce 0 x := rfl

theorem receiveLoop_spec (key : Bytes) (fuel : Nat) (s : Bytes) (o : Outcome) (ho : o.ended = none) :
    (receiveLoop key fuel s o).delivered = (Spec.Frames.receive key fuel s o.delivered).delivered ∧
    (receiveLoop key fuel s o).ended.isSome = (Spec.Frames.receive key fuel s o.delivered).endedOversized := by
  induction fuel generalizing s o with
  | zero => exact ⟨rfl, congrArg Option.isSome ho⟩
  | succ fuel ih =>
    unfold receiveLoop Spec.Frames.receive
    simp only [kNonceSize_eq, kLengthFieldSize_eq, List.length_drop, List.drop_drop, Spec.Frames.maxPayload, cipher_recv]
    -- where the code blocks in a `recv_all` (header or body incomplete) the specification stops as well
    by_cases h1 : s.length < 12
    · rw [if_pos h1, if_pos (by omega : s.length < 16)]; exact ⟨rfl, congrArg Option.isSome ho⟩
    by_cases h2 : s.length - 12 < 4
    · rw [if_neg h1, if_pos h2, if_pos (by omega : s.length < 16)]; exact ⟨rfl, congrArg Option.isSome ho⟩
    rw [if_neg h1, if_neg h2, if_neg (by omega : ¬ s.length < 16),
      readLength_eq_fromBe32 _ (by rw [List.length_take, List.length_drop]; omega)]
    generalize Spec.Frames.fromBe32 _ = n
    by_cases h3 : n > 1048576
    · rw [if_pos ((recvRefuses_iff n).mpr h3), if_pos h3]; exact ⟨rfl, rfl⟩
    rw [if_neg (mt (recvRefuses_iff n).mp h3), if_neg h3]
    by_cases h4 : n = 0
    · subst h4; rw [if_pos rfl, if_neg (Nat.not_lt_zero _)]; exact ih _ _ ho
    rw [if_neg h4]
    -- the same condition on both sides, once as an `if` between `Outcome`s and once between `View`s
    by_cases h5 : s.length - 16 < n
    · rw [if_pos h5, if_pos h5]; exact ⟨rfl, congrArg Option.isSome ho⟩
    · rw [if_neg h5, if_neg h5]; exact ih _ _ ho

theorem parse_spec (key s : Bytes) :
    (parse key s).delivered = (Spec.Frames.view key s).delivered ∧
    (parse key s).ended.isSome = (Spec.Frames.view key s).endedOversized :=
  receiveLoop_spec key (s.length + 1) s Outcome.init rfl

theorem send_spec (key nonce payload : Bytes) :
    send key nonce payload
      = if Spec.Frames.mayBeSent payload then some (Spec.Frames.frame key nonce payload) else none := by
  rw [send_eq, Spec.Frames.mayBeSent, Spec.Frames.maxPayload]
  by_cases hp : payload.length ≤ 1048576
  · rw [if_pos hp, if_pos (decide_eq_true hp), encodeFrame, lengthBytes_eq_be32 _ (by omega)]
    rfl
  · rw [if_neg hp, if_neg (by simpa using hp)]

end EphVerif.Frames
