/-
SystemControl, node side: the abstract `NodeOps` of the control-plane model instantiated with
C01's chunk store (for LIST) and with C11's store/fetch pipeline (for FETCH), and the client side
of `eph fetch` (C30's walk over endpoints, C31's output name).
-/
import EphVerif.Lemmas.SystemControlWire
import EphVerif.Proofs.C01
import EphVerif.Proofs.C11
import EphVerif.Proofs.C30
import EphVerif.Proofs.C31

namespace EphVerif.System.Control
open EphVerif EphVerif.Control

section List
open EphVerif.ChunkStore (World NodeCfg FS nodeList step runModel fresh runSpec storesId)

/-- C01 names chunks by strings (the hex id) -/
def idBytes (id : String) : Control.Bytes := id.toList.map fun ch => UInt8.ofNat ch.toNat

/-- one row of `Node::stored_chunks()` as `handle_list` formats it at instant `now`
    (`ttl_seconds_remaining`: whole seconds, 0 when the deadline has passed) -/
def entryOf (now : Int) (x : String × Int × Bool × Nat) : ChunkEntry :=
  { idHex := idBytes x.1, size := x.2.2.2, encrypted := x.2.2.1, ttl := ((x.2.1 - now) / 1000000000).toNat }

def listSnapshot (w : World) : List ChunkEntry := (nodeList w.sys.recs w.now).map (entryOf w.now)

/-- the daemon's node as C01 models it: `store_chunk` is C01's `nstore` (the id and the sealed bytes come from
    the pipeline, here arbitrary functions of the payload) -/
def chunkStoreOps (nc : NodeCfg) (idOf : Control.Bytes → String) (sealOf : Control.Bytes → StoreSpec.Bytes × StoreSpec.Bytes) : NodeOps World :=
  { decodeManifest := fun _ => none, ingest := fun _ _ => none, fetch := fun _ _ => none,
    store := fun w payload ttl _ =>
      (step nc w (.nstore (idOf payload) (payload.map UInt8.toNat) (sealOf payload).1 (sealOf payload).2 ttl)).1,
    write := fun _ _ _ => none, stopTransport := fun w => w }

theorem store_extends_history (nc : NodeCfg) (idOf : Control.Bytes → String) (sealOf : Control.Bytes → StoreSpec.Bytes × StoreSpec.Bytes)
    (t0 : Int) (fs : FS) (pre post : List StoreSpec.Op) (payload : Control.Bytes) (ttl : Int) (hint : Option Control.Bytes) :
    runModel nc ((chunkStoreOps nc idOf sealOf).store (runModel nc (fresh t0 fs) pre) payload ttl hint) post =
      runModel nc (fresh t0 fs)
        (pre ++ [.nstore (idOf payload) (payload.map UInt8.toNat) (sealOf payload).1 (sealOf payload).2 ttl] ++ post) := by
  simp [chunkStoreOps, runModel, List.foldl_append]

theorem live_after_nstore (p : StoreSpec.Params) (a : StoreSpec.W) (pre post : List StoreSpec.Op) (id : String)
    (plain cipher nonce : StoreSpec.Bytes) (ttl : Int) (hpost : ∀ o ∈ post, storesId id o = false) :
    let b := runSpec p a (pre ++ [.nstore id plain cipher nonce ttl] ++ post)
    StoreSpec.live b.s id b.now = true ↔ b.now < (runSpec p a pre).now + StoreSpec.effNode p ttl * StoreSpec.nsPerSec := by
  intro b
  have hlast : StoreSpec.last b.s id =
      some ⟨id, plain, cipher, (runSpec p a pre).now + StoreSpec.effNode p ttl * StoreSpec.nsPerSec⟩ := by
    simp only [b, runSpec, List.foldl_append, List.foldl_cons, List.foldl_nil]
    exact (ChunkStore.last_run_other p _ id post hpost).trans (if_pos rfl)
  rw [ChunkStore.live_iff, hlast]
  simp

end List

section Fetch
open EphVerif.StorePipeline (NodeState fetchChunk storeChunk)

/-- the random draws of one `store_chunk` -/
structure Draws where
  key : Control.Bytes
  nonce : Control.Bytes
  rk : Control.Bytes
  rd : Nat → Nat

/-- the daemon's node as C11 models it.  `ingest` (registration of a manifest) and `decode` (the URI
    codec, C17) stay parameters. -/
def pipelineOps (pcfg : StorePipeline.Config) (wall : Int) (draws : Control.Bytes → Draws) (rkFetch : Control.Bytes)
    (decode : Control.Bytes → Option Control.Bytes) (ingest : NodeState → Control.Bytes → Option NodeState) : NodeOps NodeState :=
  { decodeManifest := decode,
    ingest := ingest,
    fetch := fun st id => match fetchChunk st id rkFetch with
      | .value o => o
      | _ => none,
    store := fun st payload ttl _ =>
      match storeChunk pcfg st wall (Spec.sha256 payload) payload ttl (draws payload).key (draws payload).nonce (draws payload).rk
          (draws payload).rd with
      | .value r => r.node
      | _ => st,
    write := fun st _ _ => some st,
    stopTransport := fun st => st }

/-- what `eph fetch` sends to the local daemon, by its lookups -/
structure IsCliFetch (token : Option Control.Bytes) (uri : Control.Bytes) (req : Request) : Prop where
  command : getField req.fields (ascii "COMMAND") = some (ascii "FETCH")
  token : getField req.fields (ascii "TOKEN") = token
  manifest : getField req.fields (ascii "MANIFEST") = some uri
  stream : getField req.fields (ascii "STREAM") = some (ascii "client")

theorem cli_fetch_streams {ν : Type} (sha : Control.Bytes → Control.Bytes) (ops : NodeOps ν) (cfg : Config) {now : Int} {addr : Control.Bytes}
    {st : ServerState ν} {req : Request} {uri id payload : Control.Bytes} {node' : ν}
    (hr : IsCliFetch cfg.token uri req)
    (hdec : ops.decodeManifest uri = some id)
    (hing : ops.ingest st.node uri = some node')
    (hfetch : ops.fetch node' id = some payload)
    (hrate : (allowFetch now (st.fetchHist (rateIdentity cfg addr))).1 = true)
    (hcap : payload.length ≤ cfg.cap) :
    handleRequest sha ops cfg now addr st req =
      ({ st with node := node',
                 fetchHist := setHist st.fetchHist (rateIdentity cfg addr) (allowFetch now (st.fetchHist (rateIdentity cfg addr))).2 },
       { success := true, code := "OK_FETCH", streamed := some payload }) := by
  have hgate : checkToken cfg req.fields = .ok := checkToken_passes cfg hr.token
  have n1 : ascii "FETCH" ≠ ascii "STOP" := by decide
  have n2 : ascii "FETCH" ≠ ascii "STORE" := by decide
  have hup : toUpper (ascii "FETCH") = ascii "FETCH" := by decide
  have hstream : streamToClient req.fields = true := by
    unfold streamToClient
    rw [hr.stream]
    decide
  have hcap' : ¬ payload.length > cfg.cap := Nat.not_lt.mpr hcap
  simp only [handleRequest, hr.command, hup, n1, n2, ↓reduceIte, handleFetch, hgate, ne_eq, not_true_eq_false, hr.manifest,
    hdec, hstream, Bool.not_true, Bool.false_and, Bool.false_eq_true, hing, hfetch, fetchDeliver, hrate, hcap']

/-- what `handle_fetch` hands to `send_response` when streaming -/
def fetchResponse (payload : Control.Bytes) : Response :=
  { success := true,
    fields := [(ascii "CODE", ascii "OK_FETCH"), (ascii "SIZE", toDec payload.length), (ascii "STREAM", ascii "CLIENT")],
    hasPayload := true, payload := payload }

/-- the local daemon as `eph fetch` sees it (C30's `Resp`): STATUS:OK with a payload, or a failure -/
def respOf (r : ClientResponse) : CliFetch.Resp :=
  if r.success then (if r.hasPayload then .payload r.payload else .okNoPayload) else .fail

/-- **the streamed chunk reaches `eph fetch` byte for byte** (C29.roundtrip with a payload) -/
theorem fetch_response_intact {limit : Nat} {payload : Control.Bytes} {emitted : Fields}
    (hlim : payload.length ≤ limit) (h64 : payload.length < 18446744073709551616)
    (hperm : emitted.Perm (fetchResponse payload).wireFields) :
    respOf (parseResponse limit (serialise true emitted payload)) = .payload payload := by
  have he : C29.Emittable limit (fetchResponse payload) := by
    refine ⟨keysOk_of_class ?_, ?_, ?_, hlim, h64, fun h => nomatch h⟩
    · simp only [fetchResponse, List.map_cons, List.map_nil]
      decide +kernel
    · simp only [fetchResponse, List.forall_mem_cons, List.not_mem_nil, false_imp_iff, implies_true, and_true]
      exact ⟨LinesOk.of_plain (by decide +kernel) (by decide +kernel) (by decide +kernel),
        linesOk_toDec (by decide +kernel) (by decide +kernel) h64,
        LinesOk.of_plain (by decide +kernel) (by decide +kernel) (by decide +kernel)⟩
    · simp only [fetchResponse, List.map_cons, List.map_nil]
      decide +kernel
  rw [show parseResponse limit (serialise true emitted payload) = _ from
    C29.roundtrip limit (fetchResponse payload) emitted he hperm]
  rfl

end Fetch

end EphVerif.System.Control
