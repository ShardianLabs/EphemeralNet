/-
System-level composition (extension of C05), part 3: the chunk store and the provider directory of the C05 node model
*are* runs of the C01 and C06 models.  A node history is projected onto a `StoreSpec.Op` history (`c01Hist`, `agree_run`)
and a state-dependent `Providers.Op` history (`locHist`, `lagree_run`), so that the C01 and C06 theorems speak about the node.
-/
import EphVerif.Lemmas.C05SysYoung
import EphVerif.Proofs.C01
import EphVerif.Proofs.C06

namespace EphVerif.Sys
open EphVerif.NodeCleanup EphVerif.C05L

def toC01 : Op → List StoreSpec.Op
  | .adv d => [.advance d]
  | .store c ttl _ => [.nstore c [] [] [] ttl]
  | .tick => [.tick]
  | _ => []

def c01Hist (ops : List Op) : List StoreSpec.Op := ops.flatMap toC01

structure Agree (s : State) (w : ChunkStore.World) : Prop where
  now : s.now = w.now
  recs : s.recs = w.sys.recs
  last : s.lastCleanup = w.lastCleanup

theorem runModel_append (nc : ChunkStore.NodeCfg) (w : ChunkStore.World) (a b : List StoreSpec.Op) :
    ChunkStore.runModel nc w (a ++ b) = ChunkStore.runModel nc (ChunkStore.runModel nc w a) b :=
  List.foldl_append ..

/-- without persistence (the C05 node model has no storage directory) the record `ChunkStore::put` keeps is the
    in-memory one, whatever the file system did -/
theorem putF_not_persisted (c : ChunkStore.Cfg) (hp : c.persistent = false) (φ : ChunkStore.Faults) (r : ChunkStore.Recs)
    (fs : ChunkStore.FS) (pend : List ChunkStore.Name) (id : String) (data : ChunkStore.Bytes) :
    (ChunkStore.putF c φ r fs pend id data).persisted = false := by
  simp [ChunkStore.putF, hp]

theorem toC01_other {op : Op} (h : evOf op = .other) : toC01 op = [] := by
  cases op with
  | adv | store | tick => cases h
  | _ => rfl

theorem agree_step (cfg : Cfg) (hp : cfg.node.store.persistent = false) {s : State} {w : ChunkStore.World}
    (h : Agree s w) (op : Op) :
    Agree (step cfg s op) (ChunkStore.runModel cfg.node w (toC01 op)) := by
  obtain ⟨h1, h2, h3⟩ := h
  by_cases ho : evOf op = .other
  · obtain ⟨a, b, c, _⟩ := step_other cfg s ho
    rw [toC01_other ho]
    exact ⟨a.trans h1, c.trans h2, b.trans h3⟩
  · cases op with
    | adv d => exact ⟨congrArg (· + (d : Int)) h1, h2, h3⟩
    | store c ttl hint =>
      refine ⟨h1, ?_, h3⟩
      show ChunkStore.put cfg.node.store s.recs s.now c [] [] (ChunkStore.nodeTtl cfg.node ttl) [] true =
        ChunkStore.aset w.sys.recs c (ChunkStore.mkRecP cfg.node.store w.now [] [] (ChunkStore.nodeTtl cfg.node ttl) [] true
          (ChunkStore.putF cfg.node.store [] w.sys.recs w.sys.fs w.sys.pending c []).persisted)
      rw [putF_not_persisted _ hp, h1, h2]
      simp only [ChunkStore.put, ChunkStore.mkRecP, ChunkStore.mkRec, hp]
    | tick =>
      show Agree (tick cfg s) (ChunkStore.step cfg.node w .tick).1
      have hg : gate cfg s = decide (w.now - w.lastCleanup ≥ cfg.node.cleanupInterval * ChunkStore.nsPerSec) := by
        rw [Bool.eq_iff_iff, gate_iff]; simp [ChunkStore.nsPerSec, h1, h3]
      simp only [tick, ChunkStore.step, ChunkStore.stepF, ChunkStore.nodeTickF, hg, decide_eq_true_eq]
      split
      · rw [cleanup_eq]
        exact ⟨h1, by show (ChunkStore.sweep s.recs s.now).1 = (ChunkStore.sweep w.sys.recs w.now).1; rw [h1, h2], h1⟩
      · exact ⟨h1, h2, h3⟩
    | _ => exact absurd rfl ho

theorem agree_run (cfg : Cfg) (hp : cfg.node.store.persistent = false) {r : Run} {w : ChunkStore.World} (h : Agree r.s w)
    (ops : List Op) :
    Agree (run cfg r ops).s (ChunkStore.runModel cfg.node w (c01Hist ops)) := by
  induction ops generalizing r w with
  | nil => exact h
  | cons op ops ih =>
    simp only [run, List.foldl_cons, c01Hist, List.flatMap_cons]
    rw [runModel_append]
    exact ih (r := exec cfg r op) (agree_step cfg hp h op)

theorem agree_reach (cfg : Cfg) (hp : cfg.node.store.persistent = false) (t0 : Int) (ops : List Op) :
    Agree (C05.reach cfg t0 ops).s (ChunkStore.runModel cfg.node (ChunkStore.fresh t0 []) (c01Hist ops)) :=
  agree_run cfg hp (r := Run.init cfg t0) ⟨rfl, rfl, rfl⟩ ops

open EphVerif.Providers (Table)

def locOps (cfg : Cfg) (s : State) : Op → List Providers.Op
  | .adv d => [.adv d]
  | .store c ttl hint => [.add c cfg.self (ChunkStore.nodeTtl cfg.node ttl * ns) hint]
  | .ingest _ _ _ => []
  | .announce c e _ p _ addr ttl hint =>
    match manifestTtl cfg (wall cfg s) e with
    | none => []
    | some t => if addr = "" then [] else [.add c p (advertised cfg ttl t * ns) hint]
  | .reannounce c ttl hint =>
    match ChunkStore.getRecord s.recs s.now c with
    | none => []
    | some r => if s.now + ttl * ns < r.expires then [] else [.add c cfg.self (ttl * ns) hint]
  | .lookup c =>
    match ChunkStore.getRecord s.recs s.now c with
    | some _ => []
    | none => [.find c]
  | .probe c => [.find c]
  | .tick =>
    if gate cfg s then ((ChunkStore.sweep s.recs s.now).2.map fun c => Providers.Op.withdraw c cfg.self) ++ [.sweep] else []
  | .drain => []
  | .audit => []

def locHist (cfg : Cfg) (s : State) : List Op → List Providers.Op
  | [] => []
  | op :: ops => locOps cfg s op ++ locHist cfg (step cfg s op) ops

structure LAgree (s : State) (st : C06L.St) : Prop where
  now : st.now = s.now
  t : st.t = s.locs

theorem run_withdraws (st : C06L.St) (self : String) (cs : List String) :
    (C06L.run st (cs.map fun c => Providers.Op.withdraw c self)).1.t = withdrawAll st.t self cs ∧
    (C06L.run st (cs.map fun c => Providers.Op.withdraw c self)).1.now = st.now := by
  induction cs generalizing st with
  | nil => exact ⟨rfl, rfl⟩
  | cons c cs ih =>
    have := ih (C06L.step st (.withdraw c self)).1
    simp only [List.map_cons, C06L.run, withdrawAll, List.foldl_cons]
    exact ⟨this.1, this.2⟩

/-- `locOps` repeats the case distinctions of the node operations, so each branch is an equation between two
    applications of the same `Providers` function -/
theorem lagree_step (cfg : Cfg) {s : State} {st : C06L.St} (h : LAgree s st) (op : Op) :
    LAgree (step cfg s op) (C06L.run st (locOps cfg s op)).1 := by
  obtain ⟨now, t, a⟩ := st
  obtain ⟨rfl, rfl⟩ := h
  cases op with
  | adv | store | probe | drain | audit => exact ⟨rfl, rfl⟩
  | ingest c e same => exact ingest_ind (I := (LAgree · _)) ⟨rfl, rfl⟩ fun _ _ => ⟨rfl, rfl⟩
  | announce c e same p pid addr ttl hint =>
    cases hm : manifestTtl cfg (wall cfg s) e with
    | none => simp only [step, announce, locOps, hm]; exact ⟨rfl, rfl⟩
    | some t =>
      simp only [step, announce, locOps, hm]
      split <;> split <;> exact ⟨rfl, rfl⟩
  | reannounce c ttl hint =>
    cases hg : ChunkStore.getRecord s.recs s.now c with
    | none => simp only [step, reannounce, locOps, hg]; exact ⟨rfl, rfl⟩
    | some r =>
      simp only [step, reannounce, locOps, hg]
      split <;> exact ⟨rfl, rfl⟩
  | lookup c =>
    cases hg : ChunkStore.getRecord s.recs s.now c with
    | none => simp only [step, lookup, locOps, hg]; exact ⟨rfl, rfl⟩
    | some r =>
      simp only [step, lookup, locOps, hg]
      split
      · exact ⟨rfl, rfl⟩
      · split
        · exact ⟨rfl, rfl⟩
        · split <;> exact ⟨rfl, rfl⟩
  | tick =>
    simp only [step, tick, locOps]
    split
    · obtain ⟨w1, w2⟩ := run_withdraws ⟨s.now, s.locs, a⟩ cfg.self (ChunkStore.sweep s.recs s.now).2
      rw [C06L.run_append, cleanup_eq]
      exact ⟨w2, by show Providers.sweep _ _ = Providers.sweep _ _; rw [w1, w2]⟩
    · exact ⟨rfl, rfl⟩

theorem lagree_run (cfg : Cfg) {r : Run} {st : C06L.St} (h : LAgree r.s st) (ops : List Op) :
    LAgree (run cfg r ops).s (C06L.run st (locHist cfg r.s ops)).1 := by
  induction ops generalizing r st with
  | nil => exact h
  | cons op ops ih =>
    simp only [run, List.foldl_cons, locHist]
    rw [C06L.run_append]
    exact ih (r := exec cfg r op) (lagree_step cfg h op)

theorem lagree_reach (cfg : Cfg) (t0 : Int) (ops : List Op) :
    LAgree (C05.reach cfg t0 ops).s (C06L.run (C06L.init t0) (locHist cfg (State.init cfg t0) ops)).1 :=
  lagree_run cfg (r := Run.init cfg t0) ⟨rfl, rfl⟩ ops

end EphVerif.Sys
