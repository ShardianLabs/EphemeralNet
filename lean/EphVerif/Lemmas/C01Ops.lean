/-
What the operations of the ChunkStore model compute, as equations about lookups in the record
table (C01, C04).
-/
import EphVerif.Lemmas.C01Assoc

namespace EphVerif.ChunkStore

theorem expiredGet_iff (now e : Int) : expiredGet now e = true ↔ e ≤ now := by
  simp [expiredGet, EphVerif.Gen.C01.getRecordExpiredIsGe]
theorem expiredSweep_iff (now e : Int) : expiredSweep now e = true ↔ e ≤ now := by
  simp [expiredSweep, EphVerif.Gen.C01.sweepExpiredIsGe]
theorem expiredList_iff (now e : Int) : expiredList now e = true ↔ e ≤ now := by
  simp [expiredList, EphVerif.Gen.C01.listingExpiredIsGe]

theorem expiredSweep_eq_false (now e : Int) : expiredSweep now e = false ↔ now < e := by
  rw [← Bool.not_eq_true, expiredSweep_iff, Int.not_le]

theorem effTtl_eq_max (cfg : Cfg) (ttl : Int) :
    effTtl cfg ttl = max (if ttl > 0 then ttl else cfg.defaultTtl) 1 := by
  simp only [effTtl, EphVerif.Gen.C01.kMinimumTtlSec]
  omega

theorem effTtl_pos (cfg : Cfg) (ttl : Int) : 1 ≤ effTtl cfg ttl := by
  rw [effTtl_eq_max]; omega

/-- inside a sane window `clamp_chunk_ttl` is the plain clamp; its last guard never fires -/
theorem clampChunkTtl_eq {minT maxT : Int} (h1 : 1 ≤ minT) (h2 : minT ≤ maxT) (ttl : Int) :
    clampChunkTtl ttl minT maxT = max minT (min ttl maxT) := by
  simp only [clampChunkTtl]
  omega

theorem getRecord_eq_some {s : Recs} {now : Int} {id : String} {r : Rec} :
    getRecord s now id = some r ↔ aget s id = some r ∧ now < r.expires := by
  unfold getRecord
  cases aget s id with
  | none => simp
  | some r' =>
    simp only [expiredGet_iff, Option.ite_none_left_eq_some, Option.some.injEq, Int.not_le]
    exact ⟨fun ⟨hl, h⟩ => ⟨h, h ▸ hl⟩, fun ⟨h, hl⟩ => ⟨h ▸ hl, h⟩⟩

theorem getRecord_eq_none {s : Recs} {now : Int} {id : String} :
    getRecord s now id = none ↔ ∀ r, aget s id = some r → r.expires ≤ now := by
  unfold getRecord
  cases aget s id with
  | none => simp
  | some r' => simp [expiredGet_iff]

theorem nodeRequest_some {nc : NodeCfg} {s : Recs} {now : Int} {id : String} {b : Bytes}
    (hq : nodeRequest nc s now id = some b) : get s now id = some b := by
  unfold nodeRequest at hq
  unfold get
  split at hq
  · cases hq
  · next r hg =>
    rw [hg]
    dsimp only at hq
    split at hq; · cases hq
    split at hq; · cases hq
    split at hq; · cases hq
    exact hq

theorem nodeRequest_of_grace {nc : NodeCfg} (h1 : 1 ≤ nc.minTtl) {s : Recs} {now : Int} {id : String} {r : Rec}
    (hg : getRecord s now id = some r) (hgr : nc.minTtl * nsPerSec ≤ r.expires - now) :
    nodeRequest nc s now id = some r.data := by
  have hn : nsPerSec = 1000000000 := rfl
  unfold nodeRequest
  rw [hg]
  dsimp only
  rw [hn] at hgr ⊢
  rw [if_neg (by omega), if_neg (by omega), if_neg (by omega)]

theorem aget_sweep {s : Recs} (hu : Uniq s) {now : Int} {id : String} {r : Rec} :
    aget (sweep s now).1 id = some r ↔ aget s id = some r ∧ now < r.expires := by
  simp only [sweep, aget_filter_eq_some hu, Bool.not_eq_true', expiredSweep_eq_false]

theorem mem_nodeList {s : Recs} {now : Int} {id : String} {d : Int} :
    (id, d) ∈ (nodeList s now).map (fun e => (e.1, e.2.1)) ↔ ∃ r, (id, r) ∈ s ∧ r.expires = d ∧ now < d := by
  have hx : ∀ e : Int, (!expiredList now e) = true ↔ now < e := fun e => by
    rw [Bool.not_eq_true', ← Bool.not_eq_true, expiredList_iff, Int.not_le]
  rw [nodeList, snapshot, List.filter_map, List.map_map]
  simp only [List.mem_map, List.mem_filter, Function.comp, hx]
  constructor
  · rintro ⟨e, ⟨he, hl⟩, ⟨⟩⟩; exact ⟨e.2, he, rfl, hl⟩
  · rintro ⟨r, hr, rfl, hl⟩; exact ⟨(id, r), ⟨hr, hl⟩, rfl⟩

end EphVerif.ChunkStore
