/-
Helper lemmas for C16: whatever the decoders of `Model/Message.lean` accept re-encodes to a prefix
of the input.  (Never-`oob` lemmas: `Lemmas/C16Total.lean`.)  Core Lean only.

Each proof follows its decoder construct by construct, carrying `d.take off = p`: the part of the
span consumed up to the cursor `off` is the string `p` of fields read so far.  Every accepted read
appends what it read (`ok_of_chk_rd`, `ok_of_chk_rdNat`); at the end `p` is the re-encoding.
-/
import EphVerif.Lemmas.C16Total

namespace EphVerif.Message
open EphVerif.Gen.C15

theorem take_add_of_rd {d b : Bytes} {off n : Nat} (h : rd d off n = some b) : d.take (off + n) = d.take off ++ b := by
  rw [List.take_add, (rd_eq_some_iff.mp h).2]

theorem prefix_of_take {d p : Bytes} {n : Nat} (h : d.take n = p) : p <+: d := h ▸ List.take_prefix n d

section
variable {α β : Type} {P : β → Prop} {d p : Bytes} {off n : Nat} {c : Prop} [Decidable c]

theorem ok_of_ite {x y : Outcome β} (hx : c → ∀ r, x = .ok r → P r) (hy : ¬ c → ∀ r, y = .ok r → P r) :
    ∀ r, (if c then x else y) = .ok r → P r := by
  split
  · exact hx ‹_›
  · exact hy ‹_›

theorem ok_of_guard {x : Outcome β} (hx : ¬ c → ∀ r, x = .ok r → P r) : ∀ r, (if c then .reject else x) = .ok r → P r :=
  ok_of_ite (fun _ => nofun) hx

theorem ok_of_map {f : α → β} {o : Outcome α} (h : ∀ a, o = .ok a → P (f a)) : ∀ r, o.map f = .ok r → P r := by
  intro r hr
  obtain ⟨a, ha, rfl⟩ := map_eq_ok.mp hr
  exact h a ha

theorem ok_of_ok {x : β} (h : P x) : ∀ r, Outcome.ok x = .ok r → P r := by
  rintro _ ⟨⟩; exact h

theorem ok_of_chk_rd {k : Bytes → Outcome β} (hp : d.take off = p)
    (hk : ∀ b, b.length = n → d.take (off + n) = p ++ b → ∀ r, k b = .ok r → P r) :
    ∀ r, chk (rd d off n) k = .ok r → P r := by
  intro r hr
  obtain ⟨b, hb, hr⟩ := chk_eq_ok.mp hr
  exact hk b (rd_length hb) (hp ▸ take_add_of_rd hb) r hr

/-- `rdU8`, `rdU32`, `rdU64`: the bytes read are those `write_u32` / `write_u64` write for the value -/
theorem ok_of_chk_rdNat {k : Nat → Outcome β} (hp : d.take off = p)
    (hk : ∀ v, v < 256 ^ n → d.take (off + n) = p ++ beBytes n v → ∀ r, k v = .ok r → P r) :
    ∀ r, chk ((rd d off n).map beNat) k = .ok r → P r := by
  intro r hr
  obtain ⟨v, hv, hr⟩ := chk_eq_ok.mp hr
  obtain ⟨hb, hlt⟩ := rdNat_eq_some_iff.mp hv
  exact hk v hlt (hp ▸ take_add_of_rd hb) r hr
end

/-- The encoder may write the nonce only where the decoder has read one
    (`decide (version ≥ encPowMinVersion) → pow`): then the re-encoding is a prefix of the span. -/
theorem parseAnnounce_prefix {d : Bytes} {pow : Bool} {version : Nat}
    (hv : decide (version ≥ encPowMinVersion) = true → pow = true) :
    ∀ a, parseAnnounce d pow = .ok a → encodePayload version (.announce a) <+: d := by
  refine ok_of_guard fun _ =>
    ok_of_chk_rdNat (List.take_zero (l := d)) fun ttl httl t1 => ok_of_chk_rdNat t1 fun el hel t2 =>
    ok_of_chk_rdNat t2 fun ml hml t3 => ok_of_chk_rdNat t3 fun al hal t4 =>
    ok_of_guard fun _ =>
    ok_of_chk_rd t4 fun c _ t5 => ok_of_chk_rd t5 fun p _ t6 => ok_of_chk_rd t6 fun e he t7 =>
    ok_of_chk_rd t7 fun m hm t8 => ok_of_chk_rd t8 fun s hs t9 =>
    ok_of_ite (fun hpow => ok_of_chk_rdNat t9 fun nonce _ t10 => ok_of_ok ?_) fun hpow => ok_of_ok ?_
  -- the length fields hold the lengths of what was read; then the encoder writes the nonce or not
  all_goals
    simp only [encodePayload, castU32i_ofNat httl, he, hm, hs, castU32_of_lt hel, castU32_of_lt hml, castU32_of_lt hal]
    split
  · exact prefix_of_take t10                        -- read and written
  · exact List.append_nil _ ▸ prefix_of_take t9     -- read, not written
  · exact absurd (hv ‹_›) hpow                      -- not read: by `hv` not written either
  · exact List.append_nil _ ▸ prefix_of_take t9

theorem flag_roundtrip {flag : Nat} (h : ¬ flag > 1) : flagByte (flag != 0) = UInt8.ofNat flag := by
  have : flag = 0 ∨ flag = 1 := by omega
  rcases this with rfl | rfl <;> rfl

theorem decodePayloadV1_prefix {t : Nat} {d : Bytes} {version : Nat} (hv : t = tagAnnounce → version < encPowMinVersion) :
    ∀ p, decodePayloadV1 t d = .ok p → encodePayload version p <+: d := by
  have t0 := List.take_zero (l := d)
  refine
    ok_of_ite (fun ht => ok_of_map <|
      parseAnnounce_prefix fun h => absurd (of_decide_eq_true h) (Nat.not_le.mpr (hv ht))) fun _ =>
    ok_of_ite (fun _ => ok_of_guard fun _ =>
      ok_of_chk_rd t0 fun c _ t1 => ok_of_chk_rd t1 fun r _ t2 => ok_of_ok (prefix_of_take t2)) fun _ =>
    ok_of_ite (fun _ => ok_of_guard fun _ =>
      ok_of_chk_rdNat t0 fun ttl httl t1 => ok_of_chk_rdNat t1 fun dl hdl t2 => ok_of_guard fun _ =>
      ok_of_chk_rd t2 fun c _ t3 => ok_of_chk_rd t3 fun data hdata t4 => ok_of_ok ?chunk) fun _ =>
    ok_of_ite (fun _ => ok_of_guard fun _ =>
      ok_of_chk_rdNat t0 fun flag _ t1 => ok_of_guard fun hflag =>
      ok_of_chk_rd t1 fun c _ t2 => ok_of_chk_rd t2 fun p _ t3 => ok_of_ok ?ack) fun _ =>
    ok_of_ite (fun _ => ok_of_guard fun _ =>
      ok_of_chk_rdNat t0 fun pub _ t1 => ok_of_chk_rdNat t1 fun nonce _ t2 => ok_of_chk_rdNat t2 fun rv _ t3 =>
      ok_of_ok ?handshake) fun _ =>
    ok_of_ite (fun _ => ok_of_guard fun _ =>
      ok_of_chk_rdNat t0 fun flag _ t1 => ok_of_guard fun hflag =>
      ok_of_chk_rdNat t1 fun nv _ t2 => ok_of_chk_rdNat t2 fun pub _ t3 => ok_of_ok ?handshakeAck) fun _ => nofun
  case chunk =>
    simp only [encodePayload, castU32i_ofNat httl, hdata, castU32_of_lt hdl]
    exact prefix_of_take t4
  case ack =>
    rw [beBytes_one] at t3
    simp only [encodePayload, flag_roundtrip hflag]
    exact prefix_of_take t3
  case handshake =>
    rw [beBytes_one] at t3
    exact prefix_of_take t3
  case handshakeAck =>
    rw [beBytes_one, beBytes_one] at t3
    simp only [encodePayload, flag_roundtrip hflag]
    exact prefix_of_take t3

/-- the encoder never writes a nonce the decoder would not read: its threshold is not below the
    decoder's (equal after fixes/C15-announce-nonce-v3.patch; 4 vs 3 before it — the prefix law
    needs only this inequality, the round trip C15 needs equality) -/
theorem decPow_le_encPow : decPowMinVersion ≤ encPowMinVersion := by decide

theorem clampVersion_of_supported {v : Nat} (h : isSupportedVersion v = true) : clampVersion v = v := by
  simp [isSupportedVersion, kMinimumMessageVersion, kCurrentMessageVersion] at h
  unfold clampVersion EphVerif.Gen.C15.clampVersion
  (repeat' split) <;> omega

/-- What `decode` accepts, before `clamp_version` enters: a supported version, and the two header bytes
    followed by the payload's encoding at that version lead the buffer. -/
theorem decode_accepts {buf : Bytes} : ∀ m, decode buf = .ok m →
    isSupportedVersion m.version = true ∧
      UInt8.ofNat m.version :: UInt8.ofNat m.type :: encodePayload m.version m.payload <+: buf :=
  ok_of_guard fun _ =>
  ok_of_chk_rdNat (List.take_zero (l := buf)) fun version _ t1 => ok_of_chk_rdNat t1 fun type _ t2 =>
  ok_of_guard fun hsup => ok_of_map fun p hp => by
    have hpay : encodePayload version p <+: buf.drop 2 :=
      ok_of_ite (P := fun p => encodePayload version p <+: buf.drop 2)
        (fun _ => ok_of_map (parseAnnounce_prefix fun _ => rfl))
        (fun hc => decodePayloadV1_prefix fun ht => by have := decPow_le_encPow; omega) p hp
    have := (List.prefix_append_right_inj (buf.take 2)).mpr hpay
    rw [List.take_append_drop, t2, beBytes_one, beBytes_one] at this
    exact ⟨by simpa using hsup, this⟩

theorem decode_prefix {buf : Bytes} {m : Msg} (h : decode buf = .ok m) : encode m <+: buf := by
  obtain ⟨hs, hp⟩ := decode_accepts m h
  rwa [encode, clampVersion_of_supported hs]

end EphVerif.Message
