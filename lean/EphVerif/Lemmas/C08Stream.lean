/-
C08: the streaming hasher (`update` in any pieces, then `finalize`)
computes pad-parse-fold.
-/
import EphVerif.Lemmas.C08Compress

namespace EphVerif.C08
open EphVerif.Model.Sha256
open EphVerif.Spec.Sha256

theorem parseN_append (k n : Nat) (a b : List UInt8) (ha : a.length = 64 * k) :
    parseN (k + n) (a ++ b) = parseN k a ++ parseN n b := by
  induction k generalizing a with
  | zero => rw [List.length_eq_zero_iff.mp ha, Nat.zero_add]; rfl
  | succ k ih =>
    have h64 : 64 ≤ a.length := by omega
    rw [Nat.add_right_comm, parseN, parseN, List.take_append_of_le_length h64, List.drop_append_of_le_length h64,
      ih _ (by rw [List.length_drop]; omega)]
    rfl

theorem parse_append_aligned (a b : List UInt8) (ha : a.length % 64 = 0) :
    parse (a ++ b) = parse a ++ parse b := by
  rw [parse, List.length_append, show (a.length + b.length) / 64 = a.length / 64 + b.length / 64 by omega,
    parseN_append _ _ _ _ (by omega)]
  rfl

theorem parse_short (l : List UInt8) (h : l.length < 64) : parse l = [] := by
  rw [parse, show l.length / 64 = 0 by omega]; rfl

theorem parse_block (b : List UInt8) (h : b.length = 64) : parse b = [b] := by
  rw [parse, h]
  show [b.take 64] = [b]
  rw [List.take_of_length_le (by omega)]

theorem parse_block_append (a b : List UInt8) (h : a.length = 64) : parse (a ++ b) = a :: parse b := by
  rw [parse_append_aligned _ _ (by rw [h]), parse_block _ h]; rfl

def tail (m : List UInt8) : List UInt8 := m.drop (64 * (m.length / 64))

theorem tail_length (m : List UInt8) : (tail m).length = m.length % 64 := by
  rw [tail, List.length_drop]; omega

theorem tail_append_aligned (a b : List UInt8) (ha : a.length % 64 = 0) : tail (a ++ b) = tail b := by
  rw [tail, List.length_append, show 64 * ((a.length + b.length) / 64) = a.length + 64 * (b.length / 64) by omega,
    List.drop_length_add_append]
  rfl

theorem exists_aligned (m : List UInt8) : ∃ a, a.length % 64 = 0 ∧ a ++ tail m = m ∧ parse a = parse m := by
  have ha : (m.take (64 * (m.length / 64))).length % 64 = 0 := by rw [List.length_take]; omega
  have hp := parse_append_aligned _ (tail m) ha
  rw [tail, List.take_append_drop, ← tail, parse_short (tail m) (by rw [tail_length]; omega), List.append_nil] at hp
  exact ⟨_, ha, List.take_append_drop _ _, hp.symm⟩

theorem parse_append (m x : List UInt8) : parse (m ++ x) = parse m ++ parse (tail m ++ x) := by
  obtain ⟨a, ha, hm, hp⟩ := exists_aligned m
  rw [← hp, ← parse_append_aligned _ _ ha, ← List.append_assoc, hm]

theorem tail_append (m x : List UInt8) : tail (m ++ x) = tail (tail m ++ x) := by
  obtain ⟨a, ha, hm, -⟩ := exists_aligned m
  rw [← tail_append_aligned a (tail m ++ x) ha, ← List.append_assoc, hm]

theorem foldl_transform_eq (bs : List (List UInt8)) (st : Words8) :
    toSpec (bs.foldl transform st) = bs.foldl compress (toSpec st) :=
  (List.foldl_hom toSpec fun st b => (transform_eq st b).symm).symm

theorem updateLoop_eq (st : Words8) (buf data : List UInt8) (hb : buf.length < 64) :
    updateLoop st buf data = ((parse (buf ++ data)).foldl transform st, tail (buf ++ data)) := by
  fun_induction updateLoop st buf data with
  | case1 st buf => rw [List.append_nil, parse_short _ hb, tail, show buf.length / 64 = 0 by omega]; rfl
  | case2 st buf data _ h => rw [gen_spaceBase] at h; omega
  | case3 st buf data hd hs space piece buf' hlen ih =>
    -- the buffer filled up: one transform, continue with an empty buffer
    have hbl : buf'.length = 64 := by rw [hlen, gen_blockSize]
    have hsplit : buf ++ data = buf' ++ data.drop space := by rw [List.append_assoc, List.take_append_drop]
    rw [ih (Nat.zero_lt_succ 63), List.nil_append, hsplit, parse_block_append _ _ hbl,
      tail_append_aligned _ _ (by rw [hbl]), List.foldl_cons]
  | case4 st buf data hd hs space piece buf' hlen ih =>
    -- the buffer did not fill up: at most 64 bytes are in it, and not 64
    have hb' : buf'.length < 64 := by
      have hl : buf'.length = buf.length + min (Gen.C08.spaceBase - buf.length) data.length := by
        rw [← List.length_take, ← List.length_append]
      rw [gen_blockSize] at hlen
      rw [gen_spaceBase] at hl
      omega
    rw [ih hb', List.append_assoc, List.take_append_drop]

/-! (T) obligations on the integer widths read from the source: `bit_len_` and the cast of
`data.size()` are 64-bit, so truncating to them is the identity on the model's `UInt64`.  With a
narrower `bit_len_` (say 32 bits: length field wrong from 2^29 bytes on) `gen_bitLenBits` and with it
`absorbed_update`, `sha_streaming`, `bit_len_exact`, `hmac`, `verify` no longer check. -/
theorem gen_bitLenBits : Gen.C08.bitLenBits = 64 := rfl
theorem gen_bitLenCastBits : Gen.C08.bitLenCastBits = 64 := rfl
theorem gen_bufferSizeBits : 64 < 2 ^ Gen.C08.bufferSizeBits := by decide

theorem wrapBits_64 (x : UInt64) : wrapBits 64 x = x := by
  rw [wrapBits, Nat.mod_eq_of_lt x.toNat_lt]
  exact UInt64.ofNat_toNat

/-- what the hasher object holds after absorbing the message `m` (in whatever pieces) -/
structure Absorbed (s : State) (m : List UInt8) : Prop where
  st : s.st = (parse m).foldl transform (Words8.ofList Gen.C08.initState)
  buf : s.buf = tail m
  bitLen : s.bitLen = UInt64.ofNat (8 * m.length)

theorem absorbed_init : Absorbed init [] := ⟨rfl, rfl, rfl⟩

theorem absorbed_update (s : State) (m d : List UInt8) (h : Absorbed s m) : Absorbed (update s d) (m ++ d) := by
  unfold update
  split
  · next he => rw [List.isEmpty_iff.mp he, List.append_nil]; exact h
  · have hb : s.buf.length < 64 := by rw [h.buf, tail_length]; omega
    rw [updateLoop_eq _ _ _ hb]
    refine ⟨?_, ?_, ?_⟩
    · show (parse (s.buf ++ d)).foldl transform s.st = _
      rw [h.buf, parse_append m d, List.foldl_append, ← h.st]
    · show tail (s.buf ++ d) = _
      rw [h.buf, tail_append m d]
    · show wrapBits Gen.C08.bitLenBits
        (s.bitLen + wrapBits Gen.C08.bitLenCastBits (UInt64.ofNat d.length) * UInt64.ofNat Gen.C08.bitsPerByte) = _
      rw [gen_bitLenBits, gen_bitLenCastBits, wrapBits_64, wrapBits_64, h.bitLen, gen_bitsPerByte, ← UInt64.ofNat_mul,
        ← UInt64.ofNat_add, List.length_append]
      congr 1; omega

theorem absorbed_foldl (cs : List (List UInt8)) (s : State) (m : List UInt8) (h : Absorbed s m) :
    Absorbed (cs.foldl update s) (m ++ cs.flatten) := by
  induction cs generalizing s m with
  | nil => rw [List.flatten_nil, List.append_nil]; exact h
  | cons c cs ih =>
    rw [List.foldl_cons, List.flatten_cons, ← List.append_assoc]
    exact ih _ _ (absorbed_update s m c h)

theorem absorbed_updates (cs : List (List UInt8)) : Absorbed (cs.foldl update init) cs.flatten :=
  absorbed_foldl cs _ _ absorbed_init

theorem shr_toUInt8 (l : Nat) (k : Nat) (hk : k ≤ 56) :
    (UInt64.ofNat l >>> UInt64.ofNat k).toUInt8 = UInt8.ofNat (l >>> k) := by
  apply UInt8.toNat_inj.mp
  rw [UInt64.toNat_toUInt8, UInt64.toNat_shiftRight, UInt64.toNat_ofNat', UInt64.toNat_ofNat', UInt8.toNat_ofNat',
    show k % 2 ^ 64 % 64 = k by omega, Nat.shiftRight_eq_div_pow, Nat.shiftRight_eq_div_pow,
    show (2 : Nat) ^ 64 = 2 ^ k * 2 ^ (64 - k) by rw [← Nat.pow_add]; congr 1; omega, Nat.mod_mul_right_div_self]
  exact Nat.mod_mod_of_dvd _ (Nat.pow_dvd_pow 2 (by omega))

theorem lengthBytes_eq (l : Nat) : lengthBytes (UInt64.ofNat l) = be64 l := by
  have hff : (0xFF : UInt64).toUInt8 = -1 := by decide
  have hr : (List.range (7 + 1)).reverse = [7, 6, 5, 4, 3, 2, 1, 0] := by decide
  simp only [lengthBytes, gen_lengthTopByte, hr, List.map_cons, List.map_nil, UInt64.toUInt8_and, hff, UInt8.and_neg_one]
  rw [shr_toUInt8 l (7 * 8) (by omega), shr_toUInt8 l (6 * 8) (by omega), shr_toUInt8 l (5 * 8) (by omega),
    shr_toUInt8 l (4 * 8) (by omega), shr_toUInt8 l (3 * 8) (by omega), shr_toUInt8 l (2 * 8) (by omega),
    shr_toUInt8 l (1 * 8) (by omega), shr_toUInt8 l (0 * 8) (by omega)]
  rfl

theorem be64_length (l : Nat) : (be64 l).length = 8 := rfl

/-- the zero bytes between `0x80` and the length field reach offset 56 of the block `0x80` falls in or, if it
    lies beyond that offset, of the next block -/
theorem padding_eq (n : Nat) :
    padding n = 0x80 :: (List.replicate (if n % 64 + 1 > 56 then 63 - n % 64 + 56 else 55 - n % 64) 0 ++ be64 (8 * n)) := by
  rw [padding, show (padZeroBits (8 * n) - 7) / 8 = if n % 64 + 1 > 56 then 63 - n % 64 + 56 else 55 - n % 64 by
    unfold padZeroBits; split <;> omega]

/-- the last one or two blocks of the padded message of `n` bytes that ends, after its last whole block, with `t` -/
theorem parse_tail_padding (t : List UInt8) (n : Nat) (ht : t.length = n % 64) :
    parse (t ++ padding n) =
      if t.length + 1 > 56 then [t ++ [0x80] ++ List.replicate (63 - t.length) 0, List.replicate 56 0 ++ be64 (8 * n)]
      else [t ++ [0x80] ++ List.replicate (55 - t.length) 0 ++ be64 (8 * n)] := by
  rw [padding_eq, ← ht]
  split
  · rw [← List.replicate_append_replicate, ← parse_block (List.replicate 56 0 ++ be64 (8 * n)) rfl, ← parse_block_append]
    · simp only [List.append_assoc, List.cons_append, List.nil_append]
    · simp only [List.length_append, List.length_replicate, List.length_cons, List.length_nil]; omega
  · rw [← parse_block]
    · simp only [List.append_assoc, List.cons_append, List.nil_append]
    · simp only [List.length_append, List.length_replicate, List.length_cons, List.length_nil, be64_length]; omega

theorem finalize_eq (s : State) (m : List UInt8) (h : Absorbed s m) : finalize s = Spec.sha256 m := by
  have hH : toSpec s.st = (parse m).foldl compress H0 := by rw [h.st, foldl_transform_eq, gen_H0]
  have h80 : UInt8.ofNat 128 = 128 := rfl
  rw [Spec.sha256, Spec.Sha256.hash, pad, parse_append, List.foldl_append, ← hH, parse_tail_padding _ _ (tail_length m), finalize]
  simp only [gen_terminator, gen_padThreshold, gen_blockSize, gen_lengthOffset, gen_lengthOffset2, h.buf, h.bitLen,
    lengthBytes_eq, List.length_append, List.length_cons, List.length_nil, h80]
  split
  · rw [List.foldl_cons, List.foldl_cons, List.foldl_nil, ← transform_eq, ← transform_eq, ← digestOf_eq,
      show 64 - ((tail m).length + (0 + 1)) = 63 - (tail m).length by omega]
    rfl
  · simp only [List.length_append, List.length_cons, List.length_nil]
    rw [List.foldl_cons, List.foldl_nil, ← transform_eq, ← digestOf_eq,
      show 56 - ((tail m).length + (0 + 1)) = 55 - (tail m).length by omega, List.take_of_length_le]
    simp only [List.length_append, List.length_replicate, List.length_cons, List.length_nil]; omega

end EphVerif.C08
