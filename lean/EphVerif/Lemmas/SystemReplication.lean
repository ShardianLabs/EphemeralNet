/-
SystemReplication — bridging lemmas between the component models (C01, C03, C11, C21, C23, C24, SystemMessaging) and the
glue model `Model/ReplicationGlue.lean`.  Nothing of the components is re-proved here; this file relates their state shapes.
-/
import EphVerif.Model.ReplicationGlue
import EphVerif.Proofs.C01
import EphVerif.Proofs.C03
import EphVerif.Proofs.C11
import EphVerif.Proofs.C21
import EphVerif.Proofs.C23
import EphVerif.Proofs.C24
import EphVerif.Proofs.SystemMessaging

namespace EphVerif.SysRepL
open EphVerif EphVerif.StorePipeline EphVerif.ReplicationGlue EphVerif.C11L

/-- C11's hand-written `manifest_ttl` is the function C02/C03 translate from the clang AST -/
theorem manifestTtl_eq_generated (c : Gen.C02.Cfg) (E wall : Int) :
    manifestTtl E wall c.min_manifest_ttl c.max_manifest_ttl = Gen.C02.manifest_ttl E c wall := rfl

def cfgOf (c : Gen.C02.Cfg) (shardThreshold shardTotal : Nat) : Config :=
  { shardThreshold := shardThreshold, shardTotal := shardTotal, minTtl := c.min_manifest_ttl, maxTtl := c.max_manifest_ttl,
    defaultTtl := c.default_chunk_ttl }

/-- the codec's expiry floor is idempotent: a manifest that was decoded once survives re-encoding unchanged -/
theorem wire_wire (m : Manifest) : wire (wire m) = wire m := by
  unfold wire
  simp only [Int.mul_tdiv_cancel _ (show (1000000000 : Int) ≠ 0 by decide)]

@[simp] theorem wire_chunkId (m : Manifest) : (wire m).chunkId = m.chunkId := rfl
@[simp] theorem wire_chunkHash (m : Manifest) : (wire m).chunkHash = m.chunkHash := rfl
@[simp] theorem wire_threshold (m : Manifest) : (wire m).threshold = m.threshold := rfl
@[simp] theorem wire_shards (m : Manifest) : (wire m).shards = m.shards := rfl

/-- C21 abstracts an ANNOUNCE to the facts the admission chain checks; `Describes` says which manifest, node and instant
    those facts are about -/
structure Describes (a : Announce.Ann) (m : Manifest) (cfg : Config) (wallNowNs : Int) : Prop where
  chunk : a.chunk = chunkName m.chunkId
  threshold : a.thresholdMet = decide (m.threshold > 0 ∧ m.shards.length ≥ m.threshold)
  unexpired : a.unexpired = (manifestTtl m.expiresNs wallNowNs cfg.minTtl cfg.maxTtl).isSome

theorem announce_caches (cfg : Config) (st : NodeState) (wallNowNs : Int) (m : Manifest)
    (hv : m.threshold > 0 ∧ m.shards.length ≥ m.threshold)
    (ht : (manifestTtl m.expiresNs wallNowNs cfg.minTtl cfg.maxTtl).isSome = true)
    (hfree : find st.chunks m.chunkId = none) :
    find (announceAdmitted cfg st wallNowNs m).manifests m.chunkId = some m := by
  obtain ⟨ttl, hm⟩ := Option.isSome_iff_exists.1 ht
  have hg : keepsHeldChunkReadable st m = true := by
    unfold keepsHeldChunkReadable
    rw [hfree]
  unfold announceAdmitted
  rw [if_neg (not_not_intro hv), hm, guard_announce, hg]
  exact find_upsert _ _ _

theorem servable_iff_message (cfg : Config) (st : NodeState) (wallNowNs : Int) (id : Bytes) :
    servable cfg st wallNowNs id = (chunkMessage cfg st wallNowNs id).isSome := by
  unfold servable chunkMessage
  cases find st.manifests id with
  | none => rfl
  | some m =>
    cases find st.chunks id with
    | none => rfl
    | some _ =>
      dsimp only
      cases manifestTtl m.expiresNs wallNowNs cfg.minTtl cfg.maxTtl <;> rfl

theorem message_carries_held (cfg : Config) (st : NodeState) (wallNowNs : Int) (id : Bytes) (msg : ChunkMsg)
    (h : chunkMessage cfg st wallNowNs id = some msg) :
    msg.chunkId = id ∧ ∃ record, exportRecord st id = some record ∧ msg.data = record.data := by
  unfold chunkMessage at h
  split at h
  · rename_i m record hm hr
    split at h
    · cases h
      exact ⟨rfl, record, hr, rfl⟩
    · cases h
  · cases h

theorem handleChunk_cached (cfg : Config) {st : NodeState} (wallNowNs : Int) {msg : ChunkMsg} (rk : Bytes) {m : Manifest}
    (hm : find st.manifests msg.chunkId = some m) :
    handleChunk cfg st wallNowNs true msg rk =
      ((receiveChunk cfg st wallNowNs (some (wire m)) msg.data rk).1,
        some (receiveChunk cfg st wallNowNs (some (wire m)) msg.data rk).2.isAccepted) := by
  rw [handleChunk, hm]
  rfl

theorem handleChunk_cases (cfg : Config) (st : NodeState) (wallNowNs : Int) (hasKey : Bool) (msg : ChunkMsg) (rk : Bytes) :
    (∃ m ttl pt, find st.manifests msg.chunkId = some m ∧ Spec.sha256 pt = m.chunkHash ∧
        handleChunk cfg st wallNowNs hasKey msg rk = (acceptEffects st (wire m) ttl msg.data, some true) ∧
        handleChunkResult cfg st wallNowNs hasKey msg rk = .accepted pt) ∨
    ((handleChunk cfg st wallNowNs hasKey msg rk).1 = st ∧ (handleChunk cfg st wallNowNs hasKey msg rk).2 ≠ some true ∧
      (handleChunkResult cfg st wallNowNs hasKey msg rk).isAccepted = false) := by
  unfold handleChunk handleChunkResult
  cases hasKey with
  | false => exact .inr ⟨rfl, nofun, rfl⟩
  | true =>
    cases hm : find st.manifests msg.chunkId with
    | none => exact .inr ⟨rfl, nofun, rfl⟩
    | some m =>
      simp only [Bool.not_true, Bool.false_eq_true, if_false]
      rcases C11.tamper cfg st wallNowNs (some (wire m)) msg.data rk with
        ⟨m', ttl, pt, _, hd, _, _, _, _, _, hsha, hr⟩ | ⟨h1, h2⟩
      · cases hd
        exact .inl ⟨m, ttl, pt, rfl, hsha, by rw [hr]; rfl, by rw [hr]⟩
      · exact .inr ⟨h1, by rw [h2]; nofun, h2⟩

theorem step_logs_verified (cfg : Config) (b : Importer) (e : Event) :
    ∀ a ∈ (step cfg b e).2, Spec.sha256 a.plaintext = a.manifest.chunkHash := by
  intro a ha
  cases e with
  | chunk now hasKey msg rk =>
    simp only [step] at ha
    rcases handleChunk_cases cfg b.node now hasKey msg rk with ⟨m, ttl, pt, hm, hsha, _, hres⟩ | ⟨_, _, hna⟩
    · rw [hm, hres] at ha
      cases List.mem_singleton.1 ha
      exact hsha
    · split at ha
      · rename_i hres
        rw [hres] at hna
        cases hna
      · cases ha
  | _ => cases ha

theorem run_log (cfg : Config) {P : Accepted → Prop} (hstep : ∀ b e, ∀ a ∈ (step cfg b e).2, P a) (evs : List Event) :
    ∀ (b : Importer) (log : List Accepted), (∀ a ∈ log, P a) → ∀ a ∈ (run cfg (b, log) evs).2, P a := by
  induction evs with
  | nil => exact fun _ _ h => h
  | cons e rest ih =>
    intro b log h
    exact ih _ _ fun a ha => (List.mem_append.1 ha).elim (h a) (hstep b e a)

open EphVerif.StoreSpec (Op) in
theorem last_after_put (p : StoreSpec.Params) (t0 : Int) (pre post : List Op) (c : String) (ct nonce : StoreSpec.Bytes) (ttl : Int)
    (httl : 1 ≤ ttl) (hpost : ∀ o ∈ post, ChunkStore.storesId c o = false) :
    ∃ e, StoreSpec.last (ChunkStore.runSpec p (ChunkStore.freshSpec t0) (pre ++ Op.store c ct ttl nonce true :: post)).s c = some e ∧
      e.deadline = (ChunkStore.runSpec p (ChunkStore.freshSpec t0) pre).now + ttl * 1000000000 := by
  have hsplit : ChunkStore.runSpec p (ChunkStore.freshSpec t0) (pre ++ Op.store c ct ttl nonce true :: post)
      = ChunkStore.runSpec p (StoreSpec.step p (ChunkStore.runSpec p (ChunkStore.freshSpec t0) pre) (Op.store c ct ttl nonce true)) post := by
    simp only [ChunkStore.runSpec, List.foldl_append, List.foldl_cons]
  rw [hsplit, ChunkStore.last_run_other p _ c post hpost]
  refine ⟨_, by simp only [StoreSpec.step, StoreSpec.last, if_true]; rfl, ?_⟩
  simp only [StoreSpec.effStore, StoreSpec.nsPerSec]
  rw [show max (if ttl > 0 then ttl else p.defaultTtl) 1 = ttl by omega]

end EphVerif.SysRepL
