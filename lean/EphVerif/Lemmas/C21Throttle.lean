import EphVerif.Lemmas.C21Basic

/-! C21 — the throttle invariant: relation between `peer_announce_history_` and the full list of times
at which the peer got through `register_incoming_announce`, kept along histories. -/

namespace EphVerif.C21
open EphVerif.Announce

def inWindow (l : List Int) (a w : Int) : Nat := (l.filter (fun t => decide (a ≤ t) && decide (t ≤ a + w))).length

theorem inWindow_append (l m : List Int) (a w : Int) : inWindow (l ++ m) a w = inWindow l a w + inWindow m a w := by
  simp [inWindow, List.filter_append]

theorem inWindow_le_length {l : List Int} {a w : Int} : inWindow l a w ≤ l.length :=
  List.length_filter_le _ _

theorem inWindow_eq_zero {l : List Int} {a w : Int} (h : ∀ t ∈ l, t < a ∨ a + w < t) : inWindow l a w = 0 := by
  rw [inWindow, List.length_eq_zero_iff, List.filter_eq_nil_iff]
  intro t ht
  have := h t ht
  simp
  omega

theorem inWindow_sublist {l m : List Int} (h : l.Sublist m) (a w : Int) : inWindow l a w ≤ inWindow m a w :=
  (h.filter _).length_le

theorem spaced_before {g now : Int} {l : List Int} (hg : 0 < g) (hp : l.Pairwise (fun a b => a + g ≤ b))
    (hl : ∀ last, l.getLast? = some last → last + g ≤ now) {x : Int} (hx : x ∈ l) : x + g ≤ now := by
  cases hlast : l.getLast? with
  | none => rw [List.getLast?_eq_none_iff.mp hlast] at hx; cases hx
  | some last =>
    have hle := hl last hlast
    obtain ⟨ys, rfl⟩ := List.getLast?_eq_some_iff.mp hlast
    rcases List.mem_append.mp hx with hx | hx
    · have := (List.pairwise_append.mp hp).2.2 x hx last (List.mem_singleton_self _)
      omega
    · exact List.mem_singleton.mp hx ▸ hle

/-- `register_incoming_announce` prunes a prefix `pre` that has left the window, and lets the announce through iff
    the rest `kept` ends at least the minimum interval ago and is below the burst limit -/
theorem register_spec (cfg : Cfg) (now : Int) (hist : List Int) :
    ∃ pre kept, hist = pre ++ kept ∧ (∀ t ∈ pre, t + cfg.burstWindow * NS < now) ∧
      (register cfg now hist = (kept, false) ∨
       (register cfg now hist = (kept ++ [now], true) ∧
        (cfg.minInterval > 0 → ∀ last, kept.getLast? = some last → last + cfg.minInterval * NS ≤ now) ∧
        (0 < cfg.burstLimit → kept.length < cfg.burstLimit))) := by
  rw [register]
  generalize hk :
    (if cfg.burstWindow > 0 then hist.dropWhile (fun t => decide (t < now - cfg.burstWindow * NS)) else hist) = h
  have hsplit : ∃ pre, hist = pre ++ h ∧ ∀ t ∈ pre, t + cfg.burstWindow * NS < now := by
    subst hk
    split
    · refine ⟨hist.takeWhile _, List.takeWhile_append_dropWhile.symm, fun t ht => ?_⟩
      have := of_decide_eq_true (List.all_eq_true.mp List.all_takeWhile t ht)
      omega
    · exact ⟨[], rfl, nofun⟩
  obtain ⟨pre, hpre, hpred⟩ := hsplit
  refine ⟨pre, h, hpre, hpred, ?_⟩
  cases hl : h.getLast? with
  | none =>
    simp only [Bool.false_eq_true, if_false]
    split
    · exact .inl rfl
    · next hb => exact .inr ⟨rfl, fun _ => nofun, fun hpos => by simp [hpos] at hb; omega⟩
  | some last =>
    simp only []
    split
    · exact .inl rfl
    · next hsoon =>
      split
      · exact .inl rfl
      · next hb =>
        refine .inr ⟨rfl, fun hmi l hl' => ?_, fun hpos => by simp [hpos] at hb; omega⟩
        cases hl'
        simp [hmi] at hsoon
        omega

/-- `acc`: every time the peer passed the throttle so far (ghost); `hist`: the deque of the code -/
structure TInv (cfg : Cfg) (now : Int) (acc hist : List Int) : Prop where
  split : ∃ dropped, acc = dropped ++ hist ∧ ∀ t ∈ dropped, t + cfg.burstWindow * NS < now
  le_now : ∀ t ∈ acc, t ≤ now
  spaced : acc.Pairwise (fun a b => a + cfg.minInterval * NS ≤ b)
  burst : 0 < cfg.burstLimit → ∀ a, inWindow acc a (cfg.burstWindow * NS) ≤ cfg.burstLimit

theorem tinv_adv {cfg : Cfg} {now : Int} {acc hist : List Int} (h : TInv cfg now acc hist) (d : Nat) :
    TInv cfg (now + d) acc hist := by
  obtain ⟨⟨dropped, he, hd⟩, hl, hs, hb⟩ := h
  exact ⟨⟨dropped, he, fun t ht => by have := hd t ht; omega⟩, fun t ht => by have := hl t ht; omega, hs, hb⟩

theorem register_tinv {cfg : Cfg} {now : Int} {acc hist : List Int} (hW : cfg.minInterval ≤ cfg.burstWindow)
    (h : TInv cfg now acc hist) :
    TInv cfg now (if (register cfg now hist).2 then acc ++ [now] else acc) (register cfg now hist).1 := by
  obtain ⟨⟨dropped, he, hd⟩, hl, hs, hb⟩ := h
  obtain ⟨pre, kept, hpre, hpred, hspec⟩ := register_spec cfg now hist
  have hmul : cfg.minInterval * NS ≤ cfg.burstWindow * NS := Int.mul_le_mul_of_nonneg_right hW (Int.le_of_lt NS_pos)
  -- the ghost list splits into what has left the window by now and what the deque still holds
  have hacc : acc = (dropped ++ pre) ++ kept := by rw [he, hpre, List.append_assoc]
  have hdrop : ∀ t ∈ dropped ++ pre, t + cfg.burstWindow * NS < now := fun t ht =>
    (List.mem_append.mp ht).elim (hd t) (hpred t)
  rcases hspec with e | ⟨e, hlast, hlen⟩ <;> rw [e] <;> simp only [Bool.false_eq_true, ↓reduceIte]
  · exact ⟨⟨_, hacc, hdrop⟩, hl, hs, hb⟩
  · -- every earlier pass is at least the minimum interval before `now`
    have hsp : ∀ a ∈ acc, a + cfg.minInterval * NS ≤ now := by
      intro a ha
      rcases List.mem_append.mp (hacc ▸ ha) with ha' | ha'
      · have := hdrop a ha'; omega
      · by_cases hmi : cfg.minInterval > 0
        · exact spaced_before (Int.mul_pos hmi NS_pos) (List.pairwise_append.mp (hacc ▸ hs)).2.1 (hlast hmi) ha'
        · have := hl a ha
          have := Int.mul_nonpos_of_nonpos_of_nonneg (Int.not_lt.mp hmi) (Int.le_of_lt NS_pos)
          omega
    refine ⟨⟨_, by rw [hacc, List.append_assoc], hdrop⟩,
      fun t ht => (List.mem_append.mp ht).elim (hl t) fun h => Int.le_of_eq (List.mem_singleton.mp h), ?_, fun hpos a => ?_⟩
    · exact List.pairwise_append.mpr ⟨hs, List.pairwise_singleton _ _, fun a ha b hb' => List.mem_singleton.mp hb' ▸ hsp a ha⟩
    · rw [inWindow_append]
      by_cases hin : a ≤ now ∧ now ≤ a + cfg.burstWindow * NS
      · -- the window holds `now`: everything else in it is still in the deque
        have h0 : inWindow (dropped ++ pre) a (cfg.burstWindow * NS) = 0 :=
          inWindow_eq_zero fun t ht => by have := hdrop t ht; omega
        have h1' : inWindow acc a (cfg.burstWindow * NS) ≤ kept.length := by
          rw [hacc, inWindow_append, h0, Nat.zero_add]; exact inWindow_le_length
        have h2' : inWindow [now] a (cfg.burstWindow * NS) ≤ 1 := inWindow_le_length
        have := hlen hpos
        omega
      · rw [inWindow_eq_zero (l := [now]) fun t ht => by cases List.mem_singleton.mp ht; omega]
        exact hb hpos a

def GInv (cfg : Cfg) (s : State) (log : List Ev) : Prop :=
  ∀ p, TInv cfg s.now (passedTimes p log) (s.peers p).hist

theorem ginv_init (cfg : Cfg) (t0 : Int) : GInv cfg (init t0) [] :=
  fun _ => ⟨⟨[], rfl, nofun⟩, nofun, .nil, fun _ _ => Nat.zero_le _⟩

theorem passedTimes_append (p : String) (log : List Ev) (e : Ev) :
    passedTimes p (log ++ [e]) =
      if (e.a.peer == p && e.out.passed) = true then passedTimes p log ++ [e.t] else passedTimes p log := by
  unfold passedTimes
  rw [List.filter_append, List.map_append, List.filter_cons]
  split <;> simp

theorem step_ginv {cfg : Cfg} (hW : cfg.minInterval ≤ cfg.burstWindow) {s : State} {log : List Ev}
    (h : GInv cfg s log) (op : Op) : GInv cfg (step cfg s op).1 (log ++ (step cfg s op).2) := by
  intro p
  cases op with
  | adv d =>
    show TInv cfg (s.now + d) (passedTimes p (log ++ [])) _
    rw [List.append_nil]
    exact tinv_adv (h p) d
  | ann a =>
    show TInv cfg s.now (passedTimes p (log ++ [_])) ((announce cfg s a).1.peers p).hist
    rw [passedTimes_append]
    by_cases hp : p = a.peer
    · subst hp
      rw [announce_peer, announce_out, beq_self_eq_true, Bool.true_and]
      rcases peerAnnounce_hist cfg s.now (s.peers a.peer) a with ⟨e1, e2⟩ | ⟨e1, e2⟩ <;> rw [e1, e2]
      · exact h a.peer
      · exact register_tinv hW (h a.peer)
    · rw [announce_other _ _ _ _ hp, beq_false_of_ne (Ne.symm hp), Bool.false_and, if_neg Bool.false_ne_true]
      exact h p

theorem run_ginv {cfg : Cfg} (hW : cfg.minInterval ≤ cfg.burstWindow) (ops : List Op) :
    ∀ (s : State) (log : List Ev), GInv cfg s log →
      GInv cfg (run cfg (s, log) ops).1 (run cfg (s, log) ops).2 := by
  induction ops with
  | nil => intro s log h; exact h
  | cons op rest ih => intro s log h; exact ih _ _ (step_ginv hW h op)

theorem filter_sublist_filter {α : Type} {p q : α → Bool} (h : ∀ a, p a = true → q a = true) :
    ∀ l : List α, (l.filter p).Sublist (l.filter q)
  | [] => .slnil
  | a :: l => by
    rw [List.filter_cons, List.filter_cons]
    split
    · next hp => rw [if_pos (h a hp)]; exact (filter_sublist_filter h l).cons_cons a
    · split
      · exact (filter_sublist_filter h l).cons a
      · exact filter_sublist_filter h l

theorem acceptedTimes_sublist (p : String) (log : List Ev) : (acceptedTimes p log).Sublist (passedTimes p log) := by
  refine (filter_sublist_filter (fun e he => ?_) log).map _
  rw [Bool.and_eq_true, beq_iff_eq, beq_iff_eq] at he
  rw [he.1, he.2, beq_self_eq_true]
  rfl

end EphVerif.C21
