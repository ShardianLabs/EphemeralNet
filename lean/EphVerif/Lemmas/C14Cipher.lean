/-
C14 helper lemmas about the RFC 8439 specification itself (no reference to the C++ model of C09):
for a 32-byte key and a 12-byte nonce every key-stream block has 64 bytes, the cipher preserves
lengths and applying it twice with the same key, nonce and counter is the identity.
-/
import EphVerif.Spec.ChaCha20

namespace EphVerif.Frames.Cipher
open EphVerif.Spec EphVerif.Spec.ChaCha

theorem leWords_length : ∀ (l : List UInt8), (leWords l).length = l.length / 4
  | [] => rfl
  | [_] => by simp [leWords]
  | [_, _] => by simp [leWords]
  | [_, _, _] => by simp [leWords]
  | _ :: _ :: _ :: _ :: rest => by
    simp only [leWords, List.length_cons, leWords_length rest]
    omega

theorem qrAt_length (s : State) (x y z w : Nat) : (qrAt s x y z w).length = s.length := by
  simp [qrAt]

theorem innerBlock_length (s : State) : (innerBlock s).length = s.length := by
  simp [innerBlock, qrAt_length]

theorem innerBlocks_length (n : Nat) (s : State) : (innerBlocks n s).length = s.length := by
  induction n generalizing s with
  | zero => rfl
  | succ n ih => rw [innerBlocks, ih, innerBlock_length]

theorem initState_length (key nonce : List UInt8) (counter : UInt32) (hk : key.length = 32) (hn : nonce.length = 12) :
    (initState key counter nonce).length = 16 := by
  simp [initState, sigma, leWords_length, hk, hn]

theorem length_flatMap_const {α β : Type} (f : α → List β) (k : Nat) (h : ∀ a, (f a).length = k) (l : List α) :
    (l.flatMap f).length = k * l.length := by
  induction l with
  | nil => rfl
  | cons a l ih => rw [List.flatMap_cons, List.length_append, h, ih, List.length_cons, Nat.mul_succ, Nat.add_comm]

theorem serialize_length (s : State) : (serialize s).length = 4 * s.length :=
  length_flatMap_const leBytes 4 (fun _ => rfl) s

theorem block_length (key nonce : List UInt8) (counter : UInt32) (hk : key.length = 32) (hn : nonce.length = 12) :
    (chacha20Block key counter nonce).length = 64 := by
  simp [chacha20Block, serialize_length, blockState, addStates, innerBlocks_length, initState_length key nonce counter hk hn]

theorem keystream_length (key nonce : List UInt8) (counter : UInt32) (n : Nat) (hk : key.length = 32) (hn : nonce.length = 12) :
    (keystream key nonce counter n).length = 64 * n := by
  rw [keystream, length_flatMap_const _ 64 (fun _ => block_length key nonce _ hk hn), List.length_range]

theorem keystream_covers (key nonce : List UInt8) (counter : UInt32) (len : Nat) (hk : key.length = 32) (hn : nonce.length = 12) :
    len ≤ (keystream key nonce counter (blocksFor len)).length := by
  rw [keystream_length key nonce counter _ hk hn, blocksFor]
  omega

theorem chacha20_length (key nonce : List UInt8) (counter : UInt32) (x : List UInt8)
    (hk : key.length = 32) (hn : nonce.length = 12) :
    (chacha20 key nonce counter x).length = x.length := by
  rw [chacha20, List.length_zipWith]
  exact Nat.min_eq_left (keystream_covers key nonce counter _ hk hn)

theorem xor_cancel (b k : UInt8) : (b ^^^ k) ^^^ k = b := by
  rw [UInt8.xor_assoc, UInt8.xor_self, UInt8.xor_zero]

theorem zipWith_xor_twice : ∀ (x ks : List UInt8), x.length ≤ ks.length →
    List.zipWith (· ^^^ ·) (List.zipWith (· ^^^ ·) x ks) ks = x
  | [], _, _ => by simp
  | _ :: _, [], h => by simp at h
  | b :: x, k :: ks, h => by
    simp only [List.zipWith_cons_cons, xor_cancel, List.cons.injEq, true_and]
    exact zipWith_xor_twice x ks (by simpa using h)

theorem chacha20_involution (key nonce : List UInt8) (counter : UInt32) (x : List UInt8)
    (hk : key.length = 32) (hn : nonce.length = 12) :
    chacha20 key nonce counter (chacha20 key nonce counter x) = x := by
  have hlen := chacha20_length key nonce counter x hk hn
  unfold chacha20 at hlen ⊢
  rw [hlen]
  exact zipWith_xor_twice _ _ (keystream_covers key nonce counter _ hk hn)

end EphVerif.Frames.Cipher
