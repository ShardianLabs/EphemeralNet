/-
Lemmas for C38: `parse_update_metadata` ends in success or an error message, and its field
extraction reports decodings of the document's string literals; inputs opening more containers
than the limit are rejected.
-/
import EphVerif.Lemmas.C38Strings
namespace EphVerif.C38L
open EphVerif.UpdateJson EphVerif.JsonSpec EphVerif.C38Spec

theorem findMember_mem {ms : List (Nat × List Nat × JV)} {key : List Nat} {v : JV}
    (h : findMember ms key = some v) : ∃ m ∈ ms, m.2.2 = v := by
  induction ms with
  | nil => simp [findMember] at h
  | cons m rest ih =>
    obtain ⟨off, k, w⟩ := m
    unfold findMember at h
    split at h
    · exact ⟨(off, k, w), by simp, by injection h⟩
    · obtain ⟨m', hm', hv⟩ := ih h
      exact ⟨m', by simp [hm'], hv⟩

theorem strAt_of_find {inp : Input} {ms : List (Nat × List Nat × JV)} {key : List Nat} {off : Nat} {s : List Nat}
    (hall : ∀ m ∈ ms, AllStr (StrAt inp) m.2.2) (h : findMember ms key = some (.str off s)) : StrAt inp off s := by
  obtain ⟨m, hm, hv⟩ := findMember_mem h
  have := hall m hm
  rw [hv] at this
  cases this with
  | str _ _ hp => exact hp

theorem safe_expectStringField {inp : Input} {ms : List (Nat × List Nat × JV)} {key : String}
    (hall : ∀ m ∈ ms, AllStr (StrAt inp) m.2.2) :
    Safe (FieldIs inp ms key) (expectStringField (.obj ms) key) := by
  unfold expectStringField
  split
  · next off s hf => exact ⟨off, hf, strAt_of_find hall hf⟩
  · trivial

theorem optStringField_ok {inp : Input} {ms : List (Nat × List Nat × JV)} {key : String}
    (hall : ∀ m ∈ ms, AllStr (StrAt inp) m.2.2) : OptFieldIs inp ms key (optStringField (.obj ms) key) := by
  unfold optStringField
  split
  · next off s hf =>
    simp only [JV.find] at hf
    exact ⟨off, hf, strAt_of_find hall hf⟩
  · next hn =>
    intro off s hc
    exact hn off s (by simp only [JV.find]; exact hc)

theorem defStringField_ok {inp : Input} {ms : List (Nat × List Nat × JV)} {key : String}
    (hall : ∀ m ∈ ms, AllStr (StrAt inp) m.2.2) :
    DefFieldIs inp ms key ((optStringField (.obj ms) key).getD []) := by
  have := optStringField_ok (key := key) hall
  cases h : optStringField (.obj ms) key with
  | some v => rw [h] at this; exact Or.inl this
  | none => rw [h] at this; exact Or.inr ⟨rfl, this⟩

theorem safe_downloadsLoop {inp : Input} {all : List (Nat × List Nat × JV)}
    (hkeys : ∀ m ∈ all, StrAt inp m.1 m.2.1) (hvals : ∀ m ∈ all, AllStr (StrAt inp) m.2.2)
    (dls : List (Nat × List Nat × JV)) (hsub : ∀ m ∈ dls, m ∈ all)
    (acc : List Download) (hacc : ∀ d ∈ acc, DownloadIs inp all d) :
    Safe (fun out => ∀ d ∈ out, DownloadIs inp all d) (downloadsLoop dls acc) := by
  induction dls generalizing acc with
  | nil => exact hacc
  | cons m rest ih =>
    obtain ⟨keyOff, platform, value⟩ := m
    have hm := hsub _ List.mem_cons_self
    have hrest : ∀ m ∈ rest, m ∈ all := fun m h => hsub m (List.mem_cons_of_mem _ h)
    unfold downloadsLoop
    split
    · next vms =>
      have hvms : ∀ m ∈ vms, AllStr (StrAt inp) m.2.2 := by
        cases hvals _ hm with
        | obj _ _ h2 => exact h2
      refine Safe.bind (safe_expectStringField hvms) fun url hurl => ?_
      exact ih hrest _ (List.forall_mem_append.mpr ⟨hacc, List.forall_mem_singleton.mpr
        ⟨keyOff, vms, hm, hkeys _ hm, hurl, defStringField_ok hvms, defStringField_ok hvms,
          optStringField_ok hvms⟩⟩)
    · exact ih hrest acc hacc

/-- the statement of C38_strings for one successful run -/
def MetadataIs (inp : Input) (m : Metadata) : Prop :=
  ∃ ms dls, parseDocument inp = .ok (.obj ms) ∧
    FieldIs inp ms "version" m.version ∧ FieldIs inp ms "tag" m.tag ∧ FieldIs inp ms "commit" m.commit ∧
    FieldIs inp ms "channel" m.channel ∧ FieldIs inp ms "generated_at" m.generatedAt ∧
    OptFieldIs inp ms "notes_url" m.notesUrl ∧
    findMember ms (ascii "downloads") = some (.obj dls) ∧ m.downloads ≠ [] ∧
    ∀ d ∈ m.downloads, DownloadIs inp dls d

theorem safe_extractMetadata {inp : Input} {root : JV} (hroot : parseDocument inp = .ok root)
    (hgood : AllStr (StrAt inp) root) : Safe (MetadataIs inp) (extractMetadata root) := by
  unfold extractMetadata
  split
  · next ms =>
    have hvals : ∀ m ∈ ms, AllStr (StrAt inp) m.2.2 := by
      cases hgood with
      | obj _ _ h2 => exact h2
    refine Safe.bind (safe_expectStringField hvals) fun version h1 => ?_
    refine Safe.bind (safe_expectStringField hvals) fun tag h2 => ?_
    refine Safe.bind (safe_expectStringField hvals) fun commit h3 => ?_
    refine Safe.bind (safe_expectStringField hvals) fun channel h4 => ?_
    refine Safe.bind (safe_expectStringField hvals) fun generatedAt h5 => ?_
    split
    · next dls hf =>
      obtain ⟨mm, hmm, hv⟩ := findMember_mem hf
      have hdl := hvals mm hmm
      rw [hv] at hdl
      cases hdl with
      | obj _ hk hvv =>
      refine Safe.bind (safe_downloadsLoop hk hvv dls (fun _ h => h) [] (List.forall_mem_nil _))
        fun downloads hd => ?_
      split
      · trivial
      · next hne =>
        exact ⟨ms, dls, hroot, h1, h2, h3, h4, h5, optStringField_ok hvals, hf,
          fun hc => hne (List.isEmpty_iff.mpr hc), hd⟩
    · trivial
  · trivial

theorem safe_parseUpdateMetadata (inp : Input) : Safe (MetadataIs inp) (parseUpdateMetadata inp) := by
  unfold parseUpdateMetadata
  rcases (safe_parseDocument inp).ok_or_err with ⟨root, hr, hgood⟩ | ⟨m, hr⟩ <;> rw [hr]
  · exact safe_extractMetadata hr hgood.1
  · trivial

theorem eof_of_some {inp : Input} {pos b : Nat} (h : inp[pos]? = some b) : eof inp pos = false :=
  eof_of_lt (lt_of_getElem? h)

theorem skipWs_stop {inp : Input} {pos b : Nat} (fuel : Nat) (h : inp[pos]? = some b) (hb : isWs b = false) :
    skipWs inp (fuel + 1) pos = .ok pos := by
  unfold skipWs
  simp [eof_of_some h, rawAt_some h, hb]
  rfl

theorem deep_reject (inp : Input) (d pos : Nat) (h : ∀ i, i ≤ d → inp[pos + i]? = some 0x5B) :
    parseValue inp d pos = .err "JSON nesting too deep" := by
  induction d generalizing pos with
  | zero =>
    have h0 : inp[pos]? = some 0x5B := by simpa using h 0 (by omega)
    unfold parseValue
    simp [eof_of_some h0, peek, rawAt_some h0]
  | succ d ih =>
    have h0 : inp[pos]? = some 0x5B := by simpa using h 0 (by omega)
    have h1 : inp[pos + 1]? = some 0x5B := h 1 (by omega)
    have hrec := ih (pos + 1) (fun i hi => by have := h (i + 1) (by omega); rwa [show pos + (i + 1) = pos + 1 + i by omega] at this)
    unfold parseValue
    simp only [eof_of_some h0, peek, rawAt_some h0, Bool.false_eq_true, if_false]
    simp only [show ¬ ((0x5B : Nat) = 0x22) by decide, show ¬ ((0x5B : Nat) = 0x7B) by decide, if_false]
    unfold parseArray
    simp only [expect, eof_of_some h0, rawAt_some h0, Bool.false_eq_true, if_false, ok_bind, if_true, pure_bind']
    unfold fuelFor
    rw [skipWs_stop _ h1 (by decide)]
    simp only [ok_bind, matchCh, eof_of_some h1, rawAt_some h1, Bool.false_eq_true, if_false,
      show ¬ ((0x5B : Nat) = 0x5D) by decide, pure_bind']
    unfold arrLoop
    unfold fuelFor
    rw [skipWs_stop _ h1 (by decide)]
    simp only [ok_bind, hrec]
    rfl

theorem deep_document_reject (n : Nat) (rest : List Nat) (hn : EphVerif.Gen.C38.kMaxJsonDepth < n) :
    parseDocument (List.replicate n 0x5B ++ rest).toArray = .err "JSON nesting too deep" := by
  have hget : ∀ i, i < n → (List.replicate n 0x5B ++ rest).toArray[i]? = some 0x5B := by
    intro i hi
    simp [List.getElem?_append_left (show i < (List.replicate n 0x5B).length by simpa using hi), hi]
  unfold parseDocument fuelFor
  rw [skipWs_stop _ (hget 0 (by omega)) (by decide)]
  simp only [ok_bind]
  rw [deep_reject _ _ 0 (fun i hi => by rw [Nat.zero_add]; exact hget i (by omega))]
  rfl

end EphVerif.C38L
