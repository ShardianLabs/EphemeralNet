/-
C06: how each model operation acts on `holdersOf`, the per-locator invariant, and the simulation
relation `R` between the model's locator table and the abstract directory, preserved by every
operation (`add_contact`: `C06Add`).
-/
import EphVerif.Lemmas.C06Cut

namespace EphVerif.C06L
open EphVerif.Providers EphVerif.C06Spec List

theorem filter_live_mono {now now' : Int} (h : now ≤ now') (l : List Ann) :
    (l.filter (liveAt now)).filter (liveAt now') = l.filter (liveAt now') := by
  rw [filter_filter]
  refine filter_congr fun x _ => Bool.and_eq_left_iff_imp.mpr ?_
  simp only [liveAt, decide_eq_true_eq]
  omega

theorem holdersOf_set (t : Table) (c k : String) (v : Option Loc) :
    holdersOf (t.set c v) k = if k = c then (match v with | some l => l.holders | none => []) else holdersOf t k := by
  unfold holdersOf Table.set
  by_cases h : k = c
  · simp only [h, if_true]; cases v <;> rfl
  · simp only [h, if_false]

/-- keep those holders of `c` that satisfy `q` and erase the locator when none is left: what
    `find_providers` and `withdraw_contact` both do to the table -/
def prune (t : Table) (c : String) (q : Holder → Bool) : Table :=
  match t c with
  | none => t
  | some l =>
    if (l.holders.filter q).isEmpty then t.set c none else t.set c (some { l with holders := l.holders.filter q })

theorem withdraw_eq (t : Table) (c p : String) :
    Providers.withdraw t c p = prune t c (fun h => h.peer != p) := rfl

theorem find_fst (t : Table) (now : Int) (c : String) :
    (findProviders t now c).1 = prune t c (liveAt now) := by
  unfold findProviders prune
  simp only [filter_not_expired]
  cases t c with
  | none => rfl
  | some l => simp only []; split <;> rfl

theorem find_snd (t : Table) (now : Int) (c : String) :
    (findProviders t now c).2 = (holdersOf t c).filter (liveAt now) := by
  unfold findProviders holdersOf
  simp only [filter_not_expired]
  cases t c with
  | none => rfl
  | some l =>
    simp only []
    split
    · rename_i he; exact (isEmpty_iff.mp he).symm
    · rfl

theorem holdersOf_prune (t : Table) (c : String) (q : Holder → Bool) (k : String) :
    holdersOf (prune t c q) k = if k = c then (holdersOf t c).filter q else holdersOf t k := by
  unfold prune
  cases h : t c with
  | none =>
    by_cases hk : k = c
    · subst hk; simp [holdersOf, h]
    · simp [hk]
  | some l =>
    simp only []
    split
    · rename_i he
      rw [holdersOf_set]; simp [holdersOf, h, isEmpty_iff.mp he]
    · rw [holdersOf_set]; simp [holdersOf, h]

/-- the holder list `add_contact` leaves for a chunk whose list before truncation is `base` -/
def truncate (base : List Ann) (hint : Option (List String)) : List Ann :=
  if base.length > maxProviders then cut maxProviders base hint else base

theorem add_holders (t : Table) (now : Int) (c p : String) (ttl : Int) (hint : Option (List String)) (k : String) :
    holdersOf (addContact t now c p ttl hint) k =
      if k = c then truncate (addBase (holdersOf t c) p (now + ttl)) hint else holdersOf t k := by
  unfold addContact
  simp only [holdersOf_set, truncate]

theorem sweep_apply (t : Table) (now : Int) (c : String) :
    sweep t now c = match t c with
      | none => none
      | some l =>
        if (l.holders.filter (liveAt now)).isEmpty || decide (now ≥ l.exp) then none
        else some { l with holders := l.holders.filter (liveAt now) } := by
  simp only [← filter_not_expired]
  rfl

def LocOK (l : Loc) : Prop :=
  PeerDistinct l.holders ∧ l.holders.length ≤ 20 ∧ ∀ h ∈ l.holders, h.exp ≤ l.exp

def TableOK (t : Table) : Prop := ∀ c l, t c = some l → LocOK l

theorem LocOK.filter {l : Loc} (h : LocOK l) (p : Ann → Bool) : LocOK { l with holders := l.holders.filter p } := by
  refine ⟨h.1.filter p, Nat.le_trans (length_filter_le p _) h.2.1, ?_⟩
  intro x hx
  exact h.2.2 x (mem_filter.mp hx).1

theorem TableOK.set {t : Table} (h : TableOK t) (c : String) (v : Option Loc)
    (hv : ∀ l, v = some l → LocOK l) : TableOK (t.set c v) := by
  intro k l hk
  unfold Table.set at hk
  by_cases hkc : k = c
  · simp [hkc] at hk; exact hv l hk
  · simp [hkc] at hk; exact h k l hk

theorem TableOK.distinct {t : Table} (h : TableOK t) (c : String) : PeerDistinct (holdersOf t c) := by
  unfold holdersOf
  cases hc : t c with
  | none => exact Pairwise.nil
  | some l => exact (h c l hc).1

theorem TableOK.length {t : Table} (h : TableOK t) (c : String) : (holdersOf t c).length ≤ 20 := by
  unfold holdersOf
  cases hc : t c with
  | none => simp
  | some l => exact (h c l hc).2.1

theorem prune_ok {t : Table} (h : TableOK t) (c : String) (q : Holder → Bool) : TableOK (prune t c q) := by
  unfold prune
  cases hc : t c with
  | none => exact h
  | some l =>
    simp only []
    split
    · exact h.set c none (by simp)
    · refine h.set c _ ?_
      intro l' hl'
      cases hl'
      exact (h c l hc).filter _

theorem sweep_ok {t : Table} (h : TableOK t) (now : Int) : TableOK (sweep t now) := by
  intro c l hl
  rw [sweep_apply] at hl
  cases hc : t c with
  | none => simp [hc] at hl
  | some l0 =>
    simp only [hc] at hl
    split at hl
    · cases hl
    · cases hl
      exact (h c l0 hc).filter _

/-- needs the locator to outlive its holders: the `now ≥ locator.expires_at` disjunct of the sweep can then
    only fire when all holders are expired -/
theorem sweep_holders {t : Table} (h : TableOK t) (now : Int) (c : String) :
    holdersOf (sweep t now) c = (holdersOf t c).filter (liveAt now) := by
  unfold holdersOf
  rw [sweep_apply]
  cases hc : t c with
  | none => rfl
  | some l =>
    by_cases hcond : ((l.holders.filter (liveAt now)).isEmpty || decide (now ≥ l.exp)) = true
    · simp only [hcond, if_true]
      simp only [Bool.or_eq_true, isEmpty_iff, decide_eq_true_eq] at hcond
      rcases hcond with he | hexp
      · exact he.symm
      · refine (filter_eq_nil_iff.mpr fun x hx => ?_).symm
        have := (h c l hc).2.2 x hx
        simp only [liveAt, decide_eq_true_eq]
        omega
    · simp only [hcond]; rfl

theorem sweep_find_same {t : Table} (h : TableOK t) (now : Int) (c : String) :
    (findProviders (sweep t now) now c).2 = (findProviders t now c).2 := by
  rw [find_snd, find_snd, sweep_holders h, filter_live_mono (Int.le_refl now)]

structure R (now : Int) (t : Table) (s : S) : Prop where
  ok : TableOK t
  sim : ∀ c, (holdersOf t c).filter (liveAt now) ~ (s c).filter (liveAt now)

theorem R_init (now : Int) : R now Table.empty C06Spec.empty :=
  ⟨fun _ _ => nofun, fun _ => Perm.nil⟩

theorem R_adv {now : Int} {t : Table} {s : S} (h : R now t s) (d : Nat) : R (now + d) t s := by
  refine ⟨h.ok, fun c => ?_⟩
  have hle : now ≤ now + (d : Int) := by omega
  rw [← filter_live_mono hle (holdersOf t c), ← filter_live_mono hle (s c)]
  exact (h.sim c).filter _

theorem R.of_live_eq {now : Int} {t t' : Table} {s : S} (h : R now t s) (ok : TableOK t')
    (he : ∀ c, (holdersOf t' c).filter (liveAt now) = (holdersOf t c).filter (liveAt now)) : R now t' s :=
  ⟨ok, fun c => by rw [he c]; exact h.sim c⟩

theorem R_find {now : Int} {t : Table} {s : S} (h : R now t s) (c : String) :
    R now (findProviders t now c).1 s := by
  rw [find_fst]
  refine h.of_live_eq (prune_ok h.ok c _) fun k => ?_
  rw [holdersOf_prune]
  split
  · rename_i hk; rw [hk, filter_live_mono (Int.le_refl now)]
  · rfl

theorem R.lookup {now : Int} {t : Table} {s : S} (h : R now t s) (c : String) :
    (findProviders t now c).2 ~ C06Spec.find s now c ∧
      (∀ a, a ∈ (findProviders t now c).2 ↔ a ∈ C06Spec.find s now c) ∧
      (findProviders t now c).2.length ≤ 20 := by
  rw [find_snd]
  exact ⟨h.sim c, fun _ => (h.sim c).mem_iff, Nat.le_trans (length_filter_le _ _) (h.ok.length c)⟩

theorem R_sweep {now : Int} {t : Table} {s : S} (h : R now t s) : R now (sweep t now) s :=
  h.of_live_eq (sweep_ok h.ok now) fun k => by
    rw [sweep_holders h.ok, filter_live_mono (Int.le_refl now)]

theorem R_withdraw {now : Int} {t : Table} {s : S} (h : R now t s) (c p : String) :
    R now (Providers.withdraw t c p) (C06Spec.withdraw s c p) := by
  rw [withdraw_eq]
  refine ⟨prune_ok h.ok c _, fun k => ?_⟩
  rw [holdersOf_prune]
  unfold C06Spec.withdraw C06Spec.set
  by_cases hk : k = c
  · subst hk
    simp only [if_true]
    rw [filter_comm, filter_comm (liveAt now)]
    exact (h.sim k).filter _
  · simp only [hk, if_false]; exact h.sim k

end EphVerif.C06L
