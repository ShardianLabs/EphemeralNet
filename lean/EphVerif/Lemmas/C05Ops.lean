/-
C05 lemmas, part 2: the operations of the node model, each unfolded once.  `Quiet` / `Sub`: the operations that
create nothing only shrink the state.  `Creates cfg s op d`: `op`, run in `s`, writes the steady-clock deadline `d`;
nothing appears without being created (`Deadlines.step`), and what is created ends after `s.now` (`creates_pos`).
-/
import EphVerif.Lemmas.C05Basic

namespace EphVerif.Sys
open EphVerif.NodeCleanup

/-- the advertised provider TTL of `handle_announce` -/
def advertised (cfg : Cfg) (ttl t : Int) : Int :=
  ChunkStore.clampChunkTtl (if (if ttl > 0 then ttl else t) > t then t else (if ttl > 0 then ttl else t))
    cfg.node.minTtl cfg.node.maxTtl

end EphVerif.Sys

namespace EphVerif.C05L
open EphVerif.NodeCleanup
open EphVerif.ChunkStore (aget aset Recs)
open EphVerif.Sys (advertised)

theorem cleanup_eq (cfg : Cfg) (s : State) :
    cleanup cfg s =
      { s with recs := (ChunkStore.sweep s.recs s.now).1,
               notes := s.notes ++ (ChunkStore.sweep s.recs s.now).2,
               locs := Providers.sweep (withdrawAll s.locs cfg.self (ChunkStore.sweep s.recs s.now).2) s.now,
               routes := Routing.sweepBuckets s.routes s.now,
               shards := s.shards.filter (fun e => !(shardDead s.now e.2)),
               cache := s.cache.filter (fun e => !(manifestDead (wall cfg s) e.2)),
               plans := s.plans.filter (fun e => !(planDead s.cache (wall cfg s) e.1)),
               lastCleanup := s.now } := rfl

theorem tick_clock (cfg : Cfg) (s : State) :
    (tick cfg s).now = s.now ∧
    (tick cfg s).lastCleanup = if gate cfg s then s.now else s.lastCleanup := by
  unfold tick
  split <;> exact ⟨rfl, rfl⟩

/-- `dht_.add_contact(chunk, contact, ttl)` at time `now`: locator entry and routing bucket
    (`selfAnnounce` is the case `p = cfg.self`, by `rfl`) -/
def addProvider (s : State) (now : Int) (c p : String) (pid : Routing.Id) (addr : String) (ttlNs : Int)
    (hint : Option (List String)) : State :=
  { s with locs := Providers.addContact s.locs now c p ttlNs hint,
           routes := Routing.addContactBucket s.routes now ⟨pid, addr, 0⟩ ttlNs }

/-!
Each rule says which states the operation can leave: to show `I` of the result, show it of each of them. -/

section Outcomes
variable {I : State → Prop} {cfg : Cfg} {s : State} {c : String}

theorem ingest_ind {e : Int} {same : Bool} (h : I s)
    (hacc : ∀ t, manifestTtl cfg (wall cfg s) e = some t → I (acceptManifest cfg s c e t)) :
    I (ingest cfg s c e same) := by
  unfold ingest
  split
  · exact h
  · next t ht =>
    split
    · exact h
    · exact hacc t ht

theorem announce_ind {e : Int} {same : Bool} {p : String} {pid : Routing.Id} {addr : String} {ttl : Int}
    {hint : Option (List String)} (h : I s)
    (hacc : ∀ t, manifestTtl cfg (wall cfg s) e = some t → I (acceptManifest cfg s c e t))
    (hadd : ∀ t s1, manifestTtl cfg (wall cfg s) e = some t → I s1 →
      I (addProvider s1 s.now c p pid addr (advertised cfg ttl t * ns) hint)) :
    I (announce cfg s c e same p pid addr ttl hint) := by
  unfold announce
  split
  · exact h
  · next t ht =>
    have h1 : I (if EphVerif.Gen.C05.announceGuardsHeld && !(keepsReadable s c same) then s
        else acceptManifest cfg s c e t) := by
      split
      · exact h
      · exact hacc t ht
    by_cases ha : addr = ""
    · rw [if_pos ha]
      exact h1
    · rw [if_neg ha]
      exact hadd t _ ht h1

theorem reannounce_ind {ttl : Int} {hint : Option (List String)} (h : I s)
    (hadd : ∀ r, ChunkStore.getRecord s.recs s.now c = some r → r.expires ≤ s.now + ttl * ns →
      I (selfAnnounce cfg s c (ttl * ns) hint)) :
    I (reannounce cfg s c ttl hint) := by
  unfold reannounce
  split
  · exact h
  · next r hr =>
    split
    · exact h
    · exact hadd r hr (by omega)

/-- for a held chunk whose key-share record is gone, `publish_shards` alone; for a chunk not held, a probe -/
theorem lookup_ind (h : I s)
    (hpub : ∀ e t, aget s.cache c = some e → manifestTtl cfg (wall cfg s) e = some t →
      I { s with shards := aset s.shards c (s.now + t * ns) })
    (hprobe : I (probe s c)) : I (lookup cfg s c) := by
  unfold lookup
  split
  · split
    · exact h
    · split
      · exact h
      · next e he =>
        split
        · next t ht => exact hpub e t he ht
        · exact h
  · exact hprobe

end Outcomes

theorem step_other (cfg : Cfg) (s : State) {op : Op} (h : evOf op = .other) :
    (step cfg s op).now = s.now ∧ (step cfg s op).lastCleanup = s.lastCleanup ∧ (step cfg s op).recs = s.recs ∧
    (op = .drain ∨ (step cfg s op).notes = s.notes) := by
  let I (s' : State) : Prop :=
    s'.now = s.now ∧ s'.lastCleanup = s.lastCleanup ∧ s'.recs = s.recs ∧ (op = .drain ∨ s'.notes = s.notes)
  have I0 : I s := ⟨rfl, rfl, rfl, .inr rfl⟩
  cases op with
  | adv | store | tick => cases h
  | ingest => exact ingest_ind I0 fun _ _ => I0
  | announce => exact announce_ind I0 (fun _ _ => I0) fun _ _ _ h1 => h1
  | reannounce => exact reannounce_ind I0 fun _ _ _ => I0
  | lookup => exact lookup_ind I0 (fun _ _ _ _ => I0) I0
  | probe | audit => exact I0
  | drain => exact ⟨rfl, rfl, rfl, .inl rfl⟩

theorem notified_other (cfg : Cfg) (r : Run) {op : Op} (h : evOf op = .other) : (exec cfg r op).notified = r.notified := by
  have hn := (step_other cfg r.s h).2.2.2
  cases op with
  | adv | store | tick => cases h
  | drain => exact List.append_nil _
  | _ => exact congrArg (r.drained ++ ·) (hn.resolve_left fun h => nomatch h)

theorem step_clock (cfg : Cfg) (s : State) (op : Op) :
    s.now ≤ (step cfg s op).now ∧
    ((step cfg s op).lastCleanup = s.lastCleanup ∨ op = .tick ∧ (step cfg s op).lastCleanup = s.now) := by
  by_cases h : evOf op = .other
  · obtain ⟨hn, hl, _⟩ := step_other cfg s h
    exact ⟨Int.le_of_eq hn.symm, .inl hl⟩
  · cases op with
    | adv d => exact ⟨by show s.now ≤ s.now + d; omega, .inl rfl⟩
    | store => exact ⟨Int.le_refl _, .inl rfl⟩
    | tick =>
      obtain ⟨hn, hl⟩ := tick_clock cfg s
      refine ⟨Int.le_of_eq hn.symm, ?_⟩
      split at hl
      · exact .inr ⟨rfl, hl⟩
      · exact .inl hl
    | _ => exact absurd rfl h

theorem run_invariant {cfg : Cfg} {I : State → Prop} {ops : List Op} (hstep : ∀ s, ∀ op ∈ ops, I s → I (step cfg s op))
    {r : Run} (h : I r.s) : I (run cfg r ops).s := by
  induction ops generalizing r with
  | nil => exact h
  | cons op ops ih =>
    exact ih (fun s o ho => hstep s o (List.mem_cons_of_mem _ ho)) (r := exec cfg r op)
      (hstep r.s op (List.mem_cons_self ..) h)

end EphVerif.C05L

namespace EphVerif.Sys
open EphVerif.NodeCleanup EphVerif.C05L

def Quiet : Op → Prop
  | .adv _ | .probe _ | .tick | .drain | .audit => True
  | _ => False

structure Sub (s' s : State) : Prop where
  recs : ∀ e ∈ s'.recs, e ∈ s.recs
  locs : ∀ k l', s'.locs k = some l' → ∃ l, s.locs k = some l ∧ Shrunk l' l
  routes : ∀ i, ∀ x ∈ s'.routes.buckets i, x ∈ s.routes.buckets i
  shards : ∀ e ∈ s'.shards, e ∈ s.shards
  cache : ∀ e ∈ s'.cache, e ∈ s.cache
  /-- a plan may be recomputed (new `next_rebalance`), never created -/
  plans : ∀ e ∈ s'.plans, ∃ e0 ∈ s.plans, e0.1 = e.1

theorem Sub.of_locs {s : State} {t : Providers.Table} (h : Shrinks t s.locs) : Sub { s with locs := t } s :=
  ⟨fun _ h => h, h, fun _ _ h => h, fun _ h => h, fun _ h => h, fun e h => ⟨e, h, rfl⟩⟩

theorem Sub.refl (s : State) : Sub s s := .of_locs (.refl s.locs)

theorem Sub.trans {a b c : State} (h1 : Sub a b) (h2 : Sub b c) : Sub a c := by
  refine ⟨fun e h => h2.recs e (h1.recs e h), Shrinks.trans h1.locs h2.locs, fun i x h => h2.routes i x (h1.routes i x h),
    fun e h => h2.shards e (h1.shards e h), fun e h => h2.cache e (h1.cache e h), fun e h => ?_⟩
  obtain ⟨e1, he1, k1⟩ := h1.plans e h
  obtain ⟨e2, he2, k2⟩ := h2.plans e1 he1
  exact ⟨e2, he2, k2.trans k1⟩

theorem sub_rebalance (cfg : Cfg) (s : State) : Sub (rebalance cfg s) s := by
  refine { Sub.refl s with plans := fun e he => ?_ }
  obtain ⟨a, ha, hf⟩ := List.mem_filterMap.mp he
  split at hf
  · cases hf; exact ⟨_, ha, rfl⟩
  · split at hf <;> cases hf
    exact ⟨_, ha, rfl⟩

theorem sub_cleanup (cfg : Cfg) (s : State) : Sub (cleanup cfg s) s := by
  rw [cleanup_eq]
  exact ⟨fun e h => (List.mem_filter.mp h).1, (sweep_shrinks _ _).trans (withdrawAll_shrinks _ _ _),
    fun i x h => (mem_sweepBuckets h).1, fun e h => (List.mem_filter.mp h).1, fun e h => (List.mem_filter.mp h).1,
    fun e h => ⟨e, (List.mem_filter.mp h).1, rfl⟩⟩

theorem quiet_step (cfg : Cfg) (s : State) (op : Op) (hq : Quiet op) : Sub (step cfg s op) s := by
  cases op with
  | adv | drain | audit => exact { Sub.refl s with }
  | probe c => exact .of_locs (findProviders_shrinks s.locs s.now c)
  | tick =>
    show Sub (tick cfg s) s
    unfold tick
    split
    · exact (sub_rebalance cfg _).trans (sub_cleanup cfg s)
    · exact sub_rebalance cfg s
  | store | ingest | announce | reannounce | lookup => cases hq

theorem quiet_run (cfg : Cfg) (r : Run) (ops : List Op) (hq : ∀ op ∈ ops, Quiet op) : Sub (run cfg r ops).s r.s :=
  run_invariant (I := (Sub · r.s)) (fun s op hop h => (quiet_step cfg s op (hq op hop)).trans h) (Sub.refl _)

end EphVerif.Sys

namespace EphVerif.C05L
open EphVerif.NodeCleanup
open EphVerif.ChunkStore (aget aset Recs)
open EphVerif.Sys (advertised Sub Quiet quiet_step)

def Creates (cfg : Cfg) (s : State) : Op → Int → Prop
  | .store _ ttl _, d =>
    d = s.now + ChunkStore.effTtl cfg.node.store (ChunkStore.nodeTtl cfg.node ttl) * ChunkStore.nsPerSec ∨
    d = s.now + ChunkStore.nodeTtl cfg.node ttl * ns
  | .ingest _ e _, d => ∃ t, manifestTtl cfg (wall cfg s) e = some t ∧ d = s.now + t * ns
  | .announce _ e _ _ _ _ ttl _, d =>
    ∃ t, manifestTtl cfg (wall cfg s) e = some t ∧ (d = s.now + t * ns ∨ d = s.now + advertised cfg ttl t * ns)
  | .reannounce c ttl _, d =>
    (∃ r, ChunkStore.getRecord s.recs s.now c = some r ∧ r.expires ≤ s.now + ttl * ns) ∧ d = s.now + ttl * ns
  | .lookup c, d => ∃ e t, aget s.cache c = some e ∧ manifestTtl cfg (wall cfg s) e = some t ∧ d = s.now + t * ns
  | _, _ => False

structure Deadlines (P : Int → Prop) (s : State) : Prop where
  recs : ∀ e ∈ s.recs, P e.2.expires
  locs : AllLocs P s.locs
  routes : AllRoutes P s.routes
  shards : ∀ e ∈ s.shards, P e.2

namespace Deadlines
variable {P : Int → Prop} {s : State}

theorem init (cfg : Cfg) (t0 : Int) : Deadlines P (State.init cfg t0) :=
  ⟨List.forall_mem_nil _, fun _ _ h => (nomatch h), fun _ => List.forall_mem_nil _, List.forall_mem_nil _⟩

theorem mono {Q : Int → Prop} (h : Deadlines P s) (hPQ : ∀ d, P d → Q d) : Deadlines Q s :=
  ⟨fun e he => hPQ _ (h.recs e he), fun c l hl => ⟨hPQ _ (h.locs c l hl).1, fun x hx => hPQ _ ((h.locs c l hl).2 x hx)⟩,
   fun i x hx => hPQ _ (h.routes i x hx), fun e he => hPQ _ (h.shards e he)⟩

theorem and {Q : Int → Prop} (h : Deadlines P s) (h' : Deadlines Q s) : Deadlines (fun d => P d ∧ Q d) s :=
  ⟨fun e he => ⟨h.recs e he, h'.recs e he⟩,
   fun c l hl => ⟨⟨(h.locs c l hl).1, (h'.locs c l hl).1⟩, fun x hx => ⟨(h.locs c l hl).2 x hx, (h'.locs c l hl).2 x hx⟩⟩,
   fun i x hx => ⟨h.routes i x hx, h'.routes i x hx⟩, fun e he => ⟨h.shards e he, h'.shards e he⟩⟩

theorem of_sub {s' : State} (h : Deadlines P s) (hs : Sub s' s) : Deadlines P s' :=
  ⟨fun e he => h.recs e (hs.recs e he), h.locs.shrinks hs.locs, fun i x hx => h.routes i x (hs.routes i x hx),
   fun e he => h.shards e (hs.shards e he)⟩

theorem acceptManifest (h : Deadlines P s) {cfg : Cfg} {c : String} {e t : Int} (hnew : P (s.now + t * ns)) :
    Deadlines P (acceptManifest cfg s c e t) :=
  { h with shards := forall_mem_aset h.shards hnew }

theorem addProvider (h : Deadlines P s) {now ttlNs : Int} (hnew : P (now + ttlNs)) {c p : String} {pid : Routing.Id}
    {addr : String} {hint : Option (List String)} : Deadlines P (addProvider s now c p pid addr ttlNs hint) :=
  { h with locs := h.locs.addContact hnew, routes := h.routes.addContact hnew }

theorem step (h : Deadlines P s) (cfg : Cfg) (op : Op) (hc : ∀ d, Creates cfg s op d → P d) :
    Deadlines P (step cfg s op) := by
  cases op with
  | store c ttl hint =>
    exact ⟨forall_mem_aset h.recs (hc _ (.inl rfl)), h.locs.addContact (hc _ (.inr rfl)),
      h.routes.addContact (hc _ (.inr rfl)), forall_mem_aset h.shards (hc _ (.inr rfl))⟩
  | ingest c e same => exact ingest_ind h fun t ht => h.acceptManifest (hc _ ⟨t, ht, rfl⟩)
  | announce c e same p pid addr ttl hint =>
    exact announce_ind h (fun t ht => h.acceptManifest (hc _ ⟨t, ht, .inl rfl⟩))
      fun t _ ht h1 => h1.addProvider (hc _ ⟨t, ht, .inr rfl⟩)
  | reannounce c ttl hint => exact reannounce_ind h fun r hr hle => h.addProvider (hc _ ⟨⟨r, hr, hle⟩, rfl⟩)
  | lookup c =>
    exact lookup_ind h (fun e t he ht => { h with shards := forall_mem_aset h.shards (hc _ ⟨e, t, he, ht, rfl⟩) })
      (h.of_sub (quiet_step cfg s (.probe c) trivial))
  | adv | probe | tick | drain | audit => exact h.of_sub (quiet_step cfg s _ trivial)

end Deadlines

theorem creates_pos {cfg : Cfg} {s : State} {op : Op} {d : Int} (h : Creates cfg s op d) : s.now < d := by
  cases op with
  | store c ttl hint =>
    have h1 := Int.mul_pos (ChunkStore.effTtl_pos cfg.node.store (ChunkStore.nodeTtl cfg.node ttl)) (by decide : 0 < ChunkStore.nsPerSec)
    have h2 := mul_ns_pos (nodeTtl_pos cfg.node ttl)
    rcases h with rfl | rfl <;> omega
  | ingest c e same =>
    obtain ⟨t, ht, rfl⟩ := h
    have := mul_ns_pos (manifestTtl_some ht).2
    omega
  | announce c e same p pid addr ttl hint =>
    obtain ⟨t, ht, h⟩ := h
    have h1 := mul_ns_pos (manifestTtl_some ht).2
    have h2 : 0 < advertised cfg ttl t * ns := mul_ns_pos (clampChunkTtl_pos _ _ _)
    rcases h with rfl | rfl
    · omega
    · exact Int.lt_add_of_pos_right _ h2
  | reannounce c ttl hint =>
    obtain ⟨⟨r, hr, hle⟩, rfl⟩ := h
    have := (getRecord_mem hr).2
    omega
  | lookup c =>
    obtain ⟨e, t, _, ht, rfl⟩ := h
    have := mul_ns_pos (manifestTtl_some ht).2
    omega
  | adv | probe | tick | drain | audit => cases h

end EphVerif.C05L
