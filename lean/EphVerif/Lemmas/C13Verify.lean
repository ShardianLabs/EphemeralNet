/-
Helper lemmas for C13: the branch-free tag comparison of `HmacSha256::verify` is equality, and the
two spans `decode_signed` cuts are `take`/`drop` at `size - 32`.  Core Lean only.
-/
import EphVerif.Lemmas.C16Total

namespace EphVerif.Message
open EphVerif.Gen.C15

theorem foldl_or_eq_zero (l : List UInt8) (acc : UInt8) :
    l.foldl (· ||| ·) acc = 0 ↔ acc = 0 ∧ ∀ x ∈ l, x = 0 := by
  induction l generalizing acc with
  | nil => simp
  | cons x l ih =>
    simp only [List.foldl_cons, ih, UInt8.or_eq_zero_iff, List.mem_cons, forall_eq_or_imp, and_assoc]

theorem zipWith_xor_all_zero (xs ys : List UInt8) (h : xs.length = ys.length) :
    (∀ x ∈ List.zipWith (· ^^^ ·) xs ys, x = 0) ↔ xs = ys := by
  induction xs generalizing ys with
  | nil => cases ys <;> simp_all
  | cons x xs ih =>
    cases ys with
    | nil => simp at h
    | cons y ys =>
      simp only [List.length_cons, Nat.add_right_cancel_iff] at h
      simp only [List.zipWith_cons_cons, List.mem_cons, forall_eq_or_imp, UInt8.xor_eq_zero_iff, ih ys h, List.cons.injEq]

/-- `diff |= expected[i] ^ mac[i]` over equally long strings ends at 0 exactly when they are equal -/
theorem ctCompare_iff (xs ys : List UInt8) (h : xs.length = ys.length) :
    ((List.zipWith (· ^^^ ·) xs ys).foldl (· ||| ·) (0 : UInt8) == 0) = true ↔ xs = ys := by
  rw [beq_iff_eq, foldl_or_eq_zero, zipWith_xor_all_zero xs ys h]
  exact and_iff_right rfl

theorem hmacVerify_iff (mac : Bytes → Bytes → Bytes) (hlen : ∀ k d, (mac k d).length = 32) (key data tag : Bytes) :
    hmacVerify mac key data tag = true ↔ tag = mac key data := by
  unfold hmacVerify
  rw [show kDigestSize = 32 from rfl]
  split
  · next hne => exact ⟨nofun, fun h => absurd (h ▸ hlen key data) hne⟩
  · next heq =>
    rw [ctCompare_iff _ _ ((hlen key data).trans (Decidable.not_not.mp heq).symm)]
    exact eq_comm

/-- `decodeSigned_cuts` in the shape of `C13.Tagged` and `System.decodeSignedViaVerify`: 32 for
    `kDigestSize`, the accepting branch first -/
theorem decodeSigned_eq (mac : Bytes → Bytes → Bytes) (buf key : Bytes) :
    decodeSigned mac buf key =
      if buf.length < 32 then .reject
      else if hmacVerify mac key (buf.take (buf.length - 32)) (buf.drop (buf.length - 32)) then
        decode (buf.take (buf.length - 32))
      else .reject := by
  rw [decodeSigned_cuts, show kDigestSize = 32 from rfl]
  cases hmacVerify mac key (buf.take (buf.length - 32)) (buf.drop (buf.length - 32)) <;> rfl

theorem split_body_tag (body tag : Bytes) (ht : tag.length = 32) :
    (body ++ tag).take ((body ++ tag).length - 32) = body ∧ (body ++ tag).drop ((body ++ tag).length - 32) = tag := by
  have : (body ++ tag).length - 32 = body.length := by rw [List.length_append, ht, Nat.add_sub_cancel]
  rw [this, List.take_left' rfl, List.drop_left' rfl]
  exact ⟨rfl, rfl⟩

end EphVerif.Message
