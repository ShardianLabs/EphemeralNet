import EphVerif.Model.Handshake

/-! Helper lemmas for C20: the invariant "a success record / a registered key was validated", and for every
operation of the handshake model what it does to the invariant, when it accepts and when it refuses. -/

namespace EphVerif.C20
open EphVerif.Handshake

structure InvP (env : Env) (p : String) (ps : PeerSt) : Prop where
  hrec : ∀ r, ps.hrec = some r → r.success = true →
    keyValid r.pub = true ∧ env.powValid p r.pub r.nonce = true ∧ ps.sess ≠ none
  sess : ∀ k, ps.sess = some k → keyValid k = true ∧ ∃ n, env.powValid p k n = true
  smKey : ∀ k, ps.smKey = some k → keyValid k = true ∧ ∃ n, env.powValid p k n = true

def Inv (env : Env) (s : State) : Prop := ∀ p, InvP env p (s.peers p)

theorem inv_init (env : Env) (t0 : Int) : Inv env (init t0) :=
  fun _ => ⟨nofun, nofun, nofun⟩

theorem setPeer_same (s : State) (p : String) (ps : PeerSt) : (setPeer s p ps).peers p = ps :=
  if_pos rfl

theorem setPeer_other {s : State} {p q : String} {ps : PeerSt} (h : q ≠ p) :
    (setPeer s p ps).peers q = s.peers q :=
  if_neg h

theorem inv_setPeer {env : Env} {s : State} (hi : Inv env s) {p : String} {ps : PeerSt}
    (h : InvP env p ps) : Inv env (setPeer s p ps) := by
  intro q
  by_cases hq : q = p
  · subst hq; rw [setPeer_same]; exact h
  · rw [setPeer_other hq]; exact hi q

theorem invP_fail {env : Env} {p : String} {ps : PeerSt} (h : InvP env p ps) {r : Rec} (hr : r.success = false)
    {rep : Int} : InvP env p { ps with hrec := some r, rep := rep } :=
  ⟨fun r' hr' hs => (by cases hr'; rw [hr] at hs; cases hs), h.sess, h.smKey⟩

theorem shortcut_valid {env : Env} {s : State} (hi : Inv env s) {p : String} {pub nonce : Nat}
    (h : shortcut env s.now (s.peers p) pub nonce = true) :
    keyValid pub = true ∧ env.powValid p pub nonce = true ∧ (s.peers p).sess ≠ none := by
  unfold shortcut at h
  split at h
  · next r hr =>
    simp only [Bool.and_eq_true, beq_iff_eq] at h
    obtain ⟨⟨⟨hs, _⟩, rfl⟩, rfl⟩ := h
    exact (hi p).hrec r hr hs
  · cases h

/-- what a refusal may do: nothing to any key or session, nothing to other peers, and the claimed peer's score
    goes through one or two failure steps -/
structure Refused (s s' : State) (p : String) : Prop where
  keys : ∀ q, (s'.peers q).sess = (s.peers q).sess ∧ (s'.peers q).smKey = (s.peers q).smKey ∧
    (s'.peers q).conn = (s.peers q).conn
  others : ∀ q, q ≠ p → s'.peers q = s.peers q
  rep : (s'.peers p).rep = repFailure (s.peers p).rep ∨ (s'.peers p).rep = repFailure (repFailure (s.peers p).rep)

theorem refused_setPeer {s : State} {p : String} {r : Option Rec} {rep : Int}
    (h : rep = repFailure (s.peers p).rep ∨ rep = repFailure (repFailure (s.peers p).rep)) :
    Refused s (setPeer s p { s.peers p with hrec := r, rep := rep }) p := by
  refine ⟨fun q => ?_, fun q hq => setPeer_other hq, by rwa [setPeer_same]⟩
  by_cases hq : q = p
  · subst hq; rw [setPeer_same]; exact ⟨rfl, rfl, rfl⟩
  · rw [setPeer_other hq]; exact ⟨rfl, rfl, rfl⟩

structure Admits (env : Env) (s : State) (p : String) (pub nonce : Nat) (r : State × Bool) : Prop where
  inv : Inv env r.1
  valid : r.2 = true → keyValid pub = true ∧ env.powValid p pub nonce = true ∧ (r.1.peers p).sess ≠ none
  refused : r.2 = false → Refused s r.1 p

theorem perform_cases (env : Env) (s : State) (p : String) (pub nonce : Nat) :
    (shortcut env s.now (s.peers p) pub nonce = true ∧ perform env s p pub nonce = (s, true)) ∨
    (shortcut env s.now (s.peers p) pub nonce = false ∧ keyValid pub = false ∧
      perform env s p pub nonce =
        (setPeer s p { s.peers p with hrec := some ⟨s.now, pub, nonce, false⟩, rep := repFailure (s.peers p).rep }, false)) ∨
    (shortcut env s.now (s.peers p) pub nonce = false ∧ keyValid pub = true ∧ env.powValid p pub nonce = false ∧
      perform env s p pub nonce =
        (setPeer s p { s.peers p with hrec := some ⟨s.now, pub, nonce, false⟩,
                                      rep := repFailure (repFailure (s.peers p).rep) }, false)) ∨
    (shortcut env s.now (s.peers p) pub nonce = false ∧ keyValid pub = true ∧ env.powValid p pub nonce = true ∧
      perform env s p pub nonce =
        (setPeer s p { s.peers p with hrec := some ⟨s.now, pub, nonce, true⟩, sess := some pub, smKey := some pub,
                                      rep := repSuccess (s.peers p).rep }, true)) := by
  unfold perform
  cases hsc : shortcut env s.now (s.peers p) pub nonce
  · cases hk : keyValid pub
    · exact .inr (.inl ⟨rfl, rfl, by simp [hsc]⟩)
    · cases hp : env.powValid p pub nonce
      · exact .inr (.inr (.inl ⟨rfl, rfl, rfl, by simp [hsc]⟩))
      · exact .inr (.inr (.inr ⟨rfl, rfl, rfl, by simp [hsc]⟩))
  · exact .inl ⟨rfl, by simp [hsc]⟩

theorem perform_admits {env : Env} {s : State} (hi : Inv env s) (p : String) (pub nonce : Nat) :
    Admits env s p pub nonce (perform env s p pub nonce) := by
  rcases perform_cases env s p pub nonce with ⟨hsc, he⟩ | ⟨_, _, he⟩ | ⟨_, _, _, he⟩ | ⟨_, hk, hp, he⟩ <;> rw [he]
  · exact ⟨hi, fun _ => shortcut_valid hi hsc, nofun⟩
  · exact ⟨inv_setPeer hi (invP_fail (hi p) rfl), nofun, fun _ => refused_setPeer (.inl rfl)⟩
  · exact ⟨inv_setPeer hi (invP_fail (hi p) rfl), nofun, fun _ => refused_setPeer (.inr rfl)⟩
  · have hv : keyValid pub = true ∧ ∃ n, env.powValid p pub n = true := ⟨hk, nonce, hp⟩
    refine ⟨inv_setPeer hi ⟨fun r hr _ => ?_, fun k hk' => ?_, fun k hk' => ?_⟩,
      fun _ => ⟨hk, hp, by rw [setPeer_same]; nofun⟩, nofun⟩
    · cases hr; exact ⟨hk, hp, nofun⟩
    · cases hk'; exact hv
    · cases hk'; exact hv

theorem transport_cases (env : Env) (s : State) (p : String) (pub nonce : Nat) :
    (keyValid pub = false ∧
      transport env s p pub nonce = (setPeer s p { s.peers p with rep := repFailure (s.peers p).rep }, none)) ∨
    (keyValid pub = true ∧ (perform env s p pub nonce).2 = false ∧
      transport env s p pub nonce = ((perform env s p pub nonce).1, none)) ∨
    (keyValid pub = true ∧ (perform env s p pub nonce).2 = true ∧
      transport env s p pub nonce = ((perform env s p pub nonce).1, ((perform env s p pub nonce).1.peers p).sess)) := by
  unfold transport
  cases hk : keyValid pub
  · exact .inl ⟨rfl, rfl⟩
  · cases hr : (perform env s p pub nonce).2
    · exact .inr (.inl ⟨rfl, rfl, by simp [hr]⟩)
    · refine .inr (.inr ⟨rfl, rfl, ?_⟩)
      simp only [hr, Bool.not_true, Bool.false_eq_true, ↓reduceIte]
      split <;> simp_all

theorem transport_admits {env : Env} {s : State} (hi : Inv env s) (p : String) (pub nonce : Nat) :
    Admits env s p pub nonce ((transport env s p pub nonce).1, (transport env s p pub nonce).2.isSome) ∧
    ∀ k, (transport env s p pub nonce).2 = some k → ((transport env s p pub nonce).1.peers p).sess = some k := by
  have hp := perform_admits hi p pub nonce
  rcases transport_cases env s p pub nonce with ⟨_, he⟩ | ⟨_, hr, he⟩ | ⟨_, hr, he⟩ <;> rw [he]
  · exact ⟨⟨inv_setPeer hi ⟨(hi p).hrec, (hi p).sess, (hi p).smKey⟩, nofun, fun _ => refused_setPeer (.inl rfl)⟩,
      nofun⟩
  · exact ⟨⟨hp.inv, nofun, fun _ => hp.refused hr⟩, nofun⟩
  · exact ⟨⟨hp.inv, fun _ => hp.valid hr, fun h => absurd (by simpa using h) (hp.valid hr).2.2⟩,
      fun _ hk => hk⟩

theorem pending_cases (env : Env) (s : State) (p : String) (pub nonce : Nat) :
    ((transport env s p pub nonce).2 = none ∧ pending env s p pub nonce = ((transport env s p pub nonce).1, none)) ∨
    (∃ k, (transport env s p pub nonce).2 = some k ∧
      pending env s p pub nonce =
        (setPeer (transport env s p pub nonce).1 p
          { (transport env s p pub nonce).1.peers p with smKey := some k, conn := true }, some k)) := by
  unfold pending
  cases h : (transport env s p pub nonce).2
  · exact .inl ⟨rfl, by simp [h]⟩
  · exact .inr ⟨_, rfl, by simp [h]⟩

theorem pending_admits {env : Env} {s : State} (hi : Inv env s) (p : String) (pub nonce : Nat) :
    Admits env s p pub nonce ((pending env s p pub nonce).1, (pending env s p pub nonce).2.isSome) := by
  obtain ⟨ht, hkey⟩ := transport_admits hi p pub nonce
  rcases pending_cases env s p pub nonce with ⟨hn, he⟩ | ⟨k, hk, he⟩ <;> rw [he]
  · rw [hn] at ht; exact ht
  · rw [hk] at ht
    have hp := ht.inv p
    exact ⟨inv_setPeer ht.inv ⟨hp.hrec, hp.sess, fun k' hk' => by cases hk'; exact hp.sess k (hkey k hk)⟩,
      fun _ => ⟨(ht.valid rfl).1, (ht.valid rfl).2.1, by rw [setPeer_same]; exact (ht.valid rfl).2.2⟩, nofun⟩

theorem handshake_admits {env : Env} {s : State} (hi : Inv env s) (k : Kind) (p : String) (pub nonce : Nat) :
    Admits env s p pub nonce (handshake env s k p pub nonce) := by
  cases k
  · exact perform_admits hi p pub nonce
  · exact (transport_admits hi p pub nonce).1
  · exact pending_admits hi p pub nonce

theorem step_inv {env : Env} {s : State} (hi : Inv env s) (op : Op) : Inv env (step env s op).1 := by
  cases op with
  | adv d => exact hi
  | hs k p pub nonce => exact (handshake_admits hi k p pub nonce).inv
  | drop p => exact inv_setPeer hi ⟨(hi p).hrec, (hi p).sess, (hi p).smKey⟩

theorem run_inv {env : Env} (ops : List Op) : ∀ (s : State) (log : List Ev), Inv env s →
    (∀ e ∈ log, e.accepted = true → keyValid e.pub = true ∧ env.powValid e.peer e.pub e.nonce = true) →
    Inv env (run env (s, log) ops).1 ∧
    (∀ e ∈ (run env (s, log) ops).2, e.accepted = true →
        keyValid e.pub = true ∧ env.powValid e.peer e.pub e.nonce = true) := by
  induction ops with
  | nil => intro s log hi hl; exact ⟨hi, hl⟩
  | cons op rest ih =>
    intro s log hi hl
    refine ih _ _ (step_inv hi op) fun e he => ?_
    rcases List.mem_append.mp he with he | he
    · exact hl e he
    · cases op with
      | adv d => cases he
      | drop p => cases he
      | hs k p pub nonce =>
        cases List.mem_singleton.mp he
        exact fun hacc => let ⟨hk, hp, _⟩ := (handshake_admits hi k p pub nonce).valid hacc; ⟨hk, hp⟩

theorem reach_inv (env : Env) (t0 : Int) (ops : List Op) : Inv env (run env (init t0, []) ops).1 :=
  (run_inv ops (init t0) [] (inv_init env t0) nofun).1

theorem repFailure_le (x : Int) : repFailure x ≤ max x (-100) := by
  unfold repFailure Gen.C20.repFailurePenalty Gen.C20.repMinScore
  omega

theorem repFailure_lt {x : Int} (h : -100 < x) : repFailure x < x := by
  unfold repFailure Gen.C20.repFailurePenalty Gen.C20.repMinScore
  omega

theorem repFailure_ge (x : Int) : -100 ≤ repFailure x := by
  unfold repFailure Gen.C20.repFailurePenalty Gen.C20.repMinScore
  omega

end EphVerif.C20
