/-
Refinement invariant between the ChunkStore model and the abstract store of `StoreSpec`,
and its preservation by every operation (C01).
-/
import EphVerif.Lemmas.C01Ops

namespace EphVerif.ChunkStore
open EphVerif.StoreSpec (Op Obs Params Entry W last read readWire readRecord live judge)

def paramsOf (nc : NodeCfg) : Params :=
  { defaultTtl := nc.store.defaultTtl, minTtl := nc.minTtl, maxTtl := nc.maxTtl, graceTtl := nc.minTtl }

/-- what `sanitize_config` guarantees (property C02) -/
def SaneCfg (nc : NodeCfg) : Prop := 1 ≤ nc.minTtl ∧ nc.minTtl ≤ nc.maxTtl

structure Rel (w : World) (a : W) : Prop where
  now_eq : w.now = a.now
  uniq : Uniq w.sys.recs
  sound : ∀ id r, aget w.sys.recs id = some r →
    ∃ e, last a.s id = some e ∧ e.wire = r.data ∧ e.bytes = r.plain ∧ e.deadline = r.expires
  complete : ∀ id e, last a.s id = some e → aget w.sys.recs id = none → e.deadline ≤ w.now

theorem effTtl_eq (nc : NodeCfg) (ttl : Int) :
    effTtl nc.store ttl = EphVerif.StoreSpec.effStore (paramsOf nc) ttl := effTtl_eq_max nc.store ttl

theorem nodeTtl_eq (nc : NodeCfg) (h : SaneCfg nc) (ttl : Int) :
    effTtl nc.store (nodeTtl nc ttl) = EphVerif.StoreSpec.effNode (paramsOf nc) ttl := by
  rw [effTtl_eq_max, nodeTtl, clampChunkTtl_eq h.1 h.2]
  simp only [EphVerif.StoreSpec.effNode, paramsOf]
  have := h.1
  omega

theorem Rel.of_eq {w w' : World} {a : W} (h : Rel w a) (hn : w'.now = w.now) (hr : w'.sys.recs = w.sys.recs) :
    Rel w' a :=
  ⟨hn ▸ h.now_eq, hr ▸ h.uniq, hr ▸ h.sound, hr ▸ hn ▸ h.complete⟩

theorem getRecord_some {w : World} {a : W} (h : Rel w a) {id : String} {r : Rec}
    (hg : getRecord w.sys.recs w.now id = some r) :
    ∃ e, last a.s id = some e ∧ a.now < e.deadline ∧ e.wire = r.data ∧ e.bytes = r.plain ∧ e.deadline = r.expires := by
  obtain ⟨hr, hl⟩ := getRecord_eq_some.mp hg
  obtain ⟨e, he, h1, h2, h3⟩ := h.sound id r hr
  exact ⟨e, he, by rw [← h.now_eq, h3]; exact hl, h1, h2, h3⟩

theorem getRecord_none {w : World} {a : W} (h : Rel w a) {id : String} :
    getRecord w.sys.recs w.now id = none ↔ ∀ e, last a.s id = some e → e.deadline ≤ a.now := by
  refine ⟨fun hg e he => ?_, fun hdead => ?_⟩
  · rw [← h.now_eq]
    cases hr : aget w.sys.recs id with
    | none => exact h.complete id e he hr
    | some r =>
      obtain ⟨e', he', _, _, h3⟩ := h.sound id r hr
      rw [he] at he'; cases he'
      exact h3 ▸ getRecord_eq_none.mp hg r hr
  · cases hg : getRecord w.sys.recs w.now id with
    | none => rfl
    | some r =>
      obtain ⟨e, he, hl, _⟩ := getRecord_some h hg
      have := hdead e he
      omega

theorem getRecord_of_live {w : World} {a : W} (h : Rel w a) {id : String} {e : Entry}
    (he : last a.s id = some e) (hl : a.now < e.deadline) :
    ∃ r, getRecord w.sys.recs w.now id = some r ∧ e.wire = r.data ∧ e.bytes = r.plain ∧ e.deadline = r.expires := by
  cases hg : getRecord w.sys.recs w.now id with
  | none => have := (getRecord_none h).mp hg e he; omega
  | some r =>
    obtain ⟨e', he', _, h1, h2, h3⟩ := getRecord_some h hg
    rw [he] at he'; cases he'
    exact ⟨r, rfl, h1, h2, h3⟩

/-- every read of the model is `get_record` followed by a projection, every read of the
    specification the live last entry followed by a projection: they agree when the projections do -/
theorem map_getRecord {β : Type} {w : World} {a : W} (h : Rel w a) (id : String) (f : Rec → β) (g : Entry → β)
    (hfg : ∀ r e, e.wire = r.data → e.bytes = r.plain → e.deadline = r.expires → f r = g e) :
    (getRecord w.sys.recs w.now id).map f =
      match last a.s id with
      | some e => if a.now < e.deadline then some (g e) else none
      | none => none := by
  cases hg : getRecord w.sys.recs w.now id with
  | some r =>
    obtain ⟨e, he, hl, h1, h2, h3⟩ := getRecord_some h hg
    simp only [he, hl, if_true, Option.map_some, hfg r e h1 h2 h3]
  | none =>
    cases he : last a.s id with
    | none => rfl
    | some e => exact (if_neg (Int.not_lt.mpr ((getRecord_none h).mp hg e he))).symm

theorem rel_put {cfg : Cfg} (φ : Faults) {w : World} {a : W} (h : Rel w a) (id : String) (data plain : Bytes)
    (ttl : Int) (nonce : Bytes) (enc : Bool) (dl : Int)
    (hdl : dl = w.now + effTtl cfg ttl * nsPerSec) :
    Rel { w with sys := sysPutF cfg φ w.sys w.now id data plain ttl nonce enc }
        { a with s := ⟨id, plain, data, dl⟩ :: a.s } := by
  refine ⟨h.now_eq, uniq_aset h.uniq _ _, fun id' r hr => ?_, fun id' e he hn => ?_⟩
  · by_cases hid : id = id'
    · subst hid
      cases (aget_aset_self _ _ _).symm.trans hr
      exact ⟨_, if_pos rfl, rfl, rfl, hdl⟩
    · obtain ⟨e, he, h1⟩ := h.sound id' r ((aget_aset_ne _ _ hid).symm.trans hr)
      exact ⟨e, (if_neg hid).trans he, h1⟩
  · by_cases hid : id = id'
    · subst hid
      cases (aget_aset_self _ _ _).symm.trans hn
    · exact h.complete id' e ((if_neg hid).symm.trans he) ((aget_aset_ne _ _ hid).symm.trans hn)

theorem rel_sweep {cfg : Cfg} (φ : Faults) {w : World} {a : W} (h : Rel w a) :
    Rel { w with sys := (sysSweepF cfg φ w.sys w.now).1 } a := by
  refine ⟨h.now_eq, uniq_filter h.uniq _, fun id r hr => h.sound id r ((aget_sweep h.uniq).mp hr).1,
    fun id e he hn => ?_⟩
  cases hg : aget w.sys.recs id with
  | none => exact h.complete id e he hg
  | some r =>
    obtain ⟨e', he', _, _, h3⟩ := h.sound id r hg
    rw [he] at he'; cases he'
    -- the record was dropped, so its deadline has passed
    refine Int.not_lt.mp fun hl => ?_
    cases ((aget_sweep h.uniq).mpr ⟨hg, h3 ▸ hl⟩).symm.trans hn

theorem rel_advance {w : World} {a : W} (h : Rel w a) (d : Nat) :
    Rel { w with now := w.now + d } { a with now := a.now + d } :=
  ⟨congrArg (· + (d : Int)) h.now_eq, h.uniq, h.sound,
    fun id e he hn => Int.le_trans (h.complete id e he hn) (Int.le_add_of_nonneg_right (Int.natCast_nonneg d))⟩

theorem rel_stepF {nc : NodeCfg} (hs : SaneCfg nc) (φ : Faults) {w : World} {a : W} (h : Rel w a) (op : Op) :
    Rel (stepF nc φ w op).1 (EphVerif.StoreSpec.step (paramsOf nc) a op) := by
  cases op with
  | store id data ttl nonce enc =>
    exact rel_put φ h id data data ttl nonce enc _ (by rw [← h.now_eq, effTtl_eq]; rfl)
  | nstore id plain cipher nonce ttl =>
    exact rel_put φ h id cipher plain (nodeTtl nc ttl) nonce true _ (by rw [← h.now_eq, nodeTtl_eq nc hs]; rfl)
  | sweep => exact rel_sweep φ h
  | tick =>
    simp only [stepF, nodeTickF]
    split
    · exact (rel_sweep (cfg := nc.store) φ h).of_eq rfl rfl
    · exact h
  | advance d => exact rel_advance h d
  | _ => exact h

theorem rel_step {nc : NodeCfg} (hs : SaneCfg nc) {w : World} {a : W} (h : Rel w a) (op : Op) :
    Rel (step nc w op).1 (EphVerif.StoreSpec.step (paramsOf nc) a op) := rel_stepF hs [] h op

end EphVerif.ChunkStore
