/-
C09 helper lemmas: the word-level primitives of ChaCha20.cpp (shift/OR/mask forms taken from the generated tables)
equal the specification's arithmetic definitions, and the model's `chacha20_block` equals the block function of RFC 8439
section 2.3.  With 64-byte blocks the specification's encryption is "byte j = input[j] xor byte j % 64 of block j / 64".
-/
import EphVerif.Model.ChaCha20
import EphVerif.Spec.ChaCha20

namespace EphVerif.C09
open EphVerif EphVerif.ChaCha20 EphVerif.Spec.ChaCha

/-- `(x << n) | (x >> (32 - n))` is the n-bit left roll for 0 < n < 32 -/
theorem rotl32_eq (x : UInt32) (n : Nat) (h0 : 0 < n) (h : n < 32) : rotl32 x n = rotl x n := by
  apply UInt32.toNat_inj.mp
  have e1 : n % 2 ^ 32 = n := Nat.mod_eq_of_lt (by omega)
  have e2 : (32 - n) % 2 ^ 32 = 32 - n := Nat.mod_eq_of_lt (by omega)
  have e3 : n % 32 = n := Nat.mod_eq_of_lt h
  have e4 : (32 - n) % 32 = 32 - n := Nat.mod_eq_of_lt (by omega)
  simp only [rotl32, rotl, Gen.C09.rotlWidth, Nat.toUInt32_eq, UInt32.toNat_or, UInt32.toNat_shiftLeft, UInt32.toNat_shiftRight,
    UInt32.toNat_ofNat', UInt32.toNat_ofBitVec, BitVec.toNat_rotateLeft, UInt32.toNat_toBitVec, e1, e2, e3, e4]

theorem or_shiftLeft (a b k : Nat) (h : a < 2 ^ k) : a ||| b <<< k = a + 2 ^ k * b := by
  rw [Nat.or_comm, ← Nat.shiftLeft_add_eq_or_of_lt h, Nat.shiftLeft_eq, Nat.mul_comm, Nat.add_comm]

theorem toNat_byte_shiftLeft (b : UInt8) (k : Nat) (hk : k ≤ 24) : (b.toUInt32 <<< UInt32.ofNat k).toNat = b.toNat <<< k := by
  have hlt : b.toNat <<< k < 2 ^ 32 := by
    rw [Nat.shiftLeft_eq]
    show b.toNat * 2 ^ k < 2 ^ 8 * 2 ^ 24
    exact Nat.mul_lt_mul_of_lt_of_le b.toNat_lt (Nat.pow_le_pow_right (by decide) hk) (Nat.two_pow_pos 24)
  rw [UInt32.toNat_shiftLeft, UInt32.toNat_ofNat', UInt8.toNat_toUInt32, Nat.mod_eq_of_lt (by omega : k < 2 ^ 32),
    Nat.mod_eq_of_lt (by omega : k < 32), Nat.mod_eq_of_lt hlt]

/-- the left side is what the fold over the four generated (offset, shift) terms unfolds to -/
theorem or4_eq (b0 b1 b2 b3 : UInt8) :
    (0 ||| b0.toUInt32 <<< UInt32.ofNat 0 ||| b1.toUInt32 <<< UInt32.ofNat 8 ||| b2.toUInt32 <<< UInt32.ofNat 16
      ||| b3.toUInt32 <<< UInt32.ofNat 24) = le32 b0 b1 b2 b3 := by
  apply UInt32.toNat_inj.mp
  have h0 := b0.toNat_lt
  have h1 := b1.toNat_lt
  have h2 := b2.toNat_lt
  have h3 := b3.toNat_lt
  rw [le32, UInt32.toNat_ofNat', Nat.mod_eq_of_lt (by omega)]
  simp only [UInt32.toNat_or, UInt32.toNat_zero, Nat.zero_or]
  rw [toNat_byte_shiftLeft b0 0 (by omega), toNat_byte_shiftLeft b1 8 (by omega), toNat_byte_shiftLeft b2 16 (by omega),
    toNat_byte_shiftLeft b3 24 (by omega), Nat.shiftLeft_zero,
    or_shiftLeft _ _ 8 h0, or_shiftLeft _ _ 16 (by omega), or_shiftLeft _ _ 24 (by omega)]

theorem load32_le_eq (data : List UInt8) (off : Nat) :
    load32_le data off = le32 (data.getD off 0) (data.getD (off + 1) 0) (data.getD (off + 2) 0) (data.getD (off + 3) 0) := by
  simp only [load32_le, Gen.C09.load32Terms, List.foldl_cons, List.foldl_nil, Nat.toUInt32_eq]
  exact or4_eq _ _ _ _

theorem derive_counter_eq (id : List UInt8) :
    derive_counter id = le32 (id.getD 0 0) (id.getD 1 0) (id.getD 2 0) (id.getD 3 0) := by
  simp only [derive_counter, Gen.C09.deriveCounterTerms, List.foldl_cons, List.foldl_nil, Nat.toUInt32_eq]
  exact or4_eq _ _ _ _

theorem byte_of_shift (v : UInt32) (k : Nat) (hk : k < 32) :
    (v >>> UInt32.ofNat k &&& 255).toUInt8 = UInt8.ofNat (v.toNat / 2 ^ k % 256) := by
  apply UInt8.toNat_inj.mp
  simp only [UInt32.toNat_toUInt8, UInt32.toNat_and, UInt32.toNat_shiftRight, UInt32.toNat_ofNat', UInt8.toNat_ofNat',
    UInt32.toNat_ofNat, Nat.shiftRight_eq_div_pow]
  rw [Nat.mod_eq_of_lt (by omega : k < 2 ^ 32), Nat.mod_eq_of_lt hk, show 255 % 2 ^ 32 = 2 ^ 8 - 1 from rfl,
    Nat.and_two_pow_sub_one_eq_mod]

theorem store32_le_eq (v : UInt32) : store32_le v = leBytes v := by
  simp only [store32_le, Gen.C09.store32Shifts, Gen.C09.store32Mask, List.map_cons, List.map_nil, leBytes, Nat.toUInt32_eq]
  rw [byte_of_shift v 0 (by omega), byte_of_shift v 8 (by omega), byte_of_shift v 16 (by omega), byte_of_shift v 24 (by omega)]
  simp only [Nat.pow_zero, Nat.div_one, Nat.reducePow]

theorem quarter_round_eq (a b c d : UInt32) : quarter_round a b c d = quarterRound a b c d := by
  rw [quarterRound, ← rotl32_eq _ 16 (by decide) (by decide), ← rotl32_eq _ 12 (by decide) (by decide),
    ← rotl32_eq _ 8 (by decide) (by decide), ← rotl32_eq _ 7 (by decide) (by decide)]
  -- interpreting the generated statement list gives these twelve statements
  rfl

theorem qrOnState_eq (ws : List UInt32) (x y z w : Nat) : qrOnState ws (x, y, z, w) = qrAt ws x y z w := by
  simp only [qrOnState, qrAt, quarter_round_eq]

theorem doubleRound_eq (ws : List UInt32) : doubleRound ws = innerBlock ws := by
  simp only [doubleRound, Gen.C09.qrIndices, List.foldl_cons, List.foldl_nil, qrOnState_eq, innerBlock]

theorem roundLoop_eq (n : Nat) (ws : List UInt32) : roundLoop n ws = innerBlocks n ws := by
  induction n generalizing ws with
  | zero => rfl
  | succ n ih => simp only [roundLoop, innerBlocks, doubleRound_eq, ih]

theorem leWords_eq_map (n : Nat) (l : List UInt8) (h : l.length = 4 * n) :
    leWords l = (List.range n).map fun i =>
      le32 (l.getD (4 * i) 0) (l.getD (4 * i + 1) 0) (l.getD (4 * i + 2) 0) (l.getD (4 * i + 3) 0) := by
  induction n generalizing l with
  | zero =>
    rw [List.eq_nil_of_length_eq_zero h]
    rfl
  | succ n ih =>
    match l, h with
    | b0 :: b1 :: b2 :: b3 :: rest, h =>
      simp only [List.length_cons] at h
      rw [leWords, ih rest (by omega), List.range_succ_eq_map, List.map_cons, List.map_map]
      rfl

theorem initState_eq (key nonce : List UInt8) (counter : UInt32) (hk : key.length = 32) (hn : nonce.length = 12) :
    ChaCha20.initState key nonce counter = Spec.ChaCha.initState key counter nonce := by
  have r8 : List.range 8 = [0, 1, 2, 3, 4, 5, 6, 7] := by decide
  have r3 : List.range 3 = [0, 1, 2] := by decide
  rw [Spec.ChaCha.initState, leWords_eq_map 8 key hk, leWords_eq_map 3 nonce hn, r8, r3]
  simp only [ChaCha20.initState, Gen.C09.stateInit, List.map_cons, List.map_nil, initWord, Gen.C09.sigma, load32_le_eq]
  rfl

theorem chacha20_block_eq (key nonce : List UInt8) (counter : UInt32) (hk : key.length = 32) (hn : nonce.length = 12) :
    chacha20_block key nonce counter = Spec.chacha20Block key counter nonce := by
  have hs : store32_le = leBytes := funext store32_le_eq
  simp only [chacha20_block, Spec.chacha20Block, blockState, serialize, addStates, initState_eq key nonce counter hk hn,
    roundLoop_eq, hs]
  rfl

theorem length_qrAt (s : State) (x y z w : Nat) : (qrAt s x y z w).length = s.length := by
  simp only [qrAt, List.length_set]

theorem length_innerBlock (s : State) : (innerBlock s).length = s.length := by
  simp only [innerBlock, length_qrAt]

theorem length_innerBlocks (n : Nat) (s : State) : (innerBlocks n s).length = s.length := by
  induction n generalizing s with
  | zero => rfl
  | succ n ih => simp only [innerBlocks, ih, length_innerBlock]

theorem length_serialize (s : State) : (serialize s).length = 4 * s.length := by
  simp only [serialize, List.length_flatMap, leBytes, List.length_cons, List.length_nil, List.map_const', List.sum_replicate_nat,
    Nat.mul_comm]

theorem length_leWords (n : Nat) (l : List UInt8) (h : l.length = 4 * n) : (leWords l).length = n := by
  rw [leWords_eq_map n l h, List.length_map, List.length_range]

theorem length_chacha20Block (key nonce : List UInt8) (counter : UInt32) (hk : key.length = 32) (hn : nonce.length = 12) :
    (Spec.chacha20Block key counter nonce).length = 64 := by
  simp only [Spec.chacha20Block, blockState, addStates, length_serialize, List.length_zipWith, length_innerBlocks,
    Spec.ChaCha.initState, List.length_append, length_leWords 8 key hk, length_leWords 3 nonce hn, sigma, List.length_cons,
    List.length_nil, Nat.min_self]

theorem length_flatMap_range {α : Type} (f : Nat → List α) {n : Nat} (h : ∀ i, (f i).length = n) (m : Nat) :
    ((List.range m).flatMap f).length = m * n := by
  simp only [List.length_flatMap, h, List.map_const', List.sum_replicate_nat, List.length_range]

theorem getElem?_flatMap_range {α : Type} (f : Nat → List α) {n : Nat} (h : ∀ i, (f i).length = n) (m j : Nat) (hj : j < m * n) :
    ((List.range m).flatMap f)[j]? = (f (j / n))[j % n]? := by
  induction m with
  | zero => omega
  | succ m ih =>
    rw [List.range_succ, List.flatMap_append, List.getElem?_append, length_flatMap_range f h]
    split
    · exact ih ‹_›
    · rw [List.flatMap_cons, List.flatMap_nil, List.append_nil, Nat.mod_eq_sub_div_mul,
        Nat.div_eq_of_lt_le (Nat.le_of_not_lt ‹_›) hj]

theorem spec_chacha20_eq (key nonce : List UInt8) (c : UInt32) (input : List UInt8) (hk : key.length = 32) (hn : nonce.length = 12) :
    Spec.chacha20 key nonce c input
      = input.mapIdx fun j b => b ^^^ (Spec.chacha20Block key (c + UInt32.ofNat (j / 64)) nonce).getD (j % 64) 0 := by
  apply List.ext_getElem?
  intro j
  have hlen : ∀ i, (Spec.chacha20Block key (c + UInt32.ofNat i) nonce).length = 64 :=
    fun i => length_chacha20Block key nonce _ hk hn
  simp only [Spec.chacha20, keystream, List.getElem?_zipWith, List.getElem?_mapIdx]
  by_cases hj : j < input.length
  · have hj' : j < blocksFor input.length * 64 := by simp only [blocksFor]; omega
    rw [getElem?_flatMap_range _ hlen _ _ hj']
    have hm : j % 64 < (Spec.chacha20Block key (c + UInt32.ofNat (j / 64)) nonce).length := by rw [hlen]; omega
    simp only [List.getElem?_eq_getElem hj, List.getElem?_eq_getElem hm, Option.map_some,
      List.getD_eq_getElem?_getD, Option.getD_some]
  · rw [List.getElem?_eq_none (Nat.le_of_not_lt hj)]
    rfl

end EphVerif.C09
