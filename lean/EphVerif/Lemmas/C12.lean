/-
Helper lemmas for C12: the square-and-multiply loop of `KeyExchange::modexp` computes `b^e mod m`
and none of its `uint64` products wraps when the modulus fits 32 bits; the identity scalar drawn
from any 32-bit engine lies in `[2, kPrime − 2]`; the key material is minimum, then maximum.  Core Lean only.
-/
import EphVerif.Model.KeyExchange
import EphVerif.Spec.KeyExchange

namespace EphVerif.C12L
open EphVerif.Kex

theorem mul_lt_two64 {a b m : Nat} (ha : a < m) (hb : b < m) (hm : m ≤ two32) : a * b < two64 :=
  calc a * b < m * m := Nat.mul_lt_mul'' ha hb
    _ ≤ two32 * two32 := Nat.mul_le_mul hm hm

theorem mul64_exact {a b m : Nat} (ha : a < m) (hb : b < m) (hm : m ≤ two32) : mul64 a b = a * b :=
  Nat.mod_eq_of_lt (mul_lt_two64 ha hb hm)

theorem pow_split (b e : Nat) : b ^ e = (b * b) ^ (e / 2) * b ^ (e % 2) := by
  have h : e = 2 * (e / 2) + e % 2 := (Nat.div_add_mod e 2).symm
  conv => lhs; rw [h]
  rw [Nat.pow_add, Nat.pow_mul, Nat.pow_two]

theorem modexpLoop_spec {m : Nat} (hm : m ≤ two32) (fuel : Nat) {r b : Nat} (e : Nat) (hr : r < m) (hb : b < m)
    (he : e < 2 ^ fuel) : modexpLoop fuel r b e m = (r * b ^ e) % m := by
  induction fuel generalizing r b e with
  | zero =>
    have : e = 0 := by simpa using he
    subst this
    simp [modexpLoop, Nat.mod_eq_of_lt hr]
  | succ f ih =>
    have hmpos : 0 < m := by omega
    unfold modexpLoop
    by_cases h0 : e > 0
    · -- the conditional multiplication is `result · base^(e mod 2)`, the rest of the exponent is `e / 2`
      have hr' : (if e % 2 == 1 then mul64 r b % m else r) = r * b ^ (e % 2) % m := by
        rcases Nat.mod_two_eq_zero_or_one e with h | h <;> simp [h, mul64_exact hr hb hm, Nat.mod_eq_of_lt hr]
      simp only [h0, if_true, hr', mul64_exact hb hb hm]
      rw [ih (e / 2) (Nat.mod_lt _ hmpos) (Nat.mod_lt _ hmpos) (by rw [Nat.pow_succ] at he; omega)]
      conv => rhs; rw [pow_split b e, Nat.mul_comm ((b * b) ^ (e / 2)), ← Nat.mul_assoc]
      rw [Nat.mul_mod, Nat.mod_mod, Nat.pow_mod (b * b % m), Nat.mod_mod, ← Nat.pow_mod, ← Nat.mul_mod]
    · have : e = 0 := by omega
      subst this
      simp [Nat.mod_eq_of_lt hr]

theorem modexp_eq (b e m : Nat) (hm1 : 1 ≤ m) (hm : m < two32) (he : e < two32) :
    modexp b e m = b ^ e % m := by
  have hlt (x : Nat) : x % m < m := Nat.mod_lt x hm1
  unfold modexp
  simp only []  -- the `let`s of `modexp`
  rw [modexpLoop_spec (Nat.le_of_lt hm) 32 e (hlt 1) (hlt b) he, Nat.mod_mod, Nat.mod_eq_of_lt (Nat.lt_trans (hlt _) hm)]
  rw [Nat.mul_mod, Nat.mod_mod, ← Nat.pow_mod, ← Nat.mul_mod, Nat.one_mul]

theorem lemire_lt {σ : Type} {range : Nat} (hr : 0 < range) {next : σ → Nat × σ} (hnext : ∀ s, (next s).1 < two32)
    (fuel : Nat) (s : σ) : lemire range next fuel s < range := by
  have key (s : σ) : ((next s).1 * range) >>> 32 < range := by
    rw [Nat.shiftRight_eq_div_pow]
    exact Nat.div_lt_of_lt_mul (Nat.mul_lt_mul_of_pos_right (hnext s) hr)
  induction fuel generalizing s with
  | zero => exact key s
  | succ f ih =>
    unfold lemire
    simp only []  -- the `let`s of `lemire`
    split
    · exact ih _
    · exact key s

theorem mt32_next_lt (g : Mt32) : (Mt32.next g).1 < two32 :=
  UInt32.toNat_lt _

/-- `uniform_int_distribution<uint32_t>(2, kPrime − 2)` stays in its range, whatever the engine returns -/
theorem drawScalar_range {σ : Type} {next : σ → Nat × σ} (hnext : ∀ s, (next s).1 < two32) (s : σ) :
    2 ≤ drawScalar next s ∧ drawScalar next s ≤ Gen.C12.kPrime - 2 := by
  have := lemire_lt (range := Gen.C12.kPrime - 3) (by decide) hnext 64 s
  unfold drawScalar
  omega

end EphVerif.C12L

namespace EphVerif.C12
open EphVerif.Kex

/-- "sorted ascending" is minimum, then maximum -/
theorem material_eq (x y : Nat) :
    handshakeMaterial x y = Pow.beBytes 4 (min x y) ++ Pow.beBytes 4 (max x y) := by
  unfold handshakeMaterial
  by_cases h : y < x
  · rw [if_pos h, if_pos h, Nat.min_eq_right (Nat.le_of_lt h), Nat.max_eq_left (Nat.le_of_lt h)]
  · rw [if_neg h, if_neg h, Nat.min_eq_left (Nat.not_lt.mp h), Nat.max_eq_right (Nat.not_lt.mp h)]

end EphVerif.C12
