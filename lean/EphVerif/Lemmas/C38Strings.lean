/-
Lemmas for C38_strings / C38_depth / C38_total, continued: `append_utf8`'s shifts and masks compute
RFC 3629; the string reader consumes exactly what the RFC 8259 string decoder (`decodeStr`)
consumes and yields what it yields; every `parse_value` that succeeds returns a tree whose strings
are the decodings of the literals at their offsets and whose nesting is within the budget.
-/
import EphVerif.Model.UpdateJson
import EphVerif.Lemmas.C37C38JsonString
import EphVerif.Lemmas.C38Total
import EphVerif.Spec.UpdateJson
namespace EphVerif.C38L
open EphVerif.UpdateJson EphVerif.JsonSpec EphVerif.C38Spec

/-- the source tests the three digit ranges in another order than the specification does -/
theorem hexDigit_eq (ch : Nat) : hexDigit ch = hexVal ch := by
  unfold hexDigit hexVal
  by_cases h1 : 0x30 ≤ ch ∧ ch ≤ 0x39
  · rw [if_pos h1, if_pos h1]
  by_cases h2 : 0x61 ≤ ch ∧ ch ≤ 0x66
  · rw [if_neg h1, if_pos h2, if_neg h1, if_neg (by omega), if_pos h2]
    congr 1; omega
  by_cases h3 : 0x41 ≤ ch ∧ ch ≤ 0x46
  · rw [if_neg h1, if_neg h2, if_pos h3, if_neg h1, if_pos h3]
    congr 1; omega
  · rw [if_neg h1, if_neg h2, if_neg h3, if_neg h1, if_neg h3, if_neg h2]

theorem hexDigit_lt {ch w : Nat} (h : hexDigit ch = some w) : w < 16 := by
  unfold hexDigit at h
  split at h
  · cases h; omega
  split at h
  · cases h; omega
  split at h
  · cases h; omega
  · cases h

theorem shl4_or (a v : Nat) (h : v < 16) : (a <<< 4) ||| v = a * 16 + v := by
  rw [← Nat.shiftLeft_add_eq_or_of_lt (by simpa using h)]
  simp [Nat.shiftLeft_eq]

theorem safe_hexStep (acc ch : Nat) :
    Safe (fun v => ∃ w, hexVal ch = some w ∧ w < 16 ∧ v = acc * 16 + w) (hexStep acc ch) := by
  unfold hexStep
  split
  · next w hw => exact ⟨w, hexDigit_eq ch ▸ hw, hexDigit_lt hw, shl4_or acc w (hexDigit_lt hw)⟩
  · trivial

/-- a tag in the high bits over a masked payload, the way `append_utf8` builds every byte -/
theorem tag_or_mask (a i x : Nat) : a <<< i ||| (x &&& (2 ^ i - 1)) = a <<< i + x % 2 ^ i := by
  rw [Nat.and_two_pow_sub_one_eq_mod, Nat.shiftLeft_add_eq_or_of_lt (Nat.mod_lt _ (Nat.two_pow_pos i))]

theorem tail_byte (x : Nat) : 0x80 ||| (x &&& 0x3F) = 0x80 + x % 64 := tag_or_mask 2 6 x
theorem lead2_byte (x : Nat) : 0xC0 ||| (x &&& 0x1F) = 0xC0 + x % 32 := tag_or_mask 6 5 x
theorem lead3_byte (x : Nat) : 0xE0 ||| (x &&& 0x0F) = 0xE0 + x % 16 := tag_or_mask 14 4 x
theorem lead4_byte (x : Nat) : 0xF0 ||| (x &&& 0x07) = 0xF0 + x % 8 := tag_or_mask 30 3 x

theorem utf8Encode_appendUtf8 (cp : Nat) (h1 : cp < 0x110000) (h2 : ¬(0xD800 ≤ cp ∧ cp ≤ 0xDFFF)) :
    utf8Encode cp = some (appendUtf8 cp) := by
  unfold utf8Encode appendUtf8
  simp only [tail_byte, lead2_byte, lead3_byte, lead4_byte, Nat.shiftRight_eq_div_pow, Nat.reducePow]
  by_cases c1 : cp < 0x80
  · rw [if_pos c1, if_pos (show cp ≤ 0x7F by omega)]
  by_cases c2 : cp < 0x800
  · rw [if_neg c1, if_pos c2, if_neg (show ¬ cp ≤ 0x7F by omega), if_pos (show cp ≤ 0x7FF by omega)]
    congr 3; omega
  by_cases c3 : cp < 0x10000
  · rw [if_neg c1, if_neg c2, if_neg h2, if_pos c3, if_neg (show ¬ cp ≤ 0x7F by omega),
      if_neg (show ¬ cp ≤ 0x7FF by omega), if_pos (show cp ≤ 0xFFFF by omega)]
    congr 3; omega
  · rw [if_neg c1, if_neg c2, if_neg h2, if_neg c3, if_pos h1, if_neg (show ¬ cp ≤ 0x7F by omega),
      if_neg (show ¬ cp ≤ 0x7FF by omega), if_neg (show ¬ cp ≤ 0xFFFF by omega)]
    congr 3; omega

theorem combine_eq (cp lo : Nat) : 0x10000 + ((cp - 0xD800) <<< 10) + (lo - 0xDC00) = combineSurrogates cp lo := by
  unfold combineSurrogates
  simp [Nat.shiftLeft_eq]

def rem (inp : Input) (pos : Nat) : List Nat := inp.toList.drop pos

theorem rem_cons {inp : Input} {pos b : Nat} (h : inp[pos]? = some b) : rem inp pos = b :: rem inp (pos + 1) := by
  obtain ⟨hlt, hb⟩ := Array.getElem?_eq_some_iff.mp h
  unfold rem
  rw [List.drop_eq_getElem_cons (by simpa using hlt)]
  simp [← hb]

theorem safe_parseHex4 (inp : Input) (pos : Nat) :
    Safe (fun r => r.2 = pos + 4 ∧ r.2 ≤ inp.size ∧ r.1 < 0x10000 ∧
      ∃ a b c d, rem inp pos = a :: b :: c :: d :: rem inp r.2 ∧ hex4 a b c d = some r.1) (parseHex4 inp pos) := by
  unfold parseHex4
  split
  · trivial
  next h =>
  obtain ⟨a, ha⟩ := getElem?_of_lt (show pos < inp.size by omega)
  obtain ⟨b, hb⟩ := getElem?_of_lt (show pos + 1 < inp.size by omega)
  obtain ⟨c, hc⟩ := getElem?_of_lt (show pos + 2 < inp.size by omega)
  obtain ⟨d, hd⟩ := getElem?_of_lt (show pos + 3 < inp.size by omega)
  simp only [rawAt_some ha, rawAt_some hb, rawAt_some hc, rawAt_some hd, ok_bind]
  refine Safe.bind (safe_hexStep 0 a) fun v1 h1 => ?_
  refine Safe.bind (safe_hexStep v1 b) fun v2 h2 => ?_
  refine Safe.bind (safe_hexStep v2 c) fun v3 h3 => ?_
  refine Safe.bind (safe_hexStep v3 d) fun v4 h4 => ?_
  obtain ⟨w1, e1, l1, r1⟩ := h1
  obtain ⟨w2, e2, l2, r2⟩ := h2
  obtain ⟨w3, e3, l3, r3⟩ := h3
  obtain ⟨w4, e4, l4, r4⟩ := h4
  refine ⟨rfl, by show pos + 4 ≤ inp.size; omega, by show v4 < 0x10000; omega, a, b, c, d, ?_, ?_⟩
  · rw [rem_cons ha, rem_cons hb, rem_cons hc, rem_cons hd]
  · unfold hex4; rw [e1, e2, e3, e4]; simp only; congr 1; omega

theorem safe_parseUnicodeEscape (inp : Input) (pos : Nat) :
    Safe (fun r => pos < r.2 ∧ r.2 ≤ inp.size ∧ ∀ strict,
      decodeStr strict (0x5C :: 0x75 :: rem inp pos) = prepend (some r.1) (decodeStr strict (rem inp r.2)))
      (parseUnicodeEscape inp pos) := by
  unfold parseUnicodeEscape
  refine Safe.bind (safe_parseHex4 inp pos) fun r hr => ?_
  obtain ⟨cp, p1⟩ := r
  obtain ⟨hp1, hs1, hcp, a, b, c, d, hrem, hx⟩ := hr
  simp only at hp1 hs1 hcp hrem hx ⊢
  refine Safe.ite (fun _ => trivial) fun hnl => ?_
  refine Safe.ite (fun hhi => ?_) fun hnh => ?_
  · refine Safe.ite (fun _ => trivial) fun hs => ?_
    obtain ⟨bs, hbs⟩ := getElem?_of_lt (show p1 < inp.size by omega)
    obtain ⟨bu, hbu⟩ := getElem?_of_lt (show p1 + 1 < inp.size by omega)
    simp only [rawAt_some hbs, rawAt_some hbu, ok_bind]
    refine Safe.ite (fun _ => trivial) fun e1 => ?_
    refine Safe.ite (fun _ => trivial) fun e2 => ?_
    have e1 := Decidable.of_not_not e1
    have e2 := Decidable.of_not_not e2
    subst e1 e2
    refine Safe.bind (safe_parseHex4 inp (p1 + 2)) fun r2 hr2 => ?_
    obtain ⟨lo, p2⟩ := r2
    obtain ⟨hp2, hs2, _, l1, l2, l3, l4, hrem2, hlx⟩ := hr2
    simp only at hp2 hs2 hrem2 hlx ⊢
    refine Safe.ite (fun _ => trivial) fun hlo => ?_
    refine ⟨by omega, hs2, fun strict => ?_⟩
    have hr : combineSurrogates cp lo < 0x110000 ∧ 0x10000 ≤ combineSurrogates cp lo := by
      unfold combineSurrogates; omega
    rw [hrem, rem_cons hbs, rem_cons hbu, hrem2,
      decodeStr_pair strict a b c d l1 l2 l3 l4 cp lo _ hx (by simp [isHighSurrogate]; omega) hlx
        (by simp [isLowSurrogate]; omega),
      combine_eq, utf8Encode_appendUtf8 _ hr.1 (by omega)]
  · refine ⟨by omega, hs1, fun strict => ?_⟩
    rw [hrem, decodeStr_bmp strict a b c d cp _ hx (by simp [isHighSurrogate]; omega)
      (by simp [isLowSurrogate]; omega), utf8Encode_appendUtf8 cp (by omega) (by omega)]

theorem peek_ok {inp : Input} {pos ch : Nat} (h : peek inp pos = .ok ch) : rawAt inp pos = .ok ch := by
  unfold peek at h
  split at h
  · cases h
  · exact h

/-- the `switch (esc)` of `parse_string` with the continuations as variables: its eight
    two-character escapes are those of RFC 8259 -/
theorem escapeSwitch {β : Type} (esc : Nat) (k : Nat → β) (u e : β) :
    (if esc = 0x22 ∨ esc = 0x5C ∨ esc = 0x2F then k esc
     else if esc = 0x62 then k 0x08
     else if esc = 0x66 then k 0x0C
     else if esc = 0x6E then k 0x0A
     else if esc = 0x72 then k 0x0D
     else if esc = 0x74 then k 0x09
     else if esc = 0x75 then u
     else e) =
    match simpleEscape esc with
    | some v => k v
    | none => if esc = 0x75 then u else e := by
  by_cases h1 : esc = 0x22; · subst h1; rfl
  by_cases h2 : esc = 0x5C; · subst h2; rfl
  by_cases h3 : esc = 0x2F; · subst h3; rfl
  by_cases h4 : esc = 0x62; · subst h4; rfl
  by_cases h5 : esc = 0x66; · subst h5; rfl
  by_cases h6 : esc = 0x6E; · subst h6; rfl
  by_cases h7 : esc = 0x72; · subst h7; rfl
  by_cases h8 : esc = 0x74; · subst h8; rfl
  simp only [simpleEscape, h1, h2, h3, h4, h5, h6, h7, h8, or_self, if_false]

section
variable {inp : Input} {fuel pos : Nat} {out : List Nat}

-- `show` exposes one iteration by unfolding; the equation lemma of `strLoop` is as good but is
-- rebuilt, at a price, by every proof that names it

theorem strLoop_eof (h : inp.size ≤ pos) :
    strLoop inp (fuel + 1) pos out = .err "Unterminated string literal" := by
  show (if eof inp pos then _ else _) = _
  rw [eof_of_le h]; rfl

theorem strLoop_quote (h : inp[pos]? = some 0x22) : strLoop inp (fuel + 1) pos out = .ok (out, pos + 1) := by
  show (if eof inp pos then _ else _) = _
  rw [eof_of_lt (lt_of_getElem? h), get_some h]; rfl

theorem strLoop_plain {ch : Nat} (h : inp[pos]? = some ch) (h1 : ch ≠ 0x22) (h2 : ch ≠ 0x5C) :
    strLoop inp (fuel + 1) pos out = strLoop inp fuel (pos + 1) (out ++ [ch]) := by
  show (if eof inp pos then _ else _) = _
  rw [eof_of_lt (lt_of_getElem? h), get_some h]
  simp only [Bool.false_eq_true, if_false, h1, h2]

theorem strLoop_escEof (h : inp[pos]? = some 0x5C) (h1 : inp.size ≤ pos + 1) :
    strLoop inp (fuel + 1) pos out = .err "Unterminated escape sequence" := by
  show (if eof inp pos then _ else _) = _
  rw [eof_of_lt (lt_of_getElem? h), get_some h]
  simp only [Bool.false_eq_true, if_false, if_true, show ¬ (0x5C : Nat) = 0x22 by decide, eof_of_le h1]

theorem strLoop_escape {esc : Nat} (h : inp[pos]? = some 0x5C) (h1 : inp[pos + 1]? = some esc) :
    strLoop inp (fuel + 1) pos out =
      match simpleEscape esc with
      | some v => strLoop inp fuel (pos + 2) (out ++ [v])
      | none =>
        if esc = 0x75 then parseUnicodeEscape inp (pos + 2) >>= fun r => strLoop inp fuel r.2 (out ++ r.1)
        else .err "Invalid escape sequence in string" := by
  show (if eof inp pos then _ else _) = _
  rw [eof_of_lt (lt_of_getElem? h), get_some h]
  simp only [Bool.false_eq_true, if_false, if_true, show ¬ (0x5C : Nat) = 0x22 by decide,
    eof_of_lt (lt_of_getElem? h1), get_some h1]
  rw [escapeSwitch esc (fun v => strLoop inp fuel (pos + 1 + 1) (out ++ [v]))]
  cases parseUnicodeEscape inp (pos + 1 + 1) <;> rfl

end

theorem prepend_some_some (p s rest : List Nat) : prepend (some p) (some (s, rest)) = some (p ++ s, rest) := rfl

def StrPost (inp : Input) (pos : Nat) (out : List Nat) (r : List Nat × Nat) : Prop :=
  pos < r.2 ∧ r.2 ≤ inp.size ∧ ∃ s, r.1 = out ++ s ∧ decodeStr false (rem inp pos) = some (s, rem inp r.2)

theorem safe_strLoop (inp : Input) (fuel pos : Nat) (out : List Nat) (hf : inp.size - pos < fuel) :
    Safe (StrPost inp pos out) (strLoop inp fuel pos out) := by
  induction fuel generalizing pos out with
  | zero => omega
  | succ fuel ih =>
    by_cases hge : inp.size ≤ pos
    · rw [strLoop_eof hge]; trivial
    have hlt := Nat.lt_of_not_le hge
    -- an iteration that appends `bytes`, the decoding of what lies between `pos` and `p`
    have step : ∀ p bytes, pos < p →
        decodeStr false (rem inp pos) = prepend (some bytes) (decodeStr false (rem inp p)) →
        Safe (StrPost inp pos out) (strLoop inp fuel p (out ++ bytes)) := fun p bytes hp hd =>
      (ih p (out ++ bytes) (by omega)).mono fun r ⟨h1, h2, s, hs, hds⟩ =>
        ⟨by omega, h2, bytes ++ s, by rw [hs, List.append_assoc], by rw [hd, hds, prepend_some_some]⟩
    obtain ⟨ch, h0⟩ := getElem?_of_lt hlt
    have hrem := rem_cons h0
    by_cases hq : ch = 0x22
    · subst hq
      rw [strLoop_quote h0]
      exact ⟨Nat.lt_succ_self _, hlt, [], (List.append_nil _).symm, by rw [hrem]; exact decodeStr_quote false _⟩
    by_cases hb : ch = 0x5C
    · subst hb
      by_cases hge1 : inp.size ≤ pos + 1
      · rw [strLoop_escEof h0 hge1]; trivial
      have hlt1 := Nat.lt_of_not_le hge1
      obtain ⟨esc, h1⟩ := getElem?_of_lt hlt1
      have hrem1 := rem_cons h1
      rw [strLoop_escape h0 h1]
      split
      · next v hv => exact step _ _ (by omega) (by rw [hrem, hrem1, decodeStr_simple false esc v _ hv])
      · split
        · next hu =>
          subst hu
          refine Safe.bind (safe_parseUnicodeEscape inp (pos + 2)) fun r hr => ?_
          exact step _ _ (by omega) (by rw [hrem, hrem1, hr.2.2 false])
        · trivial
    · rw [strLoop_plain h0 hq hb]
      exact step _ _ (Nat.lt_succ_self _) (by rw [hrem, decodeStr_plain false ch _ hq hb (fun h => nomatch h)])

theorem safe_parseString (inp : Input) (pos : Nat) :
    Safe (fun r => pos < r.2 ∧ r.2 ≤ inp.size ∧ StrAt inp pos r.1) (parseString inp pos) := by
  unfold parseString
  refine Safe.bind (safe_expect inp pos 0x22) fun p1 ⟨hp1, hlt, hq⟩ => ?_
  subst hp1
  refine (safe_strLoop inp _ (pos + 1) [] (by unfold fuelFor; omega)).mono fun r ⟨h1, h2, s, hs, hd⟩ => ?_
  exact ⟨by omega, h2, hq, r.2, by rw [hs]; exact hd⟩

theorem safe_arrLoop (inp : Input) (pv : Nat → Res (JV × Nat)) {Q : JV → Prop}
    (hpv : ∀ p, p ≤ inp.size → Safe (Adv inp p Q) (pv p))
    (fuel pos : Nat) (acc : List JV) (hacc : ∀ x ∈ acc, Q x) (hpos : pos ≤ inp.size)
    (hf : inp.size - pos < fuel) :
    Safe (Adv inp pos fun v => ∃ xs, v = .arr xs ∧ ∀ x ∈ xs, Q x) (arrLoop inp pv fuel pos acc) := by
  induction fuel generalizing pos acc with
  | zero => omega
  | succ fuel ih =>
    refine Safe.bind (safe_skipWs' inp pos hpos) fun p1 hp1 => ?_
    refine Safe.bind (hpv p1 hp1.2) fun ⟨child, p2⟩ ⟨hr1, hr2, hQ⟩ => ?_
    have hacc' := List.forall_mem_append.mpr ⟨hacc, List.forall_mem_singleton.mpr hQ⟩
    refine Safe.bind (safe_skipWs' inp p2 hr2) fun p3 hp3 => ?_
    refine Safe.bind (safe_matchCh inp p3 0x5D hp3.2) fun ⟨close, p4⟩ hp4 => ?_
    refine Safe.ite (fun _ => ?_) fun _ => ?_
    · exact ⟨by show pos ≤ p4; omega, hp4.2, _, rfl, hacc'⟩
    · refine Safe.bind (safe_expect inp p4 0x2C) fun p5 hp5 => ?_
      refine Safe.bind (safe_skipWs' inp p5 (by omega)) fun p6 hp6 => ?_
      exact (ih p6 _ hacc' hp6.2 (by omega)).mono fun a ha => ⟨by omega, ha.2⟩

theorem safe_parseArray (inp : Input) (pv : Nat → Res (JV × Nat)) {Q : JV → Prop}
    (hpv : ∀ p, p ≤ inp.size → Safe (Adv inp p Q) (pv p)) (pos : Nat) :
    Safe (Adv inp pos fun v => ∃ xs, v = .arr xs ∧ ∀ x ∈ xs, Q x) (parseArray inp pv pos) := by
  unfold parseArray
  refine Safe.bind (safe_expect inp pos 0x5B) fun p1 hp1 => ?_
  refine Safe.bind (safe_skipWs' inp p1 (by omega)) fun p2 hp2 => ?_
  refine Safe.bind (safe_matchCh inp p2 0x5D hp2.2) fun ⟨close, p3⟩ hp3 => ?_
  refine Safe.ite (fun _ => ?_) fun _ => ?_
  · exact ⟨by show pos ≤ p3; omega, hp3.2, [], rfl, List.forall_mem_nil _⟩
  · exact (safe_arrLoop inp pv hpv _ p3 [] (List.forall_mem_nil _) hp3.2 (by unfold fuelFor; omega)).mono
      fun a ha => ⟨by omega, ha.2⟩

theorem safe_objLoop (inp : Input) (pv : Nat → Res (JV × Nat)) {Q : JV → Prop}
    (hpv : ∀ p, p ≤ inp.size → Safe (Adv inp p Q) (pv p))
    (fuel pos : Nat) (acc : List (Nat × List Nat × JV)) (hacc : ∀ m ∈ acc, StrAt inp m.1 m.2.1 ∧ Q m.2.2)
    (hpos : pos ≤ inp.size) (hf : inp.size - pos < fuel) :
    Safe (Adv inp pos fun v => ∃ ms, v = .obj ms ∧ ∀ m ∈ ms, StrAt inp m.1 m.2.1 ∧ Q m.2.2)
      (objLoop inp pv fuel pos acc) := by
  induction fuel generalizing pos acc with
  | zero => omega
  | succ fuel ih =>
    refine Safe.bind (safe_skipWs' inp pos hpos) fun p1 hp1 => ?_
    refine Safe.bind (safe_peek inp p1) fun ch _ => ?_
    refine Safe.ite (fun _ => trivial) fun _ => ?_
    refine Safe.bind (safe_parseString inp p1) fun ⟨key, pk⟩ ⟨hk1, hk2, hkey⟩ => ?_
    refine Safe.bind (safe_skipWs' inp pk hk2) fun p2 hp2 => ?_
    refine Safe.bind (safe_expect inp p2 0x3A) fun p3 hp3 => ?_
    refine Safe.bind (safe_skipWs' inp p3 (by omega)) fun p4 hp4 => ?_
    refine Safe.bind (hpv p4 hp4.2) fun ⟨child, p5⟩ ⟨hr1, hr2, hQ⟩ => ?_
    have hacc' : ∀ m ∈ acc ++ [(p1, key, child)], StrAt inp m.1 m.2.1 ∧ Q m.2.2 :=
      List.forall_mem_append.mpr ⟨hacc, List.forall_mem_singleton.mpr ⟨hkey, hQ⟩⟩
    refine Safe.bind (safe_skipWs' inp p5 hr2) fun p6 hp6 => ?_
    refine Safe.bind (safe_matchCh inp p6 0x7D hp6.2) fun ⟨close, p7⟩ hp7 => ?_
    refine Safe.ite (fun _ => ?_) fun _ => ?_
    · exact ⟨by show pos ≤ p7; omega, hp7.2, _, rfl, hacc'⟩
    · refine Safe.bind (safe_expect inp p7 0x2C) fun p8 hp8 => ?_
      refine Safe.bind (safe_skipWs' inp p8 (by omega)) fun p9 hp9 => ?_
      exact (ih p9 _ hacc' hp9.2 (by omega)).mono fun a ha => ⟨by omega, ha.2⟩

theorem safe_parseObject (inp : Input) (pv : Nat → Res (JV × Nat)) {Q : JV → Prop}
    (hpv : ∀ p, p ≤ inp.size → Safe (Adv inp p Q) (pv p)) (pos : Nat) :
    Safe (Adv inp pos fun v => ∃ ms, v = .obj ms ∧ ∀ m ∈ ms, StrAt inp m.1 m.2.1 ∧ Q m.2.2)
      (parseObject inp pv pos) := by
  unfold parseObject
  refine Safe.bind (safe_expect inp pos 0x7B) fun p1 hp1 => ?_
  refine Safe.bind (safe_skipWs' inp p1 (by omega)) fun p2 hp2 => ?_
  refine Safe.bind (safe_matchCh inp p2 0x7D hp2.2) fun ⟨close, p3⟩ hp3 => ?_
  refine Safe.ite (fun _ => ?_) fun _ => ?_
  · exact ⟨by show pos ≤ p3; omega, hp3.2, [], rfl, List.forall_mem_nil _⟩
  · exact (safe_objLoop inp pv hpv _ p3 [] (List.forall_mem_nil _) hp3.2 (by unfold fuelFor; omega)).mono
      fun a ha => ⟨by omega, ha.2⟩

theorem safe_parseValue (inp : Input) (d pos : Nat) (hpos : pos ≤ inp.size) :
    Safe (Adv inp pos fun v => AllStr (StrAt inp) v ∧ DepthLe d v) (parseValue inp d pos) := by
  unfold parseValue
  refine safe_eofGuard trivial fun hlt => ?_
  obtain ⟨ch, hch⟩ := getElem?_of_lt hlt
  simp only [peek, eof_of_lt hlt, rawAt_some hch, Bool.false_eq_true, if_false]
  refine Safe.ite (fun _ => ?_) fun _ => Safe.ite (fun _ => ?_) fun _ => Safe.ite (fun _ => ?_) fun _ =>
    Safe.ite (fun _ => ?_) fun _ => Safe.ite (fun _ => ?_) fun _ => trivial
  · rcases (safe_parseString inp pos).ok_or_err with ⟨⟨s, p⟩, e, h1, h2, h3⟩ | ⟨m, e⟩ <;> rw [e]
    · exact ⟨Nat.le_of_lt h1, h2, .str _ _ h3, .str _ _ _⟩
    · trivial
  · cases d with
    | zero => trivial
    | succ d' =>
      have ih := fun p hp => safe_parseValue inp d' p hp
      refine Safe.ite (fun _ => ?_) fun _ => ?_
      · exact (safe_parseObject inp _ ih pos).mono fun r ⟨h1, h2, ms, e, hms⟩ =>
          ⟨h1, h2, e ▸ ⟨.obj _ (fun m hm => (hms m hm).1) (fun m hm => (hms m hm).2.1),
            .obj _ _ (fun m hm => (hms m hm).2.2)⟩⟩
      · exact (safe_parseArray inp _ ih pos).mono fun r ⟨h1, h2, xs, e, hxs⟩ =>
          ⟨h1, h2, e ▸ ⟨.arr _ (fun x hx => (hxs x hx).1), .arr _ _ (fun x hx => (hxs x hx).2)⟩⟩
  · exact (safe_parseBoolean inp pos hpos).mono fun r ⟨h1, h2, b, e⟩ => ⟨h1, h2, e ▸ ⟨.bool b, .bool _ b⟩⟩
  · exact (safe_parseNull inp pos hpos).mono fun r ⟨h1, h2, e⟩ => ⟨h1, h2, e ▸ ⟨.null, .null _⟩⟩
  · exact (safe_parseNumber inp pos hpos).mono fun r ⟨h1, h2, t, e⟩ => ⟨h1, h2, e ▸ ⟨.num t, .num _ t⟩⟩
termination_by d

theorem safe_parseDocument (inp : Input) :
    Safe (fun v => AllStr (StrAt inp) v ∧ DepthLe EphVerif.Gen.C38.kMaxJsonDepth v) (parseDocument inp) := by
  unfold parseDocument
  refine Safe.bind (safe_skipWs' inp 0 (Nat.zero_le _)) fun p1 hp1 => ?_
  refine Safe.bind (safe_parseValue inp _ p1 hp1.2) fun ⟨v, p2⟩ ⟨_, hr2, hv⟩ => ?_
  refine Safe.bind (safe_skipWs' inp p2 hr2) fun p3 _ => ?_
  exact Safe.ite (fun _ => hv) fun _ => trivial

end EphVerif.C38L
