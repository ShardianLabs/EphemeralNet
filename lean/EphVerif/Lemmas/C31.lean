import EphVerif.Model.Filename
import EphVerif.Spec.Filename
/-! Helper lemmas for C31 (file-name sanitisers, `dir / name`). -/
namespace EphVerif.C31L
open EphVerif EphVerif.Filename
open EphVerif.Spec.Filename (safeName goodByte goodN ctlN sepN resN acceptable)

/-- `reserved` holds both separators and all seven reserved characters of the property: a byte that is no control
byte and not in `reserved` is then good -/
def Covers (reserved : List Nat) : Prop := ∀ n, sepN n = true ∨ resN n = true → reserved.contains n = true

theorem covers_of_all {reserved : List Nat}
    (h : [0x2f, 0x5c, 0x3a, 0x2a, 0x3f, 0x22, 0x3c, 0x3e, 0x7c].all reserved.contains = true) : Covers reserved := by
  intro n hn
  refine List.all_eq_true.mp h n ?_
  simpa [sepN, resN, or_assoc] using hn

theorem isCntrl_eq (b : UInt8) : isCntrl b = ctlN b.toNat := rfl

theorem replace_all_good (reserved : List Nat) (hc : Covers reserved) (s : Bytes) :
    (replaceReserved reserved (s.filter fun b => !isCntrl b)).all goodByte = true := by
  rw [replaceReserved, List.all_map, List.all_eq_true]
  intro b hb
  have hctl : ctlN b.toNat = false := isCntrl_eq b ▸ (Bool.not_eq_true' _).mp (List.mem_filter.mp hb).2
  show goodByte (if reserved.contains b.toNat then underscore else b) = true
  split
  · decide
  · next hr =>
    cases hs : sepN b.toNat
    · cases hres : resN b.toNat
      · simp only [goodByte, goodN, hs, hctl, hres]; rfl
      · exact absurd (hc _ (.inr hres)) hr
    · exact absurd (hc _ (.inl hs)) hr

theorem take_ne_short (s t : Bytes) (n : Nat) (ht : t.length < n) (h : (s != t) = true) : (s.take n != t) = true := by
  by_cases hl : s.length ≤ n
  · rwa [List.take_of_length_le hl]
  · refine bne_iff_ne.mpr fun heq => ?_
    have := congrArg List.length heq
    rw [List.length_take] at this
    omega

/-- the common tail of the three sanitisers: good bytes, not empty, not dots ⇒ a safe name after truncation -/
theorem safe_of_parts (s : Bytes) (n : Nat) (hn : n ≤ 255) (hn3 : 3 ≤ n) (hgood : s.all goodByte = true)
    (hne : s.isEmpty = false) (hd : Filename.isDots s = false) : safeName (s.take n) = true := by
  obtain ⟨h1, h2⟩ := Bool.or_eq_false_iff.mp hd
  have hne' : (s.take n).isEmpty = false := by
    cases s with
    | nil => cases hne
    | cons a t =>
      cases n with
      | zero => omega
      | succ k => rfl
  simp only [safeName, hne', Bool.not_false, Bool.true_and, Bool.and_eq_true, decide_eq_true_eq]
  refine ⟨⟨⟨?_, ?_⟩, ?_⟩, ?_⟩
  · exact List.all_eq_true.mpr fun b hb => List.all_eq_true.mp hgood b (List.mem_of_mem_take hb)
  · exact take_ne_short s dot n (Nat.lt_of_lt_of_le (by decide) hn3) (congrArg (!·) h1)
  · exact take_ne_short s dotdot n hn3 (congrArg (!·) h2)
  · exact Nat.le_trans (List.length_take_le n s) hn

theorem safe_no_slash {n : Bytes} (h : safeName n = true) : ∀ b ∈ n, (b != slash) = true := by
  simp only [safeName, Bool.and_eq_true, List.all_eq_true] at h
  intro b hb
  have hg := h.1.1.1.2 b hb
  refine bne_iff_ne.mpr fun heq => ?_
  subst heq
  exact absurd hg (by decide)

theorem filename_append (d : Bytes) {n : Bytes} (hn : ∀ b ∈ n, (b != slash) = true) :
    filename (d ++ n) = filename d ++ n := by
  rw [filename, filename, List.reverse_append,
    List.takeWhile_append_of_pos fun b hb => hn b (List.mem_reverse.mp hb), List.reverse_append, List.reverse_reverse]

theorem parentPath_append (d : Bytes) {n : Bytes} (hn : ∀ b ∈ n, (b != slash) = true) :
    parentPath (d ++ n) = parentPath d := by
  rw [parentPath, parentPath, List.reverse_append,
    List.dropWhile_append_of_pos fun b hb => hn b (List.mem_reverse.mp hb)]

theorem filename_sep (d : Bytes) : filename (d ++ [slash]) = [] := by
  rw [filename, List.reverse_append]
  rfl

theorem sep_not_isEmpty (d : Bytes) : ¬(d ++ [slash]).isEmpty = true := by
  cases d <;> nofun

theorem parentPath_sep (d : Bytes) : parentPath (d ++ [slash]) = normDir (d ++ [slash]) := by
  rw [parentPath, normDir, List.reverse_append, if_neg (sep_not_isEmpty d)]
  rfl

theorem normDir_sep {d : Bytes} (hd : ¬d.isEmpty = true) : normDir (d ++ [slash]) = normDir d := by
  rw [normDir, normDir, List.reverse_append, if_neg (sep_not_isEmpty d), if_neg hd]
  rfl

theorem join_child (dir : Bytes) {n : Bytes} (hn : ∀ b ∈ n, (b != slash) = true) :
    parentPath (join dir n) = normDir dir ∧ filename (join dir n) = n := by
  have hhead : ¬(n.head? == some slash) = true := by
    cases n with
    | nil => nofun
    | cons a t =>
      intro h
      cases beq_iff_eq.mp h
      exact absurd (hn _ List.mem_cons_self) (by decide)
  -- `join` puts `n` behind a prefix that is empty or ends in `/`, and whose parent is `dir` already
  have key : ∀ d, parentPath d = normDir dir → filename d = [] →
      parentPath (d ++ n) = normDir dir ∧ filename (d ++ n) = n :=
    fun d hp hf => ⟨(parentPath_append d hn).trans hp, (filename_append d hn).trans (congrArg (· ++ n) hf)⟩
  rw [join, if_neg hhead]
  split
  · next hde =>
    cases List.isEmpty_iff.mp hde
    exact key [] rfl rfl
  · next hde =>
    split
    · next hlast =>
      obtain ⟨d, rfl⟩ := List.getLast?_eq_some_iff.mp (beq_iff_eq.mp hlast)
      exact key _ (parentPath_sep d) (filename_sep d)
    · exact key _ ((parentPath_sep dir).trans (normDir_sep hde)) (filename_sep dir)

end EphVerif.C31L
