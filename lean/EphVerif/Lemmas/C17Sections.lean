import EphVerif.Lemmas.C17Wire

/-! Helper lemmas for C17: each section reader inverts the matching section writer. -/
namespace EphVerif.Manifest
open EphVerif.Gen.C17

theorem encShards_length (ss : List KeyShard) (h : ∀ s ∈ ss, s.value.length = 32) :
    (ss.flatMap encShard).length = ss.length * 33 := by
  induction ss with
  | nil => rfl
  | cons s ss ih =>
    obtain ⟨hs, h⟩ := List.forall_mem_cons.mp h
    simp [encShard, hs, ih h]; omega

theorem readShards_append (ss : List KeyShard) (h : ∀ s ∈ ss, s.value.length = 32) (r : Bytes) :
    readShards ss.length (ss.flatMap encShard ++ r) = .ok (ss, r) := by
  induction ss with
  | nil => rfl
  | cons s ss ih =>
    obtain ⟨hs, h⟩ := List.forall_mem_cons.mp h
    simp only [List.length_cons, List.flatMap_cons, encShard, List.cons_append, List.append_assoc, readShards,
      rawByte_cons, Res.bind_ok, rawTake_append (n := shardValueSize) s.value _ hs, ih h]

theorem readShardSection_append (ss : List KeyShard) (h : ∀ s ∈ ss, s.value.length = 32) (r : Bytes) :
    readShardSection ss.length (ss.flatMap encShard ++ r) = .ok (ss, r) := by
  -- the guard only has to let complete shard lists through: any stride up to the real 33 does
  have hstride : shardStride ≤ 33 := by decide
  have := Nat.mul_le_mul_left ss.length hstride
  rw [readShardSection, if_neg (by rw [List.length_append, encShards_length ss h]; omega)]
  exact readShards_append ss h r

theorem bytesLt_asymm : ∀ (a b : Bytes), bytesLt a b = true → bytesLt b a = false
  | [], [], h => by simp [bytesLt] at h
  | [], _ :: _, _ => by simp [bytesLt]
  | _ :: _, [], h => by simp [bytesLt] at h
  | x :: xs, y :: ys, h => by
    simp only [bytesLt, Bool.or_eq_true, Bool.and_eq_true, decide_eq_true_eq, beq_iff_eq] at h
    simp only [bytesLt, Bool.or_eq_false_iff, Bool.and_eq_false_iff, decide_eq_false_iff_not, beq_eq_false_iff_ne]
    rcases h with h | ⟨rfl, h⟩
    · exact ⟨UInt8.lt_asymm h, Or.inl (UInt8.ne_of_lt h).symm⟩
    · exact ⟨UInt8.lt_irrefl x, Or.inr (bytesLt_asymm xs ys h)⟩

theorem mapInsert_last (k v : Bytes) (acc : List (Bytes × Bytes)) (h : ∀ e ∈ acc, bytesLt e.1 k = true) :
    mapInsert k v acc = acc ++ [(k, v)] := by
  induction acc with
  | nil => rfl
  | cons e acc ih =>
    obtain ⟨he, h⟩ := List.forall_mem_cons.mp h
    simp [mapInsert, bytesLt_asymm _ _ he, he, ih h]

theorem foldl_mapInsert_sorted (ms acc : List (Bytes × Bytes))
    (h : (acc ++ ms).Pairwise (fun a b => bytesLt a.1 b.1 = true)) :
    ms.foldl (fun a e => mapInsert e.1 e.2 a) acc = acc ++ ms := by
  induction ms generalizing acc with
  | nil => simp
  | cons e ms ih =>
    have hl : ∀ x ∈ acc, bytesLt x.1 e.1 = true := by
      intro x hx
      rw [List.pairwise_append] at h
      exact h.2.2 x hx e (by simp)
    simp only [List.foldl_cons, mapInsert_last _ _ acc hl]
    rw [ih (acc ++ [e]) (by simpa using h)]
    simp

theorem readMetaEntries_append (ms : List (Bytes × Bytes))
    (hl : ∀ e ∈ ms, e.1.length ≤ 255 ∧ e.2.length ≤ 65535) (acc : List (Bytes × Bytes)) (r : Bytes) :
    readMetaEntries ms.length acc (ms.flatMap encMeta ++ r) =
      .ok (ms.foldl (fun a e => mapInsert e.1 e.2 a) acc, r) := by
  induction ms generalizing acc with
  | nil => rfl
  | cons e ms ih =>
    obtain ⟨he, hl⟩ := List.forall_mem_cons.mp hl
    simp only [List.length_cons, List.flatMap_cons, encMeta, List.cons_append, List.append_assoc, readMetaEntries,
      str8_append _ _ he.1, str16_append _ _ he.2, Res.bind_ok, List.foldl_cons, ih hl]

theorem readMetaSection_append (ms : List (Bytes × Bytes)) (hn : ms.length ≤ 255)
    (hl : ∀ e ∈ ms, e.1.length ≤ 255 ∧ e.2.length ≤ 65535)
    (hs : ms.Pairwise (fun a b => bytesLt a.1 b.1 = true)) (r : Bytes) :
    readMetaSection (u8 ms.length :: (ms.flatMap encMeta ++ r)) = .ok (ms, r) := by
  simp only [readMetaSection, needByte_cons, Res.bind_ok, u8_toNat hn, readMetaEntries_append ms hl]
  rw [foldl_mapInsert_sorted ms [] (by simpa using hs)]
  simp

theorem readDiscEntry_append (h : DiscoveryHint)
    (hl : (effScheme h).length ≤ 255 ∧ h.transport.length ≤ 255 ∧ h.endpoint.length ≤ 65535) (r : Bytes) :
    readDiscEntry true (encDisc h ++ r) = .ok ({ h with scheme := reportedScheme h }, r) := by
  simp only [readDiscEntry, encDisc, List.cons_append, List.append_assoc, if_true,
    str8_append _ _ hl.1, str8_append _ _ hl.2.1, str16_append _ _ hl.2.2, Res.bind_ok, List.nil_append,
    needByte_cons]
  congr 2
  cases h with
  | mk scheme transport endpoint priority =>
    simp only [effScheme, reportedScheme]
    split <;> simp_all

theorem readDiscEntries_append (hs : List DiscoveryHint)
    (hl : ∀ h ∈ hs, (effScheme h).length ≤ 255 ∧ h.transport.length ≤ 255 ∧ h.endpoint.length ≤ 65535)
    (r : Bytes) :
    readDiscEntries true hs.length (hs.flatMap encDisc ++ r) =
      .ok (hs.map (fun h => { h with scheme := reportedScheme h }), r) := by
  induction hs with
  | nil => rfl
  | cons h hs ih =>
    obtain ⟨hh, hl⟩ := List.forall_mem_cons.mp hl
    simp only [List.length_cons, List.flatMap_cons, List.append_assoc, readDiscEntries,
      readDiscEntry_append h hh, Res.bind_ok, ih hl, List.map_cons]

theorem readDiscSection_append (hs : List DiscoveryHint) (hn : hs.length ≤ 255)
    (hl : ∀ h ∈ hs, (effScheme h).length ≤ 255 ∧ h.transport.length ≤ 255 ∧ h.endpoint.length ≤ 65535)
    (r : Bytes) :
    readDiscSection true (u8 hs.length :: (hs.flatMap encDisc ++ r)) =
      .ok (hs.map (fun h => { h with scheme := reportedScheme h }), r) := by
  simp only [readDiscSection, needByte_cons, Res.bind_ok, u8_toNat hn, readDiscEntries_append hs hl]

theorem readSecurity_append (s : Security) (ha : s.advisory.length ≤ 65535) (hd : s.digest.length = 32) (r : Bytes) :
    readSecurity (encSecurity s ++ r) =
      .ok ({ s with digest := if s.hasDigest then s.digest else List.replicate 32 0 }, r) := by
  cases s with
  | mk advisory digest hasDigest tokenBits =>
    replace hd : digest.length = 32 := hd
    cases hasDigest
    · simp [readSecurity, encSecurity, needByte_cons, str16_append _ _ ha, zeroDigest, digestArraySize]
    · simp only [readSecurity, encSecurity, List.cons_append, List.append_assoc, needByte_cons, Res.bind_ok,
        str16_append _ _ ha, if_true, rawTake_append (n := digestArraySize) digest r hd]
      simp [kAttestationDigestSize, hd]

theorem readFallbackEntries_append (fs : List FallbackHint) (hl : ∀ f ∈ fs, f.uri.length ≤ 65535) (r : Bytes) :
    readFallbackEntries fs.length (fs.flatMap encFallback ++ r) = .ok (fs, r) := by
  induction fs with
  | nil => rfl
  | cons f fs ih =>
    obtain ⟨hf, hl⟩ := List.forall_mem_cons.mp hl
    simp [readFallbackEntries, encFallback, str16_append _ _ hf, needByte_cons, ih hl]

theorem readFallbackSection_append (fs : List FallbackHint) (hn : fs.length ≤ 255)
    (hl : ∀ f ∈ fs, f.uri.length ≤ 65535) (r : Bytes) :
    readFallbackSection (u8 fs.length :: (fs.flatMap encFallback ++ r)) = .ok (fs, r) := by
  simp only [readFallbackSection, needByte_cons, Res.bind_ok, u8_toNat hn, readFallbackEntries_append fs hl]

theorem readHeader_append (m : Manifest) (hwf : WF m) (cnt : UInt8) (r : Bytes) :
    readHeader (encHeader m ++ (cnt :: r)) =
      .ok (⟨u8 kManifestVersion, m.chunkId, m.chunkHash, m.nonce,
            Int.tdiv m.expiresNs nsPerSecond * nsPerSecond, m.threshold, m.totalShares, cnt⟩, r) := by
  have hlen : ¬ ((encHeader m ++ (cnt :: r)).length < headerMin) := by
    simp [encHeader, appendU64_length, hwf.chunkId, hwf.chunkHash, hwf.nonce, headerMin, headerMinTerms]; omega
  have hv : (!supportedVersions.contains (u8 kManifestVersion).toNat) = false := by decide
  rw [readHeader, if_neg hlen]
  simp only [encHeader, List.cons_append, List.append_assoc, rawByte_cons, Res.bind_ok, hv, Bool.false_eq_true, if_false,
    rawTake_append (n := chunkIdSize) m.chunkId _ hwf.chunkId, rawTake_append (n := chunkHashSize) m.chunkHash _ hwf.chunkHash,
    rawTake_append (n := nonceSize) m.nonce _ hwf.nonce, expiryField, readExpiry_append hwf.expiry, List.nil_append]

theorem encodeChecks_iff (m : Manifest) : encodeChecks m = true ↔ Encodable m := by
  simp only [encodeChecks, Encodable, refuseShardCount, refuseMetadataCount, refuseMetadataKey, refuseMetadataValue,
    refuseDiscoveryCount, refuseDiscoveryScheme, refuseDiscoveryTransport, refuseDiscoveryEndpoint,
    refuseFallbackCount, refuseFallbackUri, refuseAdvisory, effScheme, reportedScheme,
    Bool.and_eq_true, Bool.not_eq_true', decide_eq_false_iff_not, List.all_eq_true, Nat.not_lt, gt_iff_lt, and_assoc]

end EphVerif.Manifest
