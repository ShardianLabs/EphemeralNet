import EphVerif.Model.Stun
import EphVerif.Spec.Stun

/-! Helper lemmas for C33: checked reads as list slices, XOR forms, the address block of the model vs the
specification's decoding of one value, one loop step of the model vs one attribute of the specification. -/
namespace EphVerif.C33L
open EphVerif EphVerif.Stun EphVerif.Gen.C33

def ofSpec : Option StunSpec.Addr → Stun.Out
  | none => Out.none
  | some a => Out.addr a.family a.bytes a.port

def toOut (a : StunSpec.Addr) : Out := Out.addr a.family a.bytes a.port

theorem ofSpec_map (o : Option StunSpec.Addr) : ofSpec o = match o.map toOut with | some x => x | none => Out.none := by
  cases o <;> rfl

theorem ofSpec_eq_addr (o : Option StunSpec.Addr) (f : Nat) (b : List UInt8) (p : Nat) :
    ofSpec o = Out.addr f b p ↔ o = some ⟨f, b, p⟩ := by
  cases o with
  | none => simp [ofSpec]
  | some a => cases a; simp [ofSpec]

theorem drop_cons (d : List UInt8) (o : Nat) (h : o < d.length) :
    ∃ x, rd d o = some x ∧ d.drop o = x :: d.drop (o + 1) :=
  ⟨d[o], List.getElem?_eq_getElem h, List.drop_eq_getElem_cons h⟩

theorem slice4 (d : List UInt8) (o r : Nat) (h : o + 4 ≤ d.length) (hr : 4 ≤ r) :
    ∃ b0 b1 b2 b3, rd d o = some b0 ∧ rd d (o + 1) = some b1 ∧ rd d (o + 2) = some b2 ∧ rd d (o + 3) = some b3 ∧
      (d.drop o).take r = b0 :: b1 :: b2 :: b3 :: (d.drop (o + 4)).take (r - 4) := by
  obtain ⟨b0, e0, s0⟩ := drop_cons d o (by omega)
  obtain ⟨b1, e1, s1⟩ := drop_cons d (o + 1) (by omega)
  obtain ⟨b2, e2, s2⟩ := drop_cons d (o + 2) (by omega)
  obtain ⟨b3, e3, s3⟩ := drop_cons d (o + 3) (by omega)
  obtain ⟨n, rfl⟩ : ∃ n, r = n + 4 := ⟨r - 4, by omega⟩
  exact ⟨b0, b1, b2, b3, e0, e1, e2, e3, by rw [s0, s1, s2, s3]; rfl⟩

theorem rdN_eq (d : List UInt8) (o n : Nat) (h : o + n ≤ d.length) : rdN d o n = some ((d.drop o).take n) :=
  if_pos h

theorem xorBytes_eq_zipWith : ∀ (a k : List UInt8), a.length ≤ k.length →
    StunSpec.xorBytes a k = List.zipWith (· ^^^ ·) a k
  | [], k, _ => by cases k <;> rfl
  | _ :: _, [], h => by simp at h
  | a :: as, k :: ks, h => by
    rw [StunSpec.xorBytes, List.zipWith_cons_cons, xorBytes_eq_zipWith as ks (Nat.le_of_succ_le_succ h)]

theorem xorBytes_append : ∀ (a b k1 k2 : List UInt8), a.length = k1.length →
    StunSpec.xorBytes (a ++ b) (k1 ++ k2) = StunSpec.xorBytes a k1 ++ StunSpec.xorBytes b k2
  | [], b, [], k2, _ => rfl
  | a :: as, b, k :: ks, k2, h => by
    rw [List.cons_append, List.cons_append, StunSpec.xorBytes, StunSpec.xorBytes,
      xorBytes_append as b ks k2 (Nat.succ.inj h), List.cons_append]
  | [], _, _ :: _, _, h | _ :: _, _, [], _, h => by cases h

theorem xorTx_eq : ∀ (bs tx : List UInt8) (i : Nat), i + bs.length ≤ tx.length →
    xorTx bs tx i = some (StunSpec.xorBytes bs (tx.drop i))
  | [], tx, i, _ => by cases tx.drop i <;> rfl
  | b :: bs, tx, i, h => by
    have hi : i < tx.length := by rw [List.length_cons] at h; omega
    rw [xorTx, List.getElem?_eq_getElem hi, xorTx_eq bs tx (i+1) (by rw [List.length_cons] at h; omega),
      List.drop_eq_getElem_cons hi]
    rfl

theorem cookie_bytes : [cookieByte 0, cookieByte 1, cookieByte 2, cookieByte 3] = StunSpec.cookieBytes := by decide

theorem xorCookie4_eq (a : List UInt8) (h : a.length ≤ 4) : xorCookie4 a = StunSpec.xorBytes a StunSpec.cookieBytes := by
  rw [xorBytes_eq_zipWith a _ (show a.length ≤ StunSpec.cookieBytes.length from h), xorCookie4, cookie_bytes]

theorem xorV6_eq (a tx : List UInt8) (ha : a.length = 16) (htx : tx.length = 12) :
    xorV6 a tx = some (StunSpec.xorBytes a (StunSpec.cookieBytes ++ tx)) := by
  have h12 : (a.drop 4).take 12 = a.drop 4 := List.take_of_length_le (by rw [List.length_drop]; omega)
  have h4 : (a.take 4).length = StunSpec.cookieBytes.length := by rw [List.length_take, ha]; rfl
  rw [xorV6, h12, xorTx_eq _ _ _ (by rw [List.length_drop]; omega), Option.map_some,
    List.drop_of_length_le (Nat.le_of_eq ha), List.append_nil, xorCookie4_eq _ (List.length_take_le 4 a), List.drop_zero,
    ← xorBytes_append _ _ _ _ h4, List.take_append_drop]

theorem port_const : (kStunMagicCookie >>> kPortXorShift) % 65536 = StunSpec.cookieHi16 := by decide

theorem decodeAddr_short (x : Bool) (tx v : List UInt8) (h : v.length < 4) : StunSpec.decodeAddr x tx v = none := by
  unfold StunSpec.decodeAddr
  split
  · simp only [List.length_cons] at h; omega
  · rfl

section decode
variable {x : Bool} {tx : List UInt8} {r f p0 p1 : UInt8} {a : List UInt8}

theorem decodeAddr_v4 (hf : f.toNat = 1) (h : 4 ≤ a.length) :
    StunSpec.decodeAddr x tx (r :: f :: p0 :: p1 :: a) =
      some ⟨1, if x then StunSpec.xorBytes (a.take 4) StunSpec.cookieBytes else a.take 4,
        if x then Nat.xor (StunSpec.be16 p0 p1) StunSpec.cookieHi16 else StunSpec.be16 p0 p1⟩ := by
  rw [StunSpec.decodeAddr, if_pos hf, if_pos h]

theorem decodeAddr_v6 (hf : f.toNat = 2) (h : 16 ≤ a.length) :
    StunSpec.decodeAddr x tx (r :: f :: p0 :: p1 :: a) =
      some ⟨2, if x then StunSpec.xorBytes (a.take 16) (StunSpec.cookieBytes ++ tx) else a.take 16,
        if x then Nat.xor (StunSpec.be16 p0 p1) StunSpec.cookieHi16 else StunSpec.be16 p0 p1⟩ := by
  rw [StunSpec.decodeAddr, if_neg (by omega), if_pos hf, if_pos h]

theorem decodeAddr_skip (h1 : ¬(f.toNat = 1 ∧ 4 ≤ a.length)) (h2 : ¬(f.toNat = 2 ∧ 16 ≤ a.length)) :
    StunSpec.decodeAddr x tx (r :: f :: p0 :: p1 :: a) = none := by
  rw [StunSpec.decodeAddr]
  by_cases f1 : f.toNat = 1
  · rw [if_pos f1, if_neg fun h => h1 ⟨f1, h⟩]
  · rw [if_neg f1]
    by_cases f2 : f.toNat = 2
    · rw [if_pos f2, if_neg fun h => h2 ⟨f2, h⟩]
    · rw [if_neg f2]
end decode

theorem addrOfAttr_eq (tx : List UInt8) (ty : Nat) (v : List UInt8) (h : ty = 1 ∨ ty = 32) :
    StunSpec.addrOfAttr tx ⟨ty, v⟩ = StunSpec.decodeAddr (ty == 32) tx v := by
  rcases h with rfl | rfl <;> rfl

theorem addrBlock_eq (d tx : List UInt8) (v ty len : Nat) (h : v + len ≤ d.length) (htx : tx.length = 12) :
    addrBlock d tx v ty len = (StunSpec.addrOfAttr tx ⟨ty, (d.drop v).take len⟩).map toOut := by
  unfold addrBlock
  -- `delta`, not `simp only`: the `Decidable` instances of the guards mention the constants as well
  delta kAttrMapped kAttrXorMapped kAttrXorMapped2 kAddrMinLen kFamilyV4 kFamilyV6 kV4MinLen kV6MinLen
  by_cases hty : ty = 1 ∨ ty = 32
  · rw [addrOfAttr_eq _ _ _ hty]
    by_cases h4 : 4 ≤ len
    · obtain ⟨r, f, p0, p1, _, e1, e2, e3, hs⟩ := slice4 d v len (by omega) h4
      rw [if_pos (by simpa [h4] using hty), hs, e1, e2, e3]
      simp only [port_const]
      have hl : ((d.drop (v + 4)).take (len - 4)).length = len - 4 := by
        rw [List.length_take, List.length_drop]; omega
      generalize (ty == 32) = x
      by_cases c1 : f.toNat = 1 ∧ 8 ≤ len
      · rw [if_pos c1, rdN_eq d (v + 4) 4 (by omega), decodeAddr_v4 c1.1 (by omega),
          List.take_take, Nat.min_eq_left (by omega)]
        cases x
        · rfl
        · simp only [if_true, xorCookie4_eq _ (List.length_take_le 4 _)]; rfl
      · rw [if_neg c1]
        by_cases c2 : f.toNat = 2 ∧ 20 ≤ len
        · rw [if_pos c2, rdN_eq d (v + 4) 16 (by omega), decodeAddr_v6 c2.1 (by omega),
            List.take_take, Nat.min_eq_left (by omega)]
          cases x
          · rfl
          · simp only [if_true, xorV6_eq ((d.drop (v + 4)).take 16) tx (by rw [List.length_take, List.length_drop]; omega) htx]
            rfl
        · rw [if_neg c2, decodeAddr_skip (by omega) (by omega)]; rfl
    · rw [if_neg (by simp [h4]), decodeAddr_short _ _ _ (by rw [List.length_take]; omega)]; rfl
  · rw [if_neg (by simp [not_or.mp hty]), StunSpec.addrOfAttr, if_neg (fun c => hty (Or.inl c)), if_neg (fun c => hty (Or.inr c))]
    rfl

theorem attrsF_short (fuel : Nat) (b : List UInt8) (h : b.length < 4) : StunSpec.attrsF fuel b = [] := by
  unfold StunSpec.attrsF
  split
  · simp only [List.length_cons] at h; omega
  · rfl

theorem attrs_short (b : List UInt8) (h : b.length < 4) : StunSpec.attrs b = [] := attrsF_short _ _ h

theorem attrsF_succ : ∀ (fuel : Nat) (b : List UInt8), b.length ≤ fuel →
    StunSpec.attrsF (fuel + 1) b = StunSpec.attrsF fuel b
  | _, [], _ | _, [_], _ | _, [_, _], _ | _, [_, _, _], _ => by
    rw [attrsF_short _ _ (by simp), attrsF_short _ _ (by simp)]
  | 0, _ :: _, h => by simp at h
  | fuel + 1, t0 :: t1 :: l0 :: l1 :: rest, h => by
    rw [StunSpec.attrsF, StunSpec.attrsF, attrsF_succ fuel _ (by simp only [List.length_drop, List.length_cons] at h ⊢; omega)]

theorem attrsF_of_le (fuel : Nat) (b : List UInt8) (h : b.length ≤ fuel) : StunSpec.attrsF fuel b = StunSpec.attrs b := by
  obtain ⟨k, rfl⟩ := Nat.exists_eq_add_of_le h
  clear h
  induction k with
  | zero => rfl
  | succ k ih => rw [← Nat.add_assoc, attrsF_succ _ _ (Nat.le_add_right _ _), ih]

/-- the fuel-free unfolding equation of the specification's attribute walk -/
theorem attrs_cons (t0 t1 l0 l1 : UInt8) (rest : List UInt8) :
    StunSpec.attrs (t0 :: t1 :: l0 :: l1 :: rest) =
      if StunSpec.be16 l0 l1 ≤ rest.length then
        ⟨StunSpec.be16 t0 t1, rest.take (StunSpec.be16 l0 l1)⟩ :: StunSpec.attrs (rest.drop (StunSpec.pad4 (StunSpec.be16 l0 l1)))
      else [] := by
  rw [StunSpec.attrs, List.length_cons, StunSpec.attrsF, attrsF_of_le _ _ (by simp only [List.length_drop, List.length_cons]; omega)]

theorem loopF_eq (d tx : List UInt8) (htx : tx.length = 12) : ∀ (fuel remaining offset : Nat),
    remaining < 4 * fuel → offset + remaining ≤ d.length →
    loopF d tx fuel offset remaining =
      ofSpec ((StunSpec.attrs ((d.drop offset).take remaining)).findSome? (StunSpec.addrOfAttr tx)) := by
  intro fuel
  induction fuel with
  | zero => intro remaining offset h; omega
  | succ fuel ih =>
    intro remaining offset hfuel hinv
    rw [loopF]
    by_cases h4 : 4 ≤ remaining
    · obtain ⟨t0, t1, l0, l1, e0, e1, e2, e3, hs⟩ := slice4 d offset remaining (by omega) h4
      rw [if_pos ⟨h4, by omega⟩, e0, e1, e2, e3, hs, attrs_cons]
      have hrest : ((d.drop (offset + 4)).take (remaining - 4)).length = remaining - 4 := by
        rw [List.length_take, List.length_drop]; omega
      have hbe : ∀ a b : UInt8, Stun.be16 a b = StunSpec.be16 a b := fun _ _ => rfl
      simp only [hrest, hbe, kAttrHdrInBound]
      generalize StunSpec.be16 l0 l1 = len
      generalize StunSpec.be16 t0 t1 = ty
      by_cases hfit : len ≤ remaining - 4
      · rw [if_neg (by omega), if_pos hfit, List.findSome?_cons, List.take_take, Nat.min_eq_left hfit,
          addrBlock_eq d tx (offset + 4) ty len (by omega) htx]
        cases StunSpec.addrOfAttr tx ⟨ty, (d.drop (offset + 4)).take len⟩ with
        | some a => rfl
        | none =>
          show (if remaining < 4 + padded len then _ else _) = _
          rw [show padded len = StunSpec.pad4 len from rfl]
          by_cases hp : remaining < 4 + StunSpec.pad4 len
          · rw [if_pos hp, List.drop_eq_nil_of_le (by omega)]; rfl
          · rw [if_neg hp, ih _ _ (by omega) (by omega), List.drop_take, List.drop_drop, Nat.sub_sub]
      · rw [if_pos (by omega), if_neg hfit]; rfl
    · rw [if_neg (fun c => h4 c.1), attrs_short _ (by rw [List.length_take]; omega)]; rfl

theorem loop_eq (d tx : List UInt8) (htx : tx.length = 12) (remaining offset : Nat) (h : offset + remaining ≤ d.length) :
    loop d tx offset remaining =
      ofSpec ((StunSpec.attrs ((d.drop offset).take remaining)).findSome? (StunSpec.addrOfAttr tx)) :=
  loopF_eq d tx htx _ _ _ (by omega) h

theorem isOurSuccess_short (d tx : List UInt8) (h : d.length < 20) : StunSpec.isOurSuccess d tx = false := by
  unfold StunSpec.isOurSuccess
  split
  · rw [decide_eq_false (Nat.not_le.mpr h)]; rfl
  · rfl

theorem header (d tx : List UInt8) (h : 20 ≤ d.length) :
    ∃ t0 t1 l0 l1, rd d 0 = some t0 ∧ rd d 1 = some t1 ∧ rd d 2 = some l0 ∧ rd d 3 = some l1 ∧
      StunSpec.declaredLength d = StunSpec.be16 l0 l1 ∧
      StunSpec.isOurSuccess d tx = (decide (StunSpec.be16 t0 t1 = 0x0101) &&
        decide (20 + StunSpec.be16 l0 l1 ≤ d.length) && ((d.drop 8).take 12 == tx)) := by
  match d, h with
  | t0 :: t1 :: l0 :: l1 :: rest, h =>
    exact ⟨t0, t1, l0, l1, rfl, rfl, rfl, rfl, rfl, by rw [StunSpec.isOurSuccess, decide_eq_true h, Bool.true_and]⟩

end EphVerif.C33L
