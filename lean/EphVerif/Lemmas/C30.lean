import EphVerif.Model.CliFetch
/-! Helper lemmas for C30 (the fetch decision). -/
namespace EphVerif.C30L
open EphVerif.CliFetch

variable (sha : Bytes → Bytes)

theorem deliver_wrote {h : Bytes} {t : Bool} {r : Resp} {b : Bytes}
    (hd : deliver sha h t r = .wrote b) : r = .payload b ∧ sha b = h := by
  cases r with
  | payload c =>
    rw [deliver] at hd
    split at hd
    · next hc => cases hd; exact ⟨rfl, hc⟩
    · cases hd
  | okNoPayload => rw [deliver] at hd; split at hd <;> cases hd
  | _ => cases hd

theorem deliver_neutral (h : Bytes) (t : Bool) (r : Resp) :
    deliver sha h t (neutral sha h r) = deliver sha h t r := by
  cases r with
  | payload c =>
    rw [neutral]
    split
    · rfl
    · next hc => rw [deliver, deliver, if_neg hc]
  | _ => rfl

theorem contacted_neutral (h : Bytes) (i : Nat) (r : Resp) :
    contacted i (neutral sha h r) = contacted i r := by
  cases r with
  | payload c => rw [neutral]; split <;> rfl
  | _ => rfl

theorem mem_contacted {i : Nat} {r : Resp} (h : r ≠ .down) : i ∈ contacted i r := by
  cases r with
  | down => exact absurd rfl h
  | _ => exact List.mem_singleton.mpr rfl

def Shape (f : Path → Path) : Prop := ∀ p, (f p).kind = p.kind ∧ (f p).prio = p.prio

theorem insertPrio_map {f : Path → Path} (hf : Shape f) (p : Path) (l : List Path) :
    insertPrio (f p) (l.map f) = (insertPrio p l).map f := by
  induction l with
  | nil => rfl
  | cons q qs ih =>
    rw [List.map_cons, insertPrio, insertPrio, (hf p).2, (hf q).2]
    split
    · rfl
    · rw [ih]; rfl

theorem sortPrio_map {f : Path → Path} (hf : Shape f) (l : List Path) :
    sortPrio (l.map f) = (sortPrio l).map f := by
  induction l with
  | nil => rfl
  | cons p ps ih => rw [List.map_cons, sortPrio, sortPrio, ih, insertPrio_map hf]

theorem filter_kind_map {f : Path → Path} (hf : Shape f) (c : Kind → Bool) (l : List Path) :
    (l.map f).filter (fun p => c p.kind) = (l.filter (fun p => c p.kind)).map f := by
  rw [List.filter_map]
  exact congrArg (List.map f) (List.filter_congr fun p _ => congrArg c (hf p).1)

theorem directOrder_map {f : Path → Path} (hf : Shape f) (mode : Mode) (l : List Path) :
    directOrder mode (l.map f) = (directOrder mode l).map f := by
  have hfilter := filter_kind_map hf
  simp only [directOrder, hfilter isTransportKind, hfilter (· == .control), hfilter (· == .fallback), sortPrio_map hf]
  split <;> split <;> simp only [List.map_append, List.map_nil]

theorem mem_insertPrio (p q : Path) (l : List Path) : q ∈ insertPrio p l ↔ q = p ∨ q ∈ l := by
  induction l with
  | nil => exact List.mem_singleton.trans (or_iff_left List.not_mem_nil).symm
  | cons x xs ih =>
    rw [insertPrio]
    split
    · exact List.mem_cons
    · rw [List.mem_cons, ih, List.mem_cons, or_left_comm]

theorem mem_sortPrio (q : Path) (l : List Path) : q ∈ sortPrio l ↔ q ∈ l := by
  induction l with
  | nil => rfl
  | cons x xs ih => rw [sortPrio, mem_insertPrio, ih, List.mem_cons]

theorem mem_directOrder_auto {q : Path} {l : List Path} (hq : q ∈ l) : q ∈ directOrder .auto l := by
  show q ∈ sortPrio _ ++ (sortPrio _ ++ sortPrio _)
  simp only [List.mem_append, mem_sortPrio, List.mem_filter]
  cases hk : q.kind with
  | transport => exact .inl ⟨hq, rfl⟩
  | relay => exact .inl ⟨hq, rfl⟩
  | control => exact .inr (.inl ⟨hq, rfl⟩)
  | fallback => exact .inr (.inr ⟨hq, rfl⟩)

theorem run_append (h : Bytes) (l r : List Path) :
    run sha h (l ++ r) =
      if (run sha h l).1 = .next then ((run sha h r).1, (run sha h l).2 ++ (run sha h r).2) else run sha h l := by
  induction l with
  | nil => rfl
  | cons p ps ih =>
    rw [List.cons_append, run, run]
    cases deliver sha h (isTransportKind p.kind) p.resp with
    | next =>
      simp only [ih]
      split
      · rw [List.append_assoc]
      · rfl
    | _ => rfl

theorem run_wrote_iff (h : Bytes) (l : List Path) (b : Bytes) :
    (run sha h l).1 = .wrote b ↔
      ∃ pre p post, l = pre ++ p :: post ∧
        (∀ q ∈ pre, deliver sha h (isTransportKind q.kind) q.resp = .next) ∧ p.resp = .payload b ∧ sha b = h := by
  induction l with
  | nil => exact ⟨nofun, fun ⟨pre, _, _, hl, _⟩ => by cases pre <;> cases hl⟩
  | cons p ps ih =>
    rw [run]
    constructor
    · intro hr
      cases hd : deliver sha h (isTransportKind p.kind) p.resp with
      | wrote c =>
        rw [hd] at hr; cases hr
        exact ⟨[], p, ps, rfl, nofun, deliver_wrote sha hd⟩
      | remote => rw [hd] at hr; cases hr
      | next =>
        rw [hd] at hr
        obtain ⟨pre, q, post, rfl, hpre, hq⟩ := ih.mp hr
        exact ⟨p :: pre, q, post, rfl, List.forall_mem_cons.mpr ⟨hd, hpre⟩, hq⟩
    · rintro ⟨pre, q, post, hl, hpre, hq, hs⟩
      cases pre with
      | nil => cases hl; rw [hq, deliver, if_pos hs]
      | cons x xs =>
        cases hl
        obtain ⟨hx, hxs⟩ := List.forall_mem_cons.mp hpre
        rw [hx]
        exact ih.mpr ⟨xs, q, post, rfl, hxs, hq, hs⟩

theorem run_wrote {h : Bytes} {l : List Path} {b : Bytes} (hr : (run sha h l).1 = .wrote b) : sha b = h :=
  let ⟨_, _, _, _, _, _, hs⟩ := (run_wrote_iff sha h l b).mp hr
  hs

theorem run_next_tried {h : Bytes} {l : List Path} (hr : (run sha h l).1 = .next) :
    ∀ p ∈ l, p.resp ≠ .down → p.idx ∈ (run sha h l).2 := by
  induction l with
  | nil => nofun
  | cons q qs ih =>
    rw [run] at hr ⊢
    cases hd : deliver sha h (isTransportKind q.kind) q.resp with
    | next =>
      rw [hd] at hr
      exact List.forall_mem_cons.mpr ⟨fun hup => List.mem_append_left _ (mem_contacted hup),
        fun p hp hup => List.mem_append_right _ (ih hr p hp hup)⟩
    | _ => rw [hd] at hr; cases hr

def localPath (li : Nat) (loc : Resp) : Path := ⟨li, .control, 0, loc⟩

def walk (mode : Mode) (paths : List Path) (li : Nat) (loc : Resp) : List Path :=
  directOrder mode paths ++ if mode.directOnly then [] else [localPath li loc]

def report : Step × List Nat → Result
  | (.wrote b, l) => ⟨some b, 0, l⟩
  | (.remote, l) => ⟨none, 0, l⟩
  | (.next, l) => ⟨none, 1, l⟩

theorem run_single (h : Bytes) (p : Path) :
    run sha h [p] = (deliver sha h (isTransportKind p.kind) p.resp, contacted p.idx p.resp) := by
  rw [run]
  cases deliver sha h (isTransportKind p.kind) p.resp with
  | next => exact congrArg (Prod.mk Step.next) (List.append_nil _)
  | _ => rfl

theorem fetch_eq_walk (mode : Mode) (h : Bytes) (paths : List Path) (li : Nat) (loc : Resp) :
    fetch sha mode h paths li loc = report (run sha h (walk mode paths li loc)) := by
  rw [fetch, walk]
  cases mode.directOnly with
  | true =>
    rw [if_pos rfl, List.append_nil]
    rcases run sha h (directOrder mode paths) with ⟨_ | _ | _, l⟩ <;> rfl
  | false =>
    rw [if_neg Bool.false_ne_true, run_append,
      show run sha h [localPath li loc] = (deliver sha h false loc, contacted li loc) from run_single sha h _]
    rcases run sha h (directOrder mode paths) with ⟨_ | _ | _, l⟩
    · rfl
    · rfl
    · cases deliver sha h false loc <;> rfl

theorem report_wrote {r : Step × List Nat} {b : Bytes} (h : r.1 = .wrote b) : report r = ⟨some b, 0, r.2⟩ := by
  obtain ⟨s, l⟩ := r
  cases h
  rfl

theorem report_file {r : Step × List Nat} {b : Bytes} (h : (report r).file = some b) : r.1 = .wrote b := by
  rcases r with ⟨_ | _ | _, l⟩ <;> cases h
  rfl

theorem report_exit {r : Step × List Nat} (h : (report r).exit = 1) : r.1 = .next := by
  rcases r with ⟨_ | _ | _, l⟩
  · cases h
  · cases h
  · rfl

theorem report_tried (r : Step × List Nat) : (report r).tried = r.2 := by
  rcases r with ⟨_ | _ | _, l⟩ <;> rfl

theorem fetch_wrote_iff {mode : Mode} {h : Bytes} {paths : List Path} {li : Nat} {loc : Resp} {b : Bytes} :
    (fetch sha mode h paths li loc).file = some b ↔ (run sha h (walk mode paths li loc)).1 = .wrote b := by
  rw [fetch_eq_walk]
  exact ⟨report_file, fun hr => by rw [report_wrote hr]⟩

theorem fetch_fail_tried (mode : Mode) (h : Bytes) (paths : List Path) (li : Nat) (loc : Resp)
    (hfail : (fetch sha mode h paths li loc).exit = 1) :
    ∀ p ∈ walk mode paths li loc, p.resp ≠ .down → p.idx ∈ (fetch sha mode h paths li loc).tried := by
  rw [fetch_eq_walk] at hfail ⊢
  rw [report_tried]
  exact run_next_tried sha (report_exit hfail)

theorem fetchUndecodable_file (mode : Mode) (li : Nat) (loc : Resp) : (fetchUndecodable mode li loc).file = none := by
  unfold fetchUndecodable
  split
  · rfl
  · cases loc <;> rfl

def neutralPath (h : Bytes) (p : Path) : Path := { p with resp := neutral sha h p.resp }

theorem neutralPath_shape (h : Bytes) : Shape (neutralPath sha h) := fun _ => ⟨rfl, rfl⟩

theorem run_neutral (h : Bytes) (l : List Path) :
    run sha h (l.map (neutralPath sha h)) = run sha h l := by
  induction l with
  | nil => rfl
  | cons p ps ih => simp only [List.map_cons, run, neutralPath, deliver_neutral, contacted_neutral, ih]

theorem effResp_neutral (m : MState) (h : Bytes) (k : Kind) (r : Resp) :
    effResp m k (neutral sha h r) = neutral sha h (effResp m k r) := by
  unfold effResp
  split
  · split
    · cases r with
      | payload c =>
        by_cases hc : sha c = h <;> cases m.keyOk <;> simp [neutral, hc]
      | _ => rfl
    · rfl
  · rfl

theorem view_neutral (m : MState) (h : Bytes) (p : Path) :
    view m (neutralPath sha h p) = neutralPath sha h (view m p) :=
  congrArg (Path.mk p.idx p.kind p.prio) (effResp_neutral sha m h p.kind p.resp)

end EphVerif.C30L
