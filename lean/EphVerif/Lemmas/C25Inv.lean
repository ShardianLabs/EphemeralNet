/-
Helper lemmas for C25/C26: the pairing invariant `Inv` of the relay model.  `Inv` looks at a state only
through `partnerOf`, `stateOf`, `hexOf`, `reg` and `hung`; `Inv.local` is the one preservation argument
all handlers share: a transition that rewrites a set of sessions closed under pairing only has to
re-establish the invariant for those sessions.
-/
import EphVerif.Lemmas.C25Map

namespace EphVerif.Relay

def State.partnerOf (σ : State) (a : Client) : Option Client := (σ.get a).bind (·.partner)
def State.stateOf (σ : State) (a : Client) : Option SState := (σ.get a).map (·.state)
def State.hexOf (σ : State) (a : Client) : Option Bytes := (σ.get a).map (·.peerHex)

section projections
variable {σ σ' : State} {a : Client} {s : Session}

theorem partnerOf_of_get (h : σ.get a = some s) : σ.partnerOf a = s.partner := by simp [State.partnerOf, h]
theorem stateOf_of_get (h : σ.get a = some s) : σ.stateOf a = some s.state := by simp [State.stateOf, h]
theorem hexOf_of_get (h : σ.get a = some s) : σ.hexOf a = some s.peerHex := by simp [State.hexOf, h]

theorem proj_of_dead (h : σ.get a = none) : σ.partnerOf a = none ∧ σ.stateOf a = none := by
  simp [State.partnerOf, State.stateOf, h]

/-- `σ` and `σ'` show the invariant the same of client `a` -/
structure State.SameAt (σ σ' : State) (a : Client) : Prop where
  partner : σ'.partnerOf a = σ.partnerOf a
  state : σ'.stateOf a = σ.stateOf a
  hex : σ'.hexOf a = σ.hexOf a

theorem proj_congr (h : σ'.get a = σ.get a) : σ.SameAt σ' a := by
  constructor <;> simp [State.partnerOf, State.stateOf, State.hexOf, h]

/-- rewriting a session without touching its pairing fields -/
theorem sameAt_put {c : Client} (hc : σ.get c = some s) (s' : Session) (hp : s'.partner = s.partner)
    (hs : s'.state = s.state) (hx : s'.peerHex = s.peerHex) (a : Client) : σ.SameAt (σ.put c s') a := by
  by_cases e : a = c
  · subst e
    have g : (σ.put a s').get a = some s' := by rw [get_put, if_pos rfl]
    exact ⟨by rw [partnerOf_of_get g, partnerOf_of_get hc, hp], by rw [stateOf_of_get g, stateOf_of_get hc, hs],
      by rw [hexOf_of_get g, hexOf_of_get hc, hx]⟩
  · exact proj_congr (by rw [get_put, if_neg e])

end projections

/-- the states of two sessions that point at each other: connector and claimed target, or a bridge -/
def Pair (x y : SState) : Prop :=
  (x = .awaitingIdentity ∧ y = .registered) ∨ (x = .registered ∧ y = .awaitingIdentity) ∨ (x = .bridged ∧ y = .bridged)

def State.PairAt (σ : State) (a b : Client) : Prop :=
  ∃ x y, σ.stateOf a = some x ∧ σ.stateOf b = some y ∧ Pair x y

abbrev State.RegAt (σ : State) (k : Bytes) (d : Client) : Prop :=
  σ.stateOf d = some .registered ∧ σ.partnerOf d = none ∧ σ.hexOf d = some k ∧ k ≠ []

structure Inv (σ : State) : Prop where
  paired : ∀ a b, σ.partnerOf a = some b → b ≠ a ∧ σ.partnerOf b = some a ∧ σ.PairAt a b
  lone : ∀ a, σ.partnerOf a = none → σ.stateOf a ≠ some .awaitingIdentity ∧ σ.stateOf a ≠ some .bridged
  regOK : ∀ k c, σ.reg k = some c → σ.RegAt k c
  notHung : σ.hung = false

theorem inv_init : Inv init := by
  constructor <;> first | rfl | simp [State.partnerOf, State.stateOf]

theorem Inv.partner {σ : State} (hI : Inv σ) {c p : Client} {s : Session} (hc : σ.get c = some s)
    (hp : s.partner = some p) :
    p ≠ c ∧ ∃ ps, σ.get p = some ps ∧ ps.partner = some c ∧ Pair s.state ps.state := by
  obtain ⟨hne, hb, x, y, hx, hy, hst⟩ := hI.paired c p (by rw [partnerOf_of_get hc, hp])
  cases hps : σ.get p with
  | none => rw [(proj_of_dead hps).1] at hb; cases hb
  | some ps =>
    rw [stateOf_of_get hc] at hx; rw [stateOf_of_get hps] at hy
    cases hx; cases hy
    exact ⟨hne, ps, rfl, by rw [← hb, partnerOf_of_get hps], hst⟩

theorem Pair.of_bridged {y : SState} (h : Pair .bridged y) : y = .bridged := by
  rcases h with ⟨h, -⟩ | ⟨h, -⟩ | ⟨-, h⟩
  · cases h
  · cases h
  · exact h

theorem Inv.partner_of {σ : State} (hI : Inv σ) {c : Client} {s : Session} (hc : σ.get c = some s)
    (hst : s.state = .awaitingIdentity ∨ s.state = .bridged) :
    ∃ p ps, s.partner = some p ∧ p ≠ c ∧ σ.get p = some ps ∧ ps.partner = some c ∧ Pair s.state ps.state := by
  cases hp : s.partner with
  | none =>
    have := hI.lone c (by rw [partnerOf_of_get hc, hp])
    rw [stateOf_of_get hc] at this
    rcases hst with h | h <;> simp [h] at this
  | some p =>
    obtain ⟨hne, ps, hps, hpp, hst⟩ := hI.partner hc hp
    exact ⟨p, ps, rfl, hne, hps, hpp, hst⟩

theorem Inv.closed_pair {σ : State} (hI : Inv σ) {c p : Client} (h : σ.partnerOf c = some p) :
    ∀ a b, a = c ∨ a = p → σ.partnerOf a = some b → b = c ∨ b = p := by
  rintro a b (rfl | rfl) hb
  · rw [h] at hb; cases hb; exact .inr rfl
  · rw [(hI.paired _ _ h).2.1] at hb; cases hb; exact .inl rfl

theorem Inv.reg_alive {σ : State} (hI : Inv σ) {k : Bytes} {d : Client} (hr : σ.reg k = some d) : (σ.get d).isSome := by
  have := (hI.regOK k d hr).1
  cases hg : σ.get d with
  | none => rw [(proj_of_dead hg).2] at this; cases this
  | some s => rfl

theorem Inv.reg_ne {σ : State} (hI : Inv σ) {k : Bytes} {d a b : Client} (hr : σ.reg k = some d)
    (ha : σ.partnerOf a = some b) : d ≠ a := by
  rintro rfl
  rw [(hI.regOK k d hr).2.1] at ha; cases ha

theorem Inv.unpaired {σ : State} (hI : Inv σ) {c : Client} {s : Session} (hc : σ.get c = some s)
    (h1 : s.state ≠ .awaitingIdentity) (h2 : s.state ≠ .registered) (h3 : s.state ≠ .bridged) : s.partner = none := by
  cases hp : s.partner with
  | none => rfl
  | some p =>
    obtain ⟨_, _, _, _, h⟩ := hI.partner hc hp
    rcases h with ⟨h, _⟩ | ⟨h, _⟩ | ⟨h, _⟩
    · exact absurd h h1
    · exact absurd h h2
    · exact absurd h h3

structure Touches (T : Client → Prop) (σ σ' : State) : Prop where
  closed : ∀ a b, T a → σ.partnerOf a = some b → T b
  same : ∀ a, ¬ T a → σ.SameAt σ' a
  regs : ∀ k d, σ'.reg k = some d → (σ.reg k = some d ∧ ¬ T d) ∨ σ'.RegAt k d
  hung : σ'.hung = σ.hung

/-- A transition that touches only `T` keeps the invariant if the rewritten sessions satisfy it: every untouched
    session has an untouched partner. -/
theorem Inv.local {σ σ' : State} (hI : Inv σ) (T : Client → Prop) (hT : Touches T σ σ')
    (paired : ∀ a b, T a → σ'.partnerOf a = some b → b ≠ a ∧ σ'.partnerOf b = some a ∧ σ'.PairAt a b)
    (lone : ∀ a, T a → σ'.partnerOf a = none → σ'.stateOf a ≠ some .awaitingIdentity ∧ σ'.stateOf a ≠ some .bridged) :
    Inv σ' := by
  refine ⟨fun a b h => ?_, fun a h => ?_, fun k d h => ?_, hT.hung.trans hI.notHung⟩
  · by_cases ha : T a
    · exact paired a b ha h
    · rw [(hT.same a ha).partner] at h
      obtain ⟨hne, hb, hst⟩ := hI.paired a b h
      have hb' : ¬ T b := fun hb' => ha (hT.closed b a hb' hb)
      rw [(hT.same b hb').partner, State.PairAt, (hT.same a ha).state, (hT.same b hb').state]
      exact ⟨hne, hb, hst⟩
  · by_cases ha : T a
    · exact lone a ha h
    · rw [(hT.same a ha).partner] at h
      rw [(hT.same a ha).state]
      exact hI.lone a h
  · rcases hT.regs k d h with ⟨h0, hd⟩ | h'
    · obtain ⟨e1, e2, e3⟩ := hT.same d hd
      rw [State.RegAt, e1, e2, e3]
      exact hI.regOK k d h0
    · exact h'

theorem Inv.unpair {σ σ' : State} (hI : Inv σ) (T : Client → Prop) (hT : Touches T σ σ')
    (free : ∀ a, T a → σ'.partnerOf a = none ∧ σ'.stateOf a ≠ some .awaitingIdentity ∧ σ'.stateOf a ≠ some .bridged) :
    Inv σ' :=
  hI.local T hT (fun a b ha h => by rw [(free a ha).1] at h; cases h) (fun a ha _ => (free a ha).2)

theorem State.PairAt.symm {σ : State} {a b : Client} : σ.PairAt a b → σ.PairAt b a
  | ⟨x, y, hx, hy, h⟩ => ⟨y, x, hy, hx, h.elim (fun h => .inr (.inl h.symm)) fun h => h.elim (fun h => .inl h.symm) fun h => .inr (.inr h.symm)⟩

theorem Inv.pair {σ σ' : State} (hI : Inv σ) {c t : Client} (hne : c ≠ t) (hT : Touches (fun a => a = c ∨ a = t) σ σ')
    (pc : σ'.partnerOf c = some t) (pt : σ'.partnerOf t = some c) (hst : σ'.PairAt c t) : Inv σ' := by
  refine hI.local _ hT ?_ ?_
  · rintro a b (rfl | rfl) h
    · rw [pc] at h; cases h; exact ⟨hne.symm, pt, hst⟩
    · rw [pt] at h; cases h; exact ⟨hne, pc, hst.symm⟩
  · rintro a (rfl | rfl) h
    · rw [pc] at h; cases h
    · rw [pt] at h; cases h

theorem Inv.congr {σ σ' : State} (h : Inv σ)
    (hp : ∀ a, σ.SameAt σ' a)
    (hr : ∀ k d, σ'.reg k = some d → σ.reg k = some d) (hh : σ'.hung = σ.hung) : Inv σ' :=
  h.local (fun _ => False) ⟨fun _ _ h => h.elim, fun a _ => hp a, fun k d h => .inl ⟨hr k d h, id⟩, hh⟩
    (fun _ _ h => h.elim) (fun _ h => h.elim)

theorem Inv.put {σ : State} (h : Inv σ) {c : Client} {s : Session} (hc : σ.get c = some s) (s' : Session)
    (hp : s'.partner = s.partner) (hs : s'.state = s.state) (hx : s'.peerHex = s.peerHex) : Inv (σ.put c s') :=
  h.congr (sameAt_put hc s' hp hs hx) (fun _ _ h => h) rfl

theorem queue_of_get {σ : State} {c : Client} {s : Session} (h : σ.get c = some s) (it : Item) :
    queue σ c it = (σ.put c { s with writeBuf := s.writeBuf ++ it.bytes }).emit (.queued c it) := by
  simp only [queue, h]

theorem queue_of_dead {σ : State} {c : Client} (h : σ.get c = none) (it : Item) : queue σ c it = σ := by
  simp only [queue, h]

theorem get_queue (σ : State) (c c' : Client) (it : Item) :
    (queue σ c it).get c' =
      if c' = c then (σ.get c).map (fun s => { s with writeBuf := s.writeBuf ++ it.bytes }) else σ.get c' := by
  cases h : σ.get c with
  | none => rw [queue_of_dead h]; split <;> simp [*]
  | some s => rw [queue_of_get h]; simp

theorem proj_queue (σ : State) (c a : Client) (it : Item) : σ.SameAt (queue σ c it) a := by
  cases h : σ.get c with
  | none => rw [queue_of_dead h]; exact ⟨rfl, rfl, rfl⟩
  | some s =>
    rw [queue_of_get h]
    have h' := sameAt_put h { s with writeBuf := s.writeBuf ++ it.bytes } rfl rfl rfl a
    exact ⟨h'.partner, h'.state, h'.hex⟩

@[simp] theorem partnerOf_queue (σ : State) (c a : Client) (it : Item) : (queue σ c it).partnerOf a = σ.partnerOf a :=
  (proj_queue σ c a it).partner
@[simp] theorem stateOf_queue (σ : State) (c a : Client) (it : Item) : (queue σ c it).stateOf a = σ.stateOf a :=
  (proj_queue σ c a it).state
@[simp] theorem reg_queue (σ : State) (c : Client) (it : Item) (k : Bytes) : (queue σ c it).reg k = σ.reg k := by
  unfold queue; split <;> rfl
@[simp] theorem hung_queue (σ : State) (c : Client) (it : Item) : (queue σ c it).hung = σ.hung := by
  unfold queue; split <;> rfl
@[simp] theorem used_queue (σ : State) (c : Client) (it : Item) : (queue σ c it).used = σ.used := by
  unfold queue; split <;> rfl
@[simp] theorem isSome_get_queue (σ : State) (c a : Client) (it : Item) :
    ((queue σ c it).get a).isSome = (σ.get a).isSome := by
  rw [get_queue]; split <;> simp [*]

theorem out_queue (σ : State) (c : Client) (it : Item) :
    (queue σ c it).out = if (σ.get c).isSome then .queued c it :: σ.out else σ.out := by
  unfold queue; split <;> simp [*]

theorem inv_queue {σ : State} (c : Client) (it : Item) (h : Inv σ) : Inv (queue σ c it) :=
  h.congr (proj_queue σ c · it) (by simp) (by simp)

structure SameSessions (σ σ' : State) : Prop where
  sessions : σ'.sessions = σ.sessions
  used : σ'.used = σ.used
  out : σ'.out = σ.out
  hung : σ'.hung = σ.hung

theorem SameSessions.get {σ σ' : State} (h : SameSessions σ σ') (a : Client) : σ'.get a = σ.get a := by
  unfold State.get; rw [h.sessions]

theorem sameSessions_setReg (σ : State) (k : Bytes) (c : Client) : SameSessions σ (σ.setReg k c) := ⟨rfl, rfl, rfl, rfl⟩
theorem sameSessions_eraseReg (σ : State) (k : Bytes) : SameSessions σ (σ.eraseReg k) := ⟨rfl, rfl, rfl, rfl⟩

structure Erased (σ σ' : State) : Prop where
  same : SameSessions σ σ'
  sub : ∀ k d, σ'.reg k = some d → σ.reg k = some d

theorem Erased.refl (σ : State) : Erased σ σ := ⟨⟨rfl, rfl, rfl, rfl⟩, fun _ _ h => h⟩

theorem erased_eraseReg (σ : State) (k : Bytes) : Erased σ (σ.eraseReg k) := by
  refine ⟨sameSessions_eraseReg σ k, fun k' d h => ?_⟩
  rw [reg_eraseReg] at h
  split at h
  · cases h
  · exact h

theorem Erased.inv {σ σ' : State} (h : Erased σ σ') (hI : Inv σ) : Inv σ' :=
  hI.congr (fun a => proj_congr (h.same.get a)) h.sub h.same.hung

theorem erased_removeRegistration (σ : State) (c : Client) (s : Session) : Erased σ (removeRegistration σ c s) := by
  unfold removeRegistration
  split
  · exact Erased.refl σ
  split
  · exact Erased.refl σ
  split
  · split
    · exact erased_eraseReg σ _
    · exact Erased.refl σ
  · exact erased_eraseReg σ _

@[simp] theorem get_removeRegistration (σ : State) (c : Client) (s : Session) (a : Client) :
    (removeRegistration σ c s).get a = σ.get a := (erased_removeRegistration σ c s).same.get a
@[simp] theorem used_removeRegistration (σ : State) (c : Client) (s : Session) :
    (removeRegistration σ c s).used = σ.used := (erased_removeRegistration σ c s).same.used
@[simp] theorem out_removeRegistration (σ : State) (c : Client) (s : Session) :
    (removeRegistration σ c s).out = σ.out := (erased_removeRegistration σ c s).same.out
@[simp] theorem hung_removeRegistration (σ : State) (c : Client) (s : Session) :
    (removeRegistration σ c s).hung = σ.hung := (erased_removeRegistration σ c s).same.hung

/-- remove_registration(session) only removes, and leaves no registration of that session behind: by `regOK` its
    only one is under its own peer id -/
theorem reg_removeRegistration {σ : State} (hI : Inv σ) {c : Client} {s : Session} (hs : σ.get c = some s) {k : Bytes}
    {d : Client} (h : (removeRegistration σ c s).reg k = some d) : σ.reg k = some d ∧ d ≠ c := by
  have h0 := (erased_removeRegistration σ c s).sub k d h
  refine ⟨h0, ?_⟩
  rintro rfl
  obtain ⟨_, _, hx, hne⟩ := hI.regOK k d h0
  rw [hexOf_of_get hs, Option.some.injEq] at hx
  subst hx
  have : s.peerHex.isEmpty = false := by cases h' : s.peerHex <;> simp_all
  simp [removeRegistration, this, h0, hs] at h

theorem erased_findRegistered (σ : State) (hex : Bytes) : Erased σ (findRegistered σ hex).1 := by
  unfold findRegistered
  split
  · exact Erased.refl σ
  split
  · exact erased_eraseReg σ _
  split
  · exact Erased.refl σ
  · exact erased_eraseReg σ _

theorem findRegistered_some {σ σ1 : State} {hex : Bytes} {t : Client} (h : findRegistered σ hex = (σ1, some t)) :
    σ1 = σ ∧ σ.reg hex = some t ∧ ∃ ts, σ.get t = some ts ∧ ts.state = .registered := by
  unfold findRegistered at h
  repeat' split at h
  all_goals simp only [Prod.mk.injEq, reduceCtorEq, and_false] at h
  next _ t' hr _ ts hg hs =>
    obtain ⟨rfl, h⟩ := h
    cases h
    exact ⟨rfl, hr, ts, hg, hs⟩

end EphVerif.Relay
