/-
SystemMessaging: the inputs of the non-vacuity examples of `Proofs/SystemMessaging.lean`, and what the kernel evaluates
about them once (with HMAC-SHA256 in C08's form) for several examples to use.
-/
import EphVerif.Lemmas.SystemMessaging
import EphVerif.Lemmas.C08Eval

namespace EphVerif.System
open EphVerif.Message EphVerif.MessageSpec

def sampleMsg : Msg := ⟨4, 5, .handshake 7 9 4⟩
def sampleAnnounce : Msg :=
  ⟨3, 1, .announce { chunkId := List.replicate 32 7, peerId := List.replicate 32 9, endpoint := [1, 2, 3], ttl := 3600,
                      manifestUri := [], shards := [0, 5], nonce := 77 }⟩
def sampleKey : Bytes := (List.range 32).map UInt8.ofNat
def sampleNonce : Bytes := List.replicate 12 7
def idA : Kex.Identity := ⟨[1], 123456789⟩
def idB : Kex.Identity := ⟨[2], 4000000000⟩

theorem faithful_samples : Faithful sampleMsg ∧ Faithful sampleAnnounce := by decide +kernel

/-- C08's form of the MAC, which the kernel can evaluate on concrete inputs -/
theorem hmac_eval : hmac = C08Eval.hmac := funext fun k => funext (C08Eval.hmac_eq k)

end EphVerif.System
