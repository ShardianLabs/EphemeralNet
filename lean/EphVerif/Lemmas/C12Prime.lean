/-
`2^31 − 1` has no divisor `d` with `2 ≤ d < 46341` (and `46341² > 2^31 − 1`): it is odd, and it is
coprime to the product of the odd numbers from 3 to 46339.  The product (some 326 000 bits) and the
gcd are computed by the kernel's big-number arithmetic: one gcd where trial division takes 23 169 remainders.
-/
namespace EphVerif.C12L

def oddProd : Nat → Nat → Nat
  | 0, _ => 1
  | f + 1, d => d * oddProd f (d + 2)

theorem dvd_oddProd : ∀ f d i, i < f → d + 2 * i ∣ oddProd f d := by
  intro f
  induction f with
  | zero => intro d i hi; omega
  | succ f ih =>
    intro d i hi
    cases i with
    | zero => exact Nat.dvd_mul_right d _
    | succ i =>
      rw [show d + 2 * (i + 1) = d + 2 + 2 * i by omega]
      exact Nat.dvd_mul_left_of_dvd (ih (d + 2) i (by omega)) d

theorem mersenne31_coprime : Nat.gcd 2147483647 (oddProd 23169 3) = 1 := by decide +kernel

theorem mersenne31_no_small_divisor (d : Nat) (h2 : 2 ≤ d) (h : d < 46341) : 2147483647 % d ≠ 0 := by
  intro h0
  rcases Nat.mod_two_eq_zero_or_one d with he | ho
  · -- an even divisor would make `2^31 − 1` even
    have := Nat.mod_mod_of_dvd 2147483647 (Nat.dvd_of_mod_eq_zero he)
    rw [h0] at this
    exact absurd this (by decide)
  · -- an odd one is a factor of the product, so it would divide the gcd
    have hd := dvd_oddProd 23169 3 ((d - 3) / 2) (by omega)
    rw [show 3 + 2 * ((d - 3) / 2) = d by omega] at hd
    have h1 : d ∣ 1 := mersenne31_coprime ▸ Nat.dvd_gcd (Nat.dvd_of_mod_eq_zero h0) hd
    have := Nat.le_of_dvd Nat.one_pos h1
    omega

end EphVerif.C12L
