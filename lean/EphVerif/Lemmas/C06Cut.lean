/-
C06, list level: the stable descending sort, the truncation `cut` (for every hint), what a valid
cut does to the live entries, and `maxExp`.
-/
import EphVerif.Model.Providers

namespace EphVerif.C06L
open EphVerif.Providers EphVerif.C06Spec List

abbrev PeerDistinct (l : List Ann) : Prop := l.Pairwise (fun a b => a.peer ≠ b.peer)

abbrev DescSorted (l : List Ann) : Prop := l.Pairwise (fun a b => b.exp ≤ a.exp)

theorem not_expired (now : Int) (h : Ann) : (!expired now h) = liveAt now h := by
  simp only [expired, liveAt, ge_iff_le, ← Int.not_lt, decide_not, Bool.not_not]

theorem filter_not_expired (now : Int) (l : List Ann) :
    l.filter (fun h => !expired now h) = l.filter (liveAt now) :=
  filter_congr (fun x _ => not_expired now x)

theorem filter_comm {α : Type} (p q : α → Bool) (l : List α) : (l.filter q).filter p = (l.filter p).filter q := by
  rw [filter_filter, filter_filter]
  exact filter_congr fun x _ => Bool.and_comm _ _

theorem filter_perm_of_split {α : Type} {l l₁ l₂ : List α} (hp : l₁ ++ l₂ ~ l) (q : α → Bool)
    (h₁ : ∀ a ∈ l₁, q a = true) (h₂ : ∀ a ∈ l₂, q a = false) :
    l.filter q ~ l₁ ∧ l.filter (fun a => !q a) ~ l₂ := by
  constructor
  · have := hp.symm.filter q
    rwa [filter_append, filter_eq_self.mpr h₁, (filter_eq_nil_iff (l := l₂)).mpr (by simpa using h₂), append_nil] at this
  · have := hp.symm.filter (fun a => !q a)
    rwa [filter_append, (filter_eq_nil_iff (l := l₁)).mpr (by simpa using h₁),
      (filter_eq_self (l := l₂)).mpr (by simpa using h₂), nil_append] at this

theorem insertDesc_perm (h : Ann) (l : List Ann) : Providers.insertDesc h l ~ h :: l := by
  induction l with
  | nil => exact Perm.refl _
  | cons x xs ih =>
    simp only [Providers.insertDesc]
    split
    · exact (Perm.cons x ih).trans (Perm.swap h x xs)
    · exact Perm.refl _

theorem insertDesc_sorted (h : Ann) (l : List Ann) (hl : DescSorted l) :
    DescSorted (Providers.insertDesc h l) := by
  induction l with
  | nil => exact pairwise_singleton _ _
  | cons x xs ih =>
    obtain ⟨hx, hxs⟩ := pairwise_cons.mp hl
    simp only [Providers.insertDesc]
    split
    · rename_i hge
      refine pairwise_cons.mpr ⟨fun y hy => ?_, ih hxs⟩
      rcases mem_cons.mp ((insertDesc_perm h xs).mem_iff.mp hy) with rfl | hy'
      · exact hge
      · exact hx y hy'
    · refine pairwise_cons.mpr ⟨fun y hy => ?_, hl⟩
      rcases mem_cons.mp hy with rfl | hy'
      · omega
      · have := hx y hy'; omega

theorem foldl_insertDesc_perm (l acc : List Ann) :
    l.foldl (fun acc h => Providers.insertDesc h acc) acc ~ l ++ acc := by
  induction l generalizing acc with
  | nil => exact Perm.refl _
  | cons x xs ih =>
    simp only [foldl_cons, cons_append]
    exact (ih _).trans ((Perm.append_left xs (insertDesc_perm x acc)).trans perm_middle)

theorem foldl_insertDesc_sorted (l acc : List Ann) (h : DescSorted acc) :
    DescSorted (l.foldl (fun acc h => Providers.insertDesc h acc) acc) := by
  induction l generalizing acc with
  | nil => exact h
  | cons x xs ih => exact ih _ (insertDesc_sorted x acc h)

theorem sortDesc_perm (l : List Ann) : sortDesc l ~ l := by
  simpa [sortDesc] using foldl_insertDesc_perm l []

theorem sortDesc_sorted (l : List Ann) : DescSorted (sortDesc l) :=
  foldl_insertDesc_sorted l [] Pairwise.nil

/-- `kept` is a legal outcome of "sort `base` by descending expiry and resize to `n`", `dropped`
    being what fell off -/
structure CutOK (n : Nat) (base kept dropped : List Ann) : Prop where
  perm : kept ++ dropped ~ base
  len : kept.length = n
  le : ∀ k ∈ kept, ∀ d ∈ dropped, d.exp ≤ k.exp

theorem cut_fallback_ok (n : Nat) (base : List Ann) (hn : n ≤ base.length) :
    CutOK n base ((sortDesc base).take n) ((sortDesc base).drop n) := by
  refine ⟨?_, ?_, ?_⟩
  · rw [take_append_drop]; exact sortDesc_perm base
  · rw [length_take, (sortDesc_perm base).length_eq]; omega
  · have hs := sortDesc_sorted base
    rw [← take_append_drop n (sortDesc base)] at hs
    exact (pairwise_append.mp hs).2.2

theorem validCut_ok (n : Nat) (base : List Ann) (keep : List String) (h : validCut n base keep = true) :
    CutOK n base (base.filter (fun h => keep.contains h.peer)) (base.filter (fun h => !keep.contains h.peer)) := by
  simp only [validCut, Bool.and_eq_true, beq_iff_eq, all_eq_true, decide_eq_true_eq] at h
  exact ⟨filter_append_perm _ base, h.1, h.2⟩

theorem cut_ok (n : Nat) (base : List Ann) (hint : Option (List String)) (hn : n ≤ base.length) :
    ∃ dropped, CutOK n base (cut n base hint) dropped := by
  unfold cut
  split
  · split
    · rename_i hv; exact ⟨_, validCut_ok n base _ hv⟩
    · exact ⟨_, cut_fallback_ok n base hn⟩
  · exact ⟨_, cut_fallback_ok n base hn⟩

theorem CutOK.distinct {n : Nat} {base kept dropped : List Ann} (h : CutOK n base kept dropped)
    (hb : PeerDistinct base) : PeerDistinct (kept ++ dropped) :=
  Pairwise.perm hb h.perm.symm Ne.symm

theorem CutOK.validCut_peers {n : Nat} {base kept dropped : List Ann} (h : CutOK n base kept dropped)
    (hb : PeerDistinct base) :
    Providers.validCut n base (kept.map (·.peer)) = true ∧
      base.filter (fun a => (kept.map (·.peer)).contains a.peer) ~ kept := by
  have hin : ∀ a ∈ kept, (kept.map (·.peer)).contains a.peer = true := fun a ha =>
    contains_iff_mem.mpr (mem_map_of_mem ha)
  have hout : ∀ d ∈ dropped, (kept.map (·.peer)).contains d.peer = false := by
    intro d hd
    refine Bool.eq_false_iff.mpr fun hc => ?_
    obtain ⟨k, hk, hkp⟩ := mem_map.mp (contains_iff_mem.mp hc)
    exact (pairwise_append.mp (h.distinct hb)).2.2 k hk d hd hkp
  obtain ⟨hk, hd⟩ := filter_perm_of_split h.perm _ hin hout
  refine ⟨?_, hk⟩
  simp only [Providers.validCut, Bool.and_eq_true, beq_iff_eq, all_eq_true, decide_eq_true_eq]
  exact ⟨hk.length_eq.trans h.len, fun x hx d hdm => h.le x (hk.mem_iff.mp hx) d (hd.mem_iff.mp hdm)⟩

theorem CutOK.filter_perm {n : Nat} {base kept dropped : List Ann} (h : CutOK n base kept dropped)
    (q : Ann → Bool) : kept.filter q ++ dropped.filter q ~ base.filter q := by
  rw [← filter_append]
  exact h.perm.filter q

/-- in expiry order the live entries come first: if anything live is dropped, everything kept is live -/
theorem CutOK.live_or_dead {n : Nat} {base kept dropped : List Ann} (h : CutOK n base kept dropped)
    (now : Int) : (∀ k ∈ kept, liveAt now k = true) ∨ dropped.filter (liveAt now) = [] := by
  by_cases hd : dropped.filter (liveAt now) = []
  · exact Or.inr hd
  · obtain ⟨d, hdm⟩ := exists_mem_of_ne_nil _ hd
    obtain ⟨hd1, hd2⟩ := mem_filter.mp hdm
    refine Or.inl fun k hk => ?_
    have := h.le k hk d hd1
    simp only [liveAt, decide_eq_true_eq] at hd2 ⊢
    omega

theorem CutOK.live_small {n : Nat} {base kept dropped : List Ann} {now : Int}
    (h : CutOK n base kept dropped) (hs : (base.filter (liveAt now)).length ≤ n) :
    kept.filter (liveAt now) ~ base.filter (liveAt now) := by
  have hp := h.filter_perm (liveAt now)
  have hd : dropped.filter (liveAt now) = [] := by
    rcases h.live_or_dead now with hall | hd
    · have hlen := hp.length_eq
      rw [length_append, filter_eq_self.mpr hall, h.len] at hlen
      exact length_eq_zero_iff.mp (by omega)
    · exact hd
  rwa [hd, append_nil] at hp

theorem CutOK.live_big {n : Nat} {base kept dropped : List Ann} {now : Int}
    (h : CutOK n base kept dropped) (hs : n < (base.filter (liveAt now)).length) :
    ∀ k ∈ kept, liveAt now k = true := by
  rcases h.live_or_dead now with hall | hd
  · exact hall
  · have hp := (h.filter_perm (liveAt now)).length_eq
    rw [hd, append_nil] at hp
    have := length_filter_le (liveAt now) kept
    have := h.len
    omega

/-- a cut that keeps only live entries is a valid cut of every list with the same live entries:
    the dead entries of that list expire before everything kept -/
theorem CutOK.transfer {n : Nat} {base kept dropped base' : List Ann} {now : Int}
    (h : CutOK n base kept dropped) (hl : ∀ k ∈ kept, liveAt now k = true)
    (hp : base.filter (liveAt now) ~ base'.filter (liveAt now)) :
    CutOK n base' kept (dropped.filter (liveAt now) ++ base'.filter (fun a => !liveAt now a)) := by
  refine ⟨?_, h.len, fun k hk d hd => ?_⟩
  · have hk := h.filter_perm (liveAt now)
    rw [filter_eq_self.mpr hl] at hk
    rw [← append_assoc]
    exact ((hk.trans hp).append_right _).trans (filter_append_perm _ _)
  · rcases mem_append.mp hd with hd | hd
    · exact h.le k hk d (mem_filter.mp hd).1
    · have hk := hl k hk
      have hd := (mem_filter.mp hd).2
      simp only [liveAt, Bool.not_eq_true', decide_eq_true_eq, decide_eq_false_iff_not] at hk hd
      omega

theorem foldl_max_ge (l : List Ann) (d : Int) : d ≤ l.foldl (fun m h => max m h.exp) d := by
  induction l generalizing d with
  | nil => exact Int.le_refl d
  | cons x xs ih =>
    have := ih (max d x.exp)
    simp only [foldl_cons]
    omega

theorem maxExp_mem (l : List Ann) (d : Int) : ∀ h ∈ l, h.exp ≤ maxExp l d := by
  show ∀ h ∈ l, h.exp ≤ l.foldl (fun m h => max m h.exp) d
  induction l generalizing d with
  | nil => simp
  | cons x xs ih =>
    intro h hh
    simp only [foldl_cons]
    rcases mem_cons.mp hh with rfl | hh'
    · have := foldl_max_ge xs (max d h.exp); omega
    · exact ih _ h hh'

end EphVerif.C06L
