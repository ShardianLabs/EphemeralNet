/-
Helper lemmas for C12 over histories of inbound handshakes: the invariant "the key table holds, for
every peer id, the key derived from the public value of the last accepted handshake claiming that id,
and a success record names that same public value".  Core Lean only.
-/
import EphVerif.Model.KeyExchange

namespace EphVerif.C12L
open EphVerif.Kex

theorem get_put_same {β : Type} (l : List (List UInt8 × β)) (p : List UInt8) (v : β) : get (put l p v) p = some v := by
  simp [Kex.get, Kex.put]

theorem get_put_other {β : Type} (l : List (List UInt8 × β)) (p q : List UInt8) (v : β) (h : p ≠ q) :
    get (put l p v) q = get l q := by
  simp [Kex.get, Kex.put, h]

section
variable (sha : List UInt8 → List UInt8) (hmac : List UInt8 → List UInt8 → List UInt8)

/-- `acc p` = public value of the last accepted handshake claiming `p` so far -/
structure HistInv (s : NodeState) (acc : List UInt8 → Option Nat) : Prop where
  keys : ∀ p, get s.keys p = (acc p).map (sessionKey sha hmac s.self.scalar s.self.pub)
  records : ∀ p r, get s.records p = some r → r.success = true → acc p = some r.remotePublic

theorem histInv_fresh (self : Identity) (bits : Nat) (cooldown : Int) :
    HistInv sha hmac (NodeState.fresh self bits cooldown) (fun _ => none) :=
  ⟨fun p => by simp [NodeState.fresh, Kex.get], fun p r hr => by simp [NodeState.fresh, Kex.get] at hr⟩

theorem repeat_gives {s : NodeState} {now : Int} {peer : List UInt8} {pub nonce : Nat}
    (h : repeatOfValidated s now peer pub nonce = true) :
    ∃ r, get s.records peer = some r ∧ r.success = true ∧ r.remotePublic = pub := by
  unfold repeatOfValidated at h
  split at h
  · next r hr =>
    simp only [Bool.and_eq_true, beq_iff_eq] at h
    exact ⟨r, hr, h.1.1.1, h.1.2⟩
  · cases h

theorem histInv_refused {s : NodeState} {acc : List UInt8 → Option Nat} (hi : HistInv sha hmac s acc)
    (peer : List UInt8) (now : Int) (pub nonce : Nat) :
    HistInv sha hmac { s with records := put s.records peer ⟨now, pub, nonce, false⟩ } acc := by
  refine ⟨hi.keys, fun p r hr hs => ?_⟩
  by_cases hpp : peer = p
  · subst hpp; rw [get_put_same] at hr; cases hr; cases hs
  · rw [get_put_other _ _ _ _ hpp] at hr; exact hi.records p r hr hs

theorem histInv_accepted {s : NodeState} {acc : List UInt8 → Option Nat} (hi : HistInv sha hmac s acc)
    (peer : List UInt8) (now : Int) (pub nonce : Nat) :
    HistInv sha hmac
      { s with keys := put s.keys peer (sessionKey sha hmac s.self.scalar s.self.pub pub),
               records := put s.records peer ⟨now, pub, nonce, true⟩ }
      (fun p => if peer = p then some pub else acc p) := by
  constructor
  · intro p
    by_cases hpp : peer = p
    · subst hpp; simp only [if_true, get_put_same, Option.map_some]
    · simp only [hpp, if_false, get_put_other _ _ _ _ hpp]; exact hi.keys p
  · intro p r hr _
    by_cases hpp : peer = p
    · subst hpp; rw [get_put_same] at hr; cases hr; exact if_pos rfl
    · rw [get_put_other _ _ _ _ hpp] at hr; rw [if_neg hpp]; exact hi.records p r hr ‹_›

theorem step_histInv {s : NodeState} {acc : List UInt8 → Option Nat} (hi : HistInv sha hmac s acc) (c : Call) :
    let r := performHandshakeSt sha hmac s c.now c.peer c.pub c.nonce
    r.1.self = s.self ∧
    HistInv sha hmac r.1 (fun p => if r.2 && decide (c.peer = p) then some c.pub else acc p) := by
  unfold performHandshakeSt
  split
  · -- the repeated handshake is the one whose public value the ghost map already holds
    next hrep =>
    obtain ⟨r, hr, hs, hp⟩ := repeat_gives hrep
    have hacc : acc c.peer = some c.pub := hp ▸ hi.records c.peer r hr hs
    have : (fun p => if true && decide (c.peer = p) then some c.pub else acc p) = acc := funext fun p => by
      by_cases hpp : c.peer = p
      · subst hpp; simp [hacc]
      · simp [hpp]
    exact ⟨rfl, this.symm ▸ hi⟩
  · split
    · exact ⟨rfl, histInv_refused sha hmac hi c.peer c.now c.pub c.nonce⟩
    · split
      · exact ⟨rfl, histInv_refused sha hmac hi c.peer c.now c.pub c.nonce⟩
      · exact ⟨rfl, by simpa using histInv_accepted sha hmac hi c.peer c.now c.pub c.nonce⟩

theorem performHandshakeSt_no_record (s : NodeState) (now : Int) (peer : List UInt8) (pub nonce : Nat)
    (h : get s.records peer = none) :
    let r := performHandshakeSt sha hmac s now peer pub nonce
    (if r.2 then r.1.sessionKeyOf peer else none) = performHandshake sha hmac s.self s.bits peer pub nonce := by
  have hrep : repeatOfValidated s now peer pub nonce = false := by rw [repeatOfValidated, h]
  unfold performHandshakeSt performHandshake
  rw [hrep, if_neg Bool.false_ne_true]
  split
  · rfl
  · split
    · rfl
    · exact get_put_same ..

theorem runCalls_keys (cs : List Call) : ∀ (s : NodeState) (acc : List UInt8 → Option Nat), HistInv sha hmac s acc →
    ∀ p, get (runCalls sha hmac s cs).1.keys p =
      (lastAccepted (acc p) p (runCalls sha hmac s cs).2).map (sessionKey sha hmac s.self.scalar s.self.pub) := by
  induction cs with
  | nil => intro s acc hi p; simpa [runCalls, lastAccepted] using hi.keys p
  | cons c cs ih =>
    intro s acc hi p
    obtain ⟨hself, hi'⟩ := step_histInv sha hmac hi c
    have := ih _ _ hi' p
    simp only [runCalls, lastAccepted]
    rw [this, hself]

end
end EphVerif.C12L
