/-
SystemHandshake: the two identities of the non-vacuity examples of `Proofs/SystemHandshake.lean`, and what the kernel
evaluates about them once (2 bits of work, real SHA-256 in C08's form) for several examples to use.
-/
import EphVerif.Lemmas.SystemHandshake
import EphVerif.Lemmas.C08Eval

namespace EphVerif.SystemHandshake
open EphVerif.Kex EphVerif.Pow EphVerif.Spec.Pow EphVerif.SysHs

def alice : Initiator := ⟨⟨[1], 123456789⟩, 2, fun s => s % 7⟩
def bob : Initiator := ⟨⟨[2], 4000000000 % 2147483645 + 2⟩, 2, fun s => s % 5⟩

theorem good_scalars : GoodScalar alice.id.scalar ∧ GoodScalar bob.id.scalar :=
  ⟨⟨by decide, by decide, by decide⟩, ⟨by decide, by decide, by decide⟩⟩

/-- C08's form of the hash, which the kernel can evaluate on concrete inputs -/
theorem sha_eval : sha256 = C08Eval.sha256 := funext C08Eval.sha256_eq

/-- what the two solvers return (`[2]`, `[1]` are the peer ids of `bob`, `alice`), searched by the
    kernel; the examples of `Proofs/SystemHandshake.lean` start from these values -/
theorem alice_work : alice.work [2] = some 13 := by
  rw [Initiator.work, sha_eval]; decide +kernel
theorem bob_work : bob.work [1] = some 3 := by
  rw [Initiator.work, sha_eval]; decide +kernel

end EphVerif.SystemHandshake
