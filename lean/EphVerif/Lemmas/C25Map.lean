/-
Helper lemmas for C25/C26: association lists and the primitive state updates of the relay model,
all phrased through the lookups `State.get` (sessions_) and `State.reg` (registered_).
-/
import EphVerif.Model.Relay

namespace EphVerif.Relay

section maps
variable {κ α : Type} [BEq κ] [LawfulBEq κ] [DecidableEq κ]
set_option linter.unusedSectionVars false

theorem mget_nil (k : κ) : mget ([] : List (κ × α)) k = none := rfl

theorem mget_cons (m : List (κ × α)) (k k' : κ) (v : α) :
    mget ((k, v) :: m) k' = if k' = k then some v else mget m k' := by
  unfold mget
  rw [List.lookup_cons]
  split <;> simp_all

theorem merase_cons (m : List (κ × α)) (a k : κ) (v : α) :
    merase ((a, v) :: m) k = if a = k then merase m k else (a, v) :: merase m k := by
  unfold merase
  rw [List.filter_cons]
  split <;> simp_all

theorem mget_merase (m : List (κ × α)) (k k' : κ) :
    mget (merase m k) k' = if k' = k then none else mget m k' := by
  induction m with
  | nil => simp [merase, mget]
  | cons p m ih =>
    rw [merase_cons]
    split
    next hp => rw [ih, mget_cons, hp]; split <;> rfl
    next hp =>
      rw [mget_cons, mget_cons, ih]
      split
      · subst k'; rw [if_neg hp]
      · rfl

theorem mget_mset (m : List (κ × α)) (k k' : κ) (v : α) :
    mget (mset m k v) k' = if k' = k then some v else mget m k' := by
  unfold mset
  rw [mget_cons, mget_merase]
  split <;> simp [*]

theorem eq_nil_of_mget_none (m : List (κ × α)) (h : ∀ k, mget m k = none) : m = [] := by
  match m with
  | [] => rfl
  | (pk, pv) :: m => have := h pk; rw [mget_cons, if_pos rfl] at this; cases this

theorem mem_keys_of_mget (m : List (κ × α)) (k : κ) (v : α) (h : mget m k = some v) : (k, v) ∈ m := by
  induction m with
  | nil => cases h
  | cons p m ih =>
    rw [mget_cons] at h
    split at h
    next e => cases h; cases e; exact List.mem_cons_self
    · exact List.mem_cons_of_mem _ (ih h)

theorem mget_isSome_of_mem (m : List (κ × α)) (k : κ) (v : α) (h : (k, v) ∈ m) : (mget m k).isSome := by
  induction m with
  | nil => cases h
  | cons p m ih =>
    rw [mget_cons]
    split
    · rfl
    next e =>
      refine ih ((List.mem_cons.mp h).resolve_left ?_)
      rintro rfl; exact e rfl
end maps

@[simp] theorem get_put (σ : State) (c c' : Client) (s : Session) :
    (σ.put c s).get c' = if c' = c then some s else σ.get c' := mget_mset _ _ _ _
@[simp] theorem get_drop (σ : State) (c c' : Client) :
    (σ.drop c).get c' = if c' = c then none else σ.get c' := mget_merase _ _ _
@[simp] theorem get_emit (σ : State) (o : Out) (c : Client) : (σ.emit o).get c = σ.get c := rfl
@[simp] theorem get_setReg (σ : State) (k : Bytes) (c c' : Client) : (σ.setReg k c).get c' = σ.get c' := rfl
@[simp] theorem get_eraseReg (σ : State) (k : Bytes) (c' : Client) : (σ.eraseReg k).get c' = σ.get c' := rfl

@[simp] theorem reg_put (σ : State) (c : Client) (s : Session) (k : Bytes) : (σ.put c s).reg k = σ.reg k := rfl
@[simp] theorem reg_drop (σ : State) (c : Client) (k : Bytes) : (σ.drop c).reg k = σ.reg k := rfl
@[simp] theorem reg_emit (σ : State) (o : Out) (k : Bytes) : (σ.emit o).reg k = σ.reg k := rfl
@[simp] theorem reg_setReg (σ : State) (k k' : Bytes) (c : Client) :
    (σ.setReg k c).reg k' = if k' = k then some c else σ.reg k' := mget_mset _ _ _ _
@[simp] theorem reg_eraseReg (σ : State) (k k' : Bytes) :
    (σ.eraseReg k).reg k' = if k' = k then none else σ.reg k' := mget_merase _ _ _

@[simp] theorem used_put (σ : State) (c : Client) (s : Session) : (σ.put c s).used = σ.used := rfl
@[simp] theorem used_drop (σ : State) (c : Client) : (σ.drop c).used = σ.used := rfl
@[simp] theorem used_emit (σ : State) (o : Out) : (σ.emit o).used = σ.used := rfl
@[simp] theorem used_setReg (σ : State) (k : Bytes) (c : Client) : (σ.setReg k c).used = σ.used := rfl
@[simp] theorem used_eraseReg (σ : State) (k : Bytes) : (σ.eraseReg k).used = σ.used := rfl

@[simp] theorem hung_put (σ : State) (c : Client) (s : Session) : (σ.put c s).hung = σ.hung := rfl
@[simp] theorem hung_drop (σ : State) (c : Client) : (σ.drop c).hung = σ.hung := rfl
@[simp] theorem hung_emit (σ : State) (o : Out) : (σ.emit o).hung = σ.hung := rfl
@[simp] theorem hung_setReg (σ : State) (k : Bytes) (c : Client) : (σ.setReg k c).hung = σ.hung := rfl
@[simp] theorem hung_eraseReg (σ : State) (k : Bytes) : (σ.eraseReg k).hung = σ.hung := rfl

@[simp] theorem out_put (σ : State) (c : Client) (s : Session) : (σ.put c s).out = σ.out := rfl
@[simp] theorem out_drop (σ : State) (c : Client) : (σ.drop c).out = σ.out := rfl
@[simp] theorem out_emit (σ : State) (o : Out) : (σ.emit o).out = o :: σ.out := rfl
@[simp] theorem out_setReg (σ : State) (k : Bytes) (c : Client) : (σ.setReg k c).out = σ.out := rfl
@[simp] theorem out_eraseReg (σ : State) (k : Bytes) : (σ.eraseReg k).out = σ.out := rfl

theorem sessions_eq_nil (σ : State) (h : ∀ c, σ.get c = none) : σ.sessions = [] := eq_nil_of_mget_none _ h
theorem registered_eq_nil (σ : State) (h : ∀ k, σ.reg k = none) : σ.registered = [] := eq_nil_of_mget_none _ h

@[simp] theorem get_init (c : Client) : init.get c = none := rfl
@[simp] theorem reg_init (k : Bytes) : init.reg k = none := rfl

end EphVerif.Relay
