import EphVerif.Model.Manifest

/-! Helper lemmas for C17 and C18: the single reads of the decoder.  Each inverts the matching write of the
    encoder (C17); the expiry field, given its eight bytes, is the range check alone (C18 uses that too).
    Nothing here depends on the base64 alphabet. -/
namespace EphVerif.Manifest
open EphVerif.Gen.C17

@[simp] theorem Res.bind_ok {α β : Type} (a : α) (f : α → Res β) : (Res.ok a).bind f = f a := rfl

theorem u8_toNat {n : Nat} (h : n ≤ 255) : (u8 n).toNat = n := UInt8.toNat_ofNat_of_lt' (Nat.lt_succ_of_le h)

theorem rawByte_cons (b : UInt8) (r : Bytes) : rawByte (b :: r) = .ok (b, r) := rfl

theorem needByte_cons (b : UInt8) (r : Bytes) : needByte (b :: r) = .ok (b, r) := by
  simp [needByte, rawByte]

theorem rawTake_ok {n : Nat} {s : Bytes} (h : n ≤ s.length) : rawTake n s = .ok (s.take n, s.drop n) := if_pos h

theorem rawTake_append {n : Nat} (x r : Bytes) (h : x.length = n) : rawTake n (x ++ r) = .ok (x, r) := by
  subst h
  simp [rawTake]

theorem needBytes_append {n : Nat} (x r : Bytes) (h : x.length = n) : needBytes n (x ++ r) = .ok (x, r) := by
  rw [needBytes, rawTake_append x r h, if_neg (by simp [← h])]

theorem needU16_append {n : Nat} (h : n ≤ 65535) (r : Bytes) : needU16 (appendU16 n ++ r) = .ok (n, r) := by
  simp only [needU16, readU16, appendU16, List.cons_append, List.nil_append, List.length_cons, rawByte, Res.bind_ok,
    UInt8.toNat_ofNat']
  rw [if_neg (by omega), if_neg (by omega)]
  congr 2
  omega

theorem str8_append (x r : Bytes) (h : x.length ≤ 255) : str8 (u8 x.length :: (x ++ r)) = .ok (x, r) := by
  simp [str8, needByte_cons, u8_toNat h, needBytes_append x r rfl]

theorem str16_append (x r : Bytes) (h : x.length ≤ 65535) :
    str16 (appendU16 x.length ++ (x ++ r)) = .ok (x, r) := by
  simp [str16, needU16_append h, needBytes_append x r rfl]

theorem beNat_concat (bs : Bytes) (b : UInt8) : beNat (bs ++ [b]) = beNat bs * 256 + b.toNat := by
  simp [beNat]

/-- the last digit is `v % 256`, those before it are the digits of `v / 256` -/
theorem beNat_digits (k : Nat) : ∀ v : Nat,
    beNat ((List.range k).map fun i => UInt8.ofNat (v / 256 ^ i % 256)).reverse = v % 256 ^ k := by
  induction k with
  | zero => intro v; simp [beNat, Nat.mod_one]
  | succ k ih =>
    intro v
    have := ih (v / 256)
    simp only [Nat.div_div_eq_div_mul, ← Nat.pow_succ'] at this
    rw [List.range_succ_eq_map, List.map_cons, List.map_map, List.reverse_cons, beNat_concat, Function.comp_def, this,
      UInt8.toNat_ofNat', Nat.pow_succ (m := k), Nat.mul_comm (256 ^ k), Nat.mod_mul,
      Nat.pow_zero, Nat.div_one, Nat.mod_mod_of_dvd _ (by decide), Nat.mul_comm, Nat.add_comm]

/-- `append_u64` writes the eight digits `v / 2 ^ (8 * i) % 256`, `i = 7 … 0` -/
theorem beNat_appendU64 {v : Nat} (h : v < 18446744073709551616) : beNat (appendU64 v) = v :=
  (beNat_digits 8 v).trans (Nat.mod_eq_of_lt h)

theorem toI64_toU64 {s : Int} (h : -9223372036854775808 ≤ s ∧ s ≤ 9223372036854775807) : toI64 (toU64 s) = s := by
  unfold toI64 toU64
  split <;> omega

theorem toU64_lt (s : Int) : toU64 s < 18446744073709551616 := by
  unfold toU64; omega

theorem minExpirySeconds_eq : minExpirySeconds = -9223372036 := by decide
theorem maxExpirySeconds_eq : maxExpirySeconds = 9223372036 := by decide

/-- whole seconds of an `int64` tick count: in the decoder's accepted range, and converting back
    cannot overflow -/
theorem tdiv_ns_bounds {ns : Int} (h : -9223372036854775808 ≤ ns ∧ ns ≤ 9223372036854775807) :
    -9223372036 ≤ Int.tdiv ns 1000000000 ∧ Int.tdiv ns 1000000000 ≤ 9223372036 := by
  rw [Int.tdiv_eq_ediv]
  split <;> (try simp only [Int.sign]) <;> omega

theorem appendU64_length (v : Nat) : (appendU64 v).length = 8 := by simp [appendU64]

theorem secondsToTicks_ok {secs : Int} (h : -9223372036 ≤ secs ∧ secs ≤ 9223372036) :
    secondsToTicks secs = .ok (secs * 1000000000) := by
  have : -9223372036854775808 ≤ secs * 1000000000 ∧ secs * 1000000000 ≤ 9223372036854775807 := by omega
  simp [secondsToTicks, nsPerSecond, int64Min, int64Max, this]

theorem readExpiry_of_le {s : Bytes} (h : 8 ≤ s.length) :
    readExpiry s =
      if toI64 (beNat (s.take 8)) < -9223372036 ∨ toI64 (beNat (s.take 8)) > 9223372036 then .invalidArg
      else .ok (toI64 (beNat (s.take 8)) * 1000000000, s.drop 8) := by
  unfold readExpiry
  simp only [rawTake_ok h, Res.bind_ok, minExpirySeconds_eq, maxExpirySeconds_eq, Bool.or_eq_true, decide_eq_true_eq]
  split
  · rfl
  · rw [secondsToTicks_ok (by omega)]; rfl

theorem readExpiry_append {ns : Int} (h : -9223372036854775808 ≤ ns ∧ ns ≤ 9223372036854775807) (r : Bytes) :
    readExpiry (appendU64 (toU64 (Int.tdiv ns nsPerSecond)) ++ r) = .ok (Int.tdiv ns nsPerSecond * nsPerSecond, r) := by
  have hb := tdiv_ns_bounds h
  have hl := appendU64_length (toU64 (Int.tdiv ns nsPerSecond))
  rw [readExpiry_of_le (by simp [hl]), List.take_left' hl, List.drop_left' hl, beNat_appendU64 (toU64_lt _), nsPerSecond,
    toI64_toU64 (by omega), if_neg (by omega)]

end EphVerif.Manifest
