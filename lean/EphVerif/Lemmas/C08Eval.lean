/-
C08: SHA-256 and HMAC-SHA256 in a form the kernel can evaluate on concrete inputs, equal to
`Spec.sha256` / `Spec.hmacSha256` for every input (`sha256_eq`, `hmac_eq`): rewrite, then `decide +kernel`.
Inside a block the words are `Nat`s below `2^32` with the reductions mod `2^32` written out (a `UInt32`
operation unfolds through `BitVec` and `Fin` before it reaches the `Nat` operation the kernel computes
natively), and the last sixteen schedule words are the fields of a record (`Spec.Sha256.scheduleStep`
reads them by `getD` from the far end of a list it then appends to).  The rest is the specification's.
-/
import EphVerif.Spec.Hmac

namespace EphVerif.C08Eval
open EphVerif.Spec
open EphVerif.Spec.Sha256 (Hash K H0 pad parse parseN digestBytes addHash)

/- The operations are written as the functions `Nat.xor`, `Nat.shiftRight`, … that the kernel computes
on literals, not in the notation `^^^`, `>>>`, …, whose instances the kernel would unfold at every use. -/

def add (x y : Nat) : Nat := Nat.mod (Nat.add x y) 4294967296

def rotr (n x : Nat) : Nat := Nat.lor (Nat.shiftRight x n) (Nat.mod (Nat.shiftLeft x (Nat.sub 32 n)) 4294967296)
def ch (x y z : Nat) : Nat := Nat.xor (Nat.land x y) (Nat.land (Nat.sub 4294967295 x) z)
def maj (x y z : Nat) : Nat := Nat.xor (Nat.xor (Nat.land x y) (Nat.land x z)) (Nat.land y z)
def bigSigma0 (x : Nat) : Nat := Nat.xor (Nat.xor (rotr 2 x) (rotr 13 x)) (rotr 22 x)
def bigSigma1 (x : Nat) : Nat := Nat.xor (Nat.xor (rotr 6 x) (rotr 11 x)) (rotr 25 x)
def smallSigma0 (x : Nat) : Nat := Nat.xor (Nat.xor (rotr 7 x) (rotr 18 x)) (Nat.shiftRight x 3)
def smallSigma1 (x : Nat) : Nat := Nat.xor (Nat.xor (rotr 17 x) (rotr 19 x)) (Nat.shiftRight x 10)

theorem toNat_add (x y : UInt32) : (x + y).toNat = add x.toNat y.toNat := UInt32.toNat_add x y

theorem toNat_Ch (x y z : UInt32) : (Sha256.Ch x y z).toNat = ch x.toNat y.toNat z.toNat := by
  simp [Sha256.Ch]; rfl

theorem toNat_Maj (x y z : UInt32) : (Sha256.Maj x y z).toNat = maj x.toNat y.toNat z.toNat := by
  simp [Sha256.Maj]; rfl

theorem toNat_bigSigma0 (x : UInt32) : (Sha256.bigSigma0 x).toNat = bigSigma0 x.toNat := by
  simp [Sha256.bigSigma0, Sha256.ROTR]; rfl

theorem toNat_bigSigma1 (x : UInt32) : (Sha256.bigSigma1 x).toNat = bigSigma1 x.toNat := by
  simp [Sha256.bigSigma1, Sha256.ROTR]; rfl

theorem toNat_smallSigma0 (x : UInt32) : (Sha256.smallSigma0 x).toNat = smallSigma0 x.toNat := by
  simp [Sha256.smallSigma0, Sha256.ROTR, Sha256.SHR]; rfl

theorem toNat_smallSigma1 (x : UInt32) : (Sha256.smallSigma1 x).toNat = smallSigma1 x.toNat := by
  simp [Sha256.smallSigma1, Sha256.ROTR, Sha256.SHR]; rfl

def words : List UInt8 → List Nat
  | b0 :: b1 :: b2 :: b3 :: rest => (b0.toNat <<< 24 ||| b1.toNat <<< 16 ||| b2.toNat <<< 8 ||| b3.toNat) :: words rest
  | _ => []

theorem map_toNat_words (b : List UInt8) : (Sha256.words b).map UInt32.toNat = words b := by
  fun_induction Sha256.words b with
  | case1 b0 b1 b2 b3 rest ih =>
    have h0 := b0.toNat_lt
    have h1 := b1.toNat_lt
    have h2 := b2.toNat_lt
    simp (disch := omega) [words, ih, Sha256.be32, Nat.shiftLeft_eq, Nat.mod_eq_of_lt]
  | case2 b h =>
    unfold words
    split
    · exact absurd rfl (h _ _ _ _ _)
    · rfl

theorem words_length (b : List UInt8) : (Sha256.words b).length = b.length / 4 := by
  fun_induction Sha256.words b with
  | case1 b0 b1 b2 b3 rest ih => simp only [List.length_cons, ih]; omega
  | case2 b h =>
    rcases b with _ | ⟨b0, _ | ⟨b1, _ | ⟨b2, _ | ⟨b3, rest⟩⟩⟩⟩
    · rfl
    · simp
    · simp
    · simp
    · exact (h _ _ _ _ _ rfl).elim

/-- `W_t … W_{t+15}` -/
structure Window where
  (w0 w1 w2 w3 w4 w5 w6 w7 w8 w9 w10 w11 w12 w13 w14 w15 : Nat)

namespace Window

def toList (v : Window) : List Nat :=
  [v.w0, v.w1, v.w2, v.w3, v.w4, v.w5, v.w6, v.w7, v.w8, v.w9, v.w10, v.w11, v.w12, v.w13, v.w14, v.w15]

def ofList (L : List Nat) : Window :=
  ⟨L.getD 0 0, L.getD 1 0, L.getD 2 0, L.getD 3 0, L.getD 4 0, L.getD 5 0, L.getD 6 0, L.getD 7 0,
   L.getD 8 0, L.getD 9 0, L.getD 10 0, L.getD 11 0, L.getD 12 0, L.getD 13 0, L.getD 14 0, L.getD 15 0⟩

theorem toList_ofList (L : List Nat) (h : L.length = 16) : (ofList L).toList = L := by
  have e : (ofList L).toList = (List.range 16).map (L.getD · 0) := rfl
  rw [e]
  apply List.ext_getElem
  · rw [List.length_map, List.length_range, h]
  · intro i h1 h2
    rw [List.getElem_map, List.getElem_range, List.getD_eq_getElem?_getD, List.getElem?_eq_getElem h2, Option.getD_some]

/-- `W_{t+16} = σ1(W_{t+14}) + W_{t+9} + σ0(W_{t+1}) + W_t` enters, `W_t` leaves -/
def step (v : Window) : Window :=
  ⟨v.w1, v.w2, v.w3, v.w4, v.w5, v.w6, v.w7, v.w8, v.w9, v.w10, v.w11, v.w12, v.w13, v.w14, v.w15,
   add (add (add (smallSigma1 v.w14) v.w9) (smallSigma0 v.w1)) v.w0⟩

end Window

/-- `W_t … W_{t+n+15}` from the window at `t` -/
def expand : Nat → Window → List Nat
  | 0, v => v.toList
  | n + 1, v => v.w0 :: expand n v.step

theorem repeat_succ_comm {α : Type} (f : α → α) (n : Nat) (a : α) :
    Nat.repeat f (n + 1) a = Nat.repeat f n (f a) := by
  induction n with
  | zero => rfl
  | succ n ih => simp only [Nat.repeat] at ih ⊢; rw [ih]

theorem toNat_getD (W : List UInt32) (i : Nat) : (W.getD i 0).toNat = (W.map UInt32.toNat).getD i 0 := by
  rw [List.getD_eq_getElem?_getD, List.getD_eq_getElem?_getD, List.getElem?_map]
  cases W[i]? <;> rfl

theorem getD_length_sub (P : List Nat) (v : Window) (k : Nat) (hk : k ≤ 16) :
    (P ++ v.toList).getD ((P ++ v.toList).length - k) 0 = v.toList.getD (16 - k) 0 := by
  have e : (P ++ v.toList).length - k = P.length + (16 - k) := by
    rw [List.length_append, show v.toList.length = 16 from rfl]; omega
  rw [e, List.getD_eq_getElem?_getD, List.getD_eq_getElem?_getD, List.getElem?_append_right (Nat.le_add_right ..),
    Nat.add_sub_cancel_left]

theorem map_toNat_scheduleStep (W : List UInt32) (P : List Nat) (v : Window) (h : W.map UInt32.toNat = P ++ v.toList) :
    (Sha256.scheduleStep W).map UInt32.toNat = (P ++ [v.w0]) ++ v.step.toList := by
  have hl : W.length = (P ++ v.toList).length := by rw [← h, List.length_map]
  rw [Sha256.scheduleStep, List.map_append, List.map_singleton, toNat_add, toNat_add, toNat_add, toNat_smallSigma1,
    toNat_smallSigma0, toNat_getD, toNat_getD, toNat_getD, toNat_getD, hl, h, getD_length_sub P v 2 (by decide),
    getD_length_sub P v 7 (by decide), getD_length_sub P v 15 (by decide), getD_length_sub P v 16 (by decide),
    List.append_assoc, List.append_assoc]
  rfl

theorem map_toNat_repeat_scheduleStep (n : Nat) (W : List UInt32) (P : List Nat) (v : Window)
    (h : W.map UInt32.toNat = P ++ v.toList) :
    (Nat.repeat Sha256.scheduleStep n W).map UInt32.toNat = P ++ expand n v := by
  induction n generalizing W P v with
  | zero => exact h
  | succ n ih =>
    rw [repeat_succ_comm, ih _ _ _ (map_toNat_scheduleStep W P v h), List.append_assoc]
    rfl

theorem map_toNat_schedule (b : List UInt8) (h : b.length = 64) :
    (Sha256.schedule (Sha256.words b)).map UInt32.toNat = expand 48 (.ofList (words b)) := by
  have hw : (words b).length = 16 := by rw [← map_toNat_words, List.length_map, words_length, h]
  exact map_toNat_repeat_scheduleStep 48 _ [] _ ((map_toNat_words b).trans (Window.toList_ofList _ hw).symm)

structure Vars where
  (a b c d e f g h : Nat)

def toVars (H : Hash) : Vars :=
  ⟨H.a.toNat, H.b.toNat, H.c.toNat, H.d.toNat, H.e.toNat, H.f.toNat, H.g.toNat, H.h.toNat⟩

def ofVars (v : Vars) : Hash :=
  ⟨.ofNat v.a, .ofNat v.b, .ofNat v.c, .ofNat v.d, .ofNat v.e, .ofNat v.f, .ofNat v.g, .ofNat v.h⟩

theorem ofVars_toVars (H : Hash) : ofVars (toVars H) = H := by
  simp only [ofVars, toVars, UInt32.ofNat_toNat]

def round (v : Vars) (k w : Nat) : Vars :=
  let T1 := add (add (add (add v.h (bigSigma1 v.e)) (ch v.e v.f v.g)) k) w
  let T2 := add (bigSigma0 v.a) (maj v.a v.b v.c)
  { h := v.g, g := v.f, f := v.e, e := add v.d T1, d := v.c, c := v.b, b := v.a, a := add T1 T2 }

theorem toVars_round (v : Hash) (k w : UInt32) :
    toVars (Sha256.round v k w) = round (toVars v) k.toNat w.toNat := by
  simp only [Sha256.round, round, toVars, toNat_add, toNat_bigSigma0, toNat_bigSigma1, toNat_Ch, toNat_Maj]

def rounds : Vars → List Nat → List Nat → Vars
  | v, k :: ks, w :: ws => rounds (round v k w) ks ws
  | v, _, _ => v

theorem toVars_rounds (v : Hash) (ks ws : List UInt32) :
    toVars (Sha256.rounds v ks ws) = rounds (toVars v) (ks.map UInt32.toNat) (ws.map UInt32.toNat) := by
  induction ks generalizing v ws with
  | nil => rfl
  | cons k ks ih =>
    cases ws with
    | nil => rfl
    | cons w ws => rw [Sha256.rounds, ih, toVars_round, List.map_cons, List.map_cons, rounds]

def compress (H : Hash) (block : List UInt8) : Hash :=
  addHash (ofVars (rounds (toVars H) (K.map UInt32.toNat) (expand 48 (.ofList (words block))))) H

theorem compress_eq (H : Hash) (b : List UInt8) (h : b.length = 64) : Sha256.compress H b = compress H b := by
  rw [compress, ← map_toNat_schedule b h, ← toVars_rounds, ofVars_toVars]
  rfl

theorem length_of_mem_parseN (N : Nat) (M : List UInt8) (h : 64 * N ≤ M.length) :
    ∀ b ∈ parseN N M, b.length = 64 := by
  induction N generalizing M with
  | zero => intro b hb; cases hb
  | succ N ih =>
    intro b hb
    rw [parseN, List.mem_cons] at hb
    rcases hb with rfl | hb
    · rw [List.length_take]; omega
    · exact ih _ (by rw [List.length_drop]; omega) b hb

theorem foldl_compress_eq (bs : List (List UInt8)) (h : ∀ b ∈ bs, b.length = 64) (H : Hash) :
    bs.foldl Sha256.compress H = bs.foldl compress H := by
  induction bs generalizing H with
  | nil => rw [List.foldl_nil, List.foldl_nil]
  | cons b bs ih =>
    rw [List.foldl_cons, List.foldl_cons, compress_eq H b (h b List.mem_cons_self),
      ih (fun b hb => h b (List.mem_cons_of_mem _ hb))]

def sha256 (M : List UInt8) : List UInt8 := digestBytes ((parse (pad M)).foldl compress H0)

theorem sha256_eq (m : List UInt8) : Spec.sha256 m = sha256 m := by
  rw [Spec.sha256, Sha256.hash, sha256, parse, foldl_compress_eq _ (length_of_mem_parseN _ _ (by omega))]

def hmac (key data : List UInt8) : List UInt8 :=
  let K := Hmac.padKey (if key.length > 64 then sha256 key else key)
  sha256 (Hmac.xorWith 0x5c K ++ sha256 (Hmac.xorWith 0x36 K ++ data))

theorem hmac_eq (k m : List UInt8) : Spec.hmacSha256 k m = hmac k m := by
  simp only [Spec.hmacSha256, Hmac.effectiveKey, sha256_eq]
  rfl

end EphVerif.C08Eval
