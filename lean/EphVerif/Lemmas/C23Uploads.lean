/-
Helper lemmas for C23: list bookkeeping of `active_uploads_`, and the scheduler invariant
(`Inv`) preserved by every operation of `Model/Uploads.lean`.
-/
import EphVerif.Model.Uploads
import EphVerif.Spec.Uploads
import EphVerif.Lemmas.C23C24Count
namespace EphVerif.Uploads

theorem isKey_iff (p c : String) (a : Act) : isKey p c a = true ↔ a.peer = p ∧ a.chunk = c := by
  simp [isKey]

theorem countPeer_nil (q : String) : countPeer q [] = 0 := rfl

theorem countPeer_eq (q : String) (l : List Act) : countPeer q l = l.countP (·.peer == q) :=
  List.countP_eq_length_filter.symm

theorem matchCount_eq (p c : String) (l : List Act) : matchCount p c l = l.countP (isKey p c) :=
  List.countP_eq_length_filter.symm

theorem hasAct_iff (l : List Act) (p c : String) : hasAct l p c = true ↔ 0 < matchCount p c l := by
  rw [matchCount_eq, List.countP_pos_iff, hasAct, List.any_eq_true]

theorem countP_eraseAct (P : Act → Bool) (l : List Act) (p c : String) :
    (eraseAct l p c).countP P + (l.filter (isKey p c)).countP P = l.countP P := by
  rw [Nat.add_comm]
  exact (List.countP_eq_countP_filter_add l P (isKey p c)).symm

theorem length_erase (p c : String) (l : List Act) : (eraseAct l p c).length + matchCount p c l = l.length := by
  simpa [matchCount] using countP_eraseAct (fun _ => true) l p c

theorem countPeer_erase (q p c : String) (l : List Act) :
    countPeer q (eraseAct l p c) + (if p = q then matchCount p c l else 0) = countPeer q l := by
  rw [countPeer_eq, countPeer_eq, ← countP_eraseAct _ l p c, List.countP_filter, matchCount_eq]
  congr 1
  split
  · next h => exact List.countP_congr fun a _ => by simp [isKey, h]
  · next h =>
    refine (List.countP_eq_zero.2 fun a _ ha => ?_).symm
    rw [Bool.and_eq_true, beq_iff_eq, isKey_iff] at ha
    exact h (ha.2.1.symm.trans ha.1)

theorem matchCount_erase_same (p c : String) (l : List Act) : matchCount p c (eraseAct l p c) = 0 := by
  rw [matchCount_eq, List.countP_eq_zero]
  exact fun a ha => by simpa using (List.mem_filter.1 ha).2

theorem matchCount_erase_le (p c p' c' : String) (l : List Act) :
    matchCount p' c' (eraseAct l p c) ≤ matchCount p' c' l := by
  rw [matchCount_eq, matchCount_eq]
  exact List.filter_sublist.countP_le

theorem countPeer_append_single (q : String) (l : List Act) (a : Act) :
    countPeer q (l ++ [a]) = countPeer q l + if a.peer = q then 1 else 0 := by
  simp [countPeer_eq, List.countP_append, List.countP_singleton]

theorem matchCount_append_single (p c : String) (l : List Act) (a : Act) :
    matchCount p c (l ++ [a]) = matchCount p c l + if a.peer = p ∧ a.chunk = c then 1 else 0 := by
  simp [matchCount_eq, List.countP_append, List.countP_singleton, isKey_iff]

theorem drop_apply (f : String → Nat) (p q : String) : drop f p q = f q - if p = q then 1 else 0 :=
  Count.decr_apply f p q

theorem bump_apply (f : String → Nat) (p q : String) : bump f p q = f q + if p = q then 1 else 0 :=
  Count.incr_apply f p q

/-- at most one record per `(peer, chunk)`: `active_uploads_` is a map -/
def Uniq (l : List Act) : Prop := ∀ p c, matchCount p c l ≤ 1

theorem countPeer_erase_of_hasAct {l : List Act} (hu : Uniq l) {p c : String} (hk : hasAct l p c = true) (q : String) :
    countPeer q (eraseAct l p c) + (if p = q then 1 else 0) = countPeer q l := by
  have := countPeer_erase q p c l
  rwa [Nat.le_antisymm (hu p c) ((hasAct_iff l p c).1 hk)] at this

theorem eraseAct_of_not_hasAct {l : List Act} {p c : String} (hk : hasAct l p c = false) : eraseAct l p c = l :=
  List.filter_eq_self.2 fun a ha => by simpa using List.any_eq_false.1 hk a ha

/-- the scheduler invariant over `active_uploads_` / `active_uploads_per_peer_` -/
structure InvAP (cfg : Cfg) (active : List Act) (perPeer : String → Nat) : Prop where
  uniq : Uniq active
  count : ∀ p, perPeer p = countPeer p active
  glob : 0 < cfg.maxParallel → active.length ≤ cfg.maxParallel
  peer : 0 < cfg.maxPerPeer → ∀ p, perPeer p ≤ cfg.maxPerPeer

/-- the invariant of a state; it reads only those two fields, so it holds of `{ s with queue := … }`
    (and of an update of `lastRotation` or `completed`) by unfolding: the queue moves of `rotate`, `loop`
    and `handleRequest` need no argument -/
def Inv (cfg : Cfg) (s : State) : Prop := InvAP cfg s.active s.perPeer

theorem inv_init (cfg : Cfg) (t0 : Int) : Inv cfg (State.init t0) :=
  ⟨fun _ _ => Nat.zero_le _, fun _ => rfl, fun _ => Nat.zero_le _, fun _ _ => Nat.zero_le _⟩

theorem inv_noteEnd {cfg : Cfg} {s : State} (h : Inv cfg s) (p c : String) : Inv cfg (noteEnd s p c) := by
  unfold noteEnd
  split
  · next hk =>
    refine ⟨fun p' c' => Nat.le_trans (matchCount_erase_le ..) (h.uniq p' c'), fun q => ?_, fun hG => ?_, fun hP q => ?_⟩
    · have := countPeer_erase_of_hasAct h.uniq hk q
      have := h.count q
      show drop s.perPeer p q = countPeer q (eraseAct s.active p c)
      rw [drop_apply]
      omega
    · have := length_erase p c s.active
      have := h.glob hG
      show (eraseAct s.active p c).length ≤ _
      omega
    · have := h.peer hP q
      show drop s.perPeer p q ≤ _
      rw [drop_apply]
      omega
  · exact h

theorem inv_noteStart {cfg : Cfg} {s : State} (h : Inv cfg s) (p c : String) (now : Int)
    (hd : canDispatch cfg s p = true) : Inv cfg (noteStart s p c now) := by
  simp only [canDispatch, canAccept, Bool.and_eq_true, Bool.or_eq_true, beq_iff_eq, decide_eq_true_eq] at hd
  refine ⟨fun p' c' => ?_, fun q => ?_, fun hG => ?_, fun hP q => ?_⟩
  · show matchCount p' c' (eraseAct s.active p c ++ [⟨p, c, now⟩]) ≤ 1
    rw [matchCount_append_single]
    split
    · next e => rw [← e.1, ← e.2, matchCount_erase_same]; exact Nat.le_refl 1
    · exact Nat.le_trans (matchCount_erase_le ..) (h.uniq p' c')
  · have := h.count q
    show (if (!hasAct s.active p c) = true then bump s.perPeer p else s.perPeer) q
          = countPeer q (eraseAct s.active p c ++ [⟨p, c, now⟩])
    rw [countPeer_append_single]
    show _ = _ + if p = q then 1 else 0
    -- a start over a live entry replaces it and keeps the counter; otherwise both grow by one
    cases hk : hasAct s.active p c
    · rw [eraseAct_of_not_hasAct hk]
      show bump s.perPeer p q = _
      rw [bump_apply]
      omega
    · have := countPeer_erase_of_hasAct h.uniq hk q
      show s.perPeer q = _
      omega
  · have := length_erase p c s.active
    show (eraseAct s.active p c ++ [(⟨p, c, now⟩ : Act)]).length ≤ _
    rw [List.length_append, List.length_singleton]
    omega
  · have := h.peer hP q
    show (if (!hasAct s.active p c) = true then bump s.perPeer p else s.perPeer) q ≤ _
    split
    · rw [bump_apply]
      split
      · next hq => subst hq; omega
      · exact this
    · exact this

theorem inv_endAll {cfg : Cfg} {keys : List (String × String)} :
    ∀ {s : State}, Inv cfg s → Inv cfg (endAll s keys) := by
  induction keys with
  | nil => exact id
  | cons k rest ih => exact fun h => ih (inv_noteEnd h k.1 k.2)

theorem inv_prune {cfg : Cfg} {s : State} (h : Inv cfg s) (now : Int) : Inv cfg (prune cfg now s) := by
  unfold prune
  split
  · exact h
  · exact inv_endAll h

theorem inv_dispatch {cfg : Cfg} {s : State} (h : Inv cfg s) (env : Env) (now : Int) (r : Req)
    (hd : canDispatch cfg s r.peer = true) : Inv cfg (dispatch env now s r).1 := by
  unfold dispatch
  split
  · exact h
  · split
    · exact h
    · split
      · exact h
      · exact inv_noteStart h _ _ _ hd

theorem inv_loop {cfg : Cfg} {env : Env} {now : Int} {n : Nat} {s : State} {fr : List Frame} :
    Inv cfg s → Inv cfg (loop cfg env now false n s fr).1 := by
  fun_induction loop cfg env now false n s fr with
  | case1 | case2 | case3 => exact id
  | case4 _ _ _ _ _ _ _ _ _ ih => exact ih
  | case5 _ s _ _ r rest _ _ hcd _ ih =>
    exact fun h => ih (inv_dispatch (s := { s with queue := rest }) h env now r (by simpa using hcd))

theorem inv_rotate {cfg : Cfg} {s : State} (h : Inv cfg s) (now : Int) : Inv cfg (rotate cfg now s) := by
  unfold rotate
  split
  · split <;> exact h
  · exact h

theorem inv_process {cfg : Cfg} {s : State} (h : Inv cfg s) (env : Env) (now : Int) :
    Inv cfg (process cfg env now s).1 := by
  unfold process
  dsimp only
  split
  · exact inv_prune h now
  · exact inv_loop (inv_rotate (inv_prune h now) now)

theorem inv_step {cfg : Cfg} {s : State} (h : Inv cfg s) (e : Step) : Inv cfg (step cfg s e).1 := by
  unfold step
  cases e.op with
  | request p c =>
    simp only [handleRequest]
    split
    · exact h
    · split
      · exact h
      · exact inv_process (s := { s with queue := s.queue ++ [⟨p, c⟩] }) h _ _
  | ack p c => exact inv_process (inv_noteEnd h p c) _ _
  | tick => exact inv_process h _ _

theorem inv_run {cfg : Cfg} (hist : List Step) : ∀ {s : State}, Inv cfg s → Inv cfg (run cfg s hist) := by
  induction hist with
  | nil => exact id
  | cons e rest ih => exact fun h => ih (inv_step h e)

def toLedger (l : List Act) : C23Spec.Ledger := l.map fun a => ⟨a.peer, a.chunk, a.started⟩

def sentOf : List Frame → List (String × String)
  | [] => []
  | .chunk p c :: r => (p, c) :: sentOf r
  | .nack _ _ :: r => sentOf r

theorem sentOf_append (a b : List Frame) : sentOf (a ++ b) = sentOf a ++ sentOf b := by
  induction a with
  | nil => rfl
  | cons f r ih => cases f <;> simp [sentOf, ih]

theorem startAll_append (L : C23Spec.Ledger) (now : Int) (a b : List (String × String)) :
    C23Spec.startAll L now (a ++ b) = C23Spec.startAll (C23Spec.startAll L now a) now b := by
  induction a generalizing L with
  | nil => rfl
  | cons k r ih => exact ih _

theorem running_toLedger (l : List Act) (p : String) : C23Spec.running (toLedger l) p = countPeer p l := by
  simp only [C23Spec.running, toLedger, countPeer, List.filter_map, List.length_map]
  rfl

theorem toLedger_erase (l : List Act) (p c : String) :
    toLedger (eraseAct l p c) = C23Spec.finish (toLedger l) p c := by
  simp only [toLedger, eraseAct, C23Spec.finish, List.filter_map]
  rfl

theorem noteEnd_active (s : State) (p c : String) : (noteEnd s p c).active = eraseAct s.active p c := by
  unfold noteEnd
  split
  · rfl
  · next hk => exact (eraseAct_of_not_hasAct (Bool.eq_false_iff.2 hk)).symm

theorem noteEnd_queue (s : State) (p c : String) : (noteEnd s p c).queue = s.queue := by
  unfold noteEnd; split <;> rfl

theorem toLedger_noteStart (s : State) (p c : String) (now : Int) :
    toLedger (noteStart s p c now).active = C23Spec.start (toLedger s.active) p c now := by
  show toLedger (eraseAct s.active p c ++ [⟨p, c, now⟩]) = _
  rw [toLedger, List.map_append, ← toLedger, toLedger_erase]
  rfl

def keyIn (keys : List (String × String)) (a : Act) : Bool := keys.any fun k => a.peer == k.1 && a.chunk == k.2

theorem endAll_active (keys : List (String × String)) :
    ∀ s : State, (endAll s keys).active = s.active.filter (fun a => !keyIn keys a) := by
  induction keys with
  | nil => exact fun s => (List.filter_eq_self.2 fun _ _ => rfl).symm
  | cons k rest ih =>
    intro s
    rw [endAll, ih, noteEnd_active, eraseAct, List.filter_filter]
    exact List.filter_congr fun a _ => by simp [keyIn, isKey, Bool.and_comm]

theorem endAll_queue (keys : List (String × String)) : ∀ s : State, (endAll s keys).queue = s.queue := by
  induction keys with
  | nil => exact fun s => rfl
  | cons k rest ih => exact fun s => (ih _).trans (noteEnd_queue ..)

theorem uniq_eq {l : List Act} (hu : Uniq l) {a b : Act} (ha : a ∈ l) (hb : b ∈ l)
    (hp : a.peer = b.peer) (hc : a.chunk = b.chunk) : a = b := by
  have ma : a ∈ l.filter (isKey b.peer b.chunk) := List.mem_filter.2 ⟨ha, (isKey_iff ..).2 ⟨hp, hc⟩⟩
  have mb : b ∈ l.filter (isKey b.peer b.chunk) := List.mem_filter.2 ⟨hb, (isKey_iff ..).2 ⟨rfl, rfl⟩⟩
  match l.filter (isKey b.peer b.chunk), (show (l.filter _).length ≤ 1 from hu b.peer b.chunk), ma, mb with
  | [x], _, ma, mb => exact (List.mem_singleton.1 ma).trans (List.mem_singleton.1 mb).symm
  | _ :: _ :: _, h1, _, _ => simp at h1

theorem prune_active {cfg : Cfg} {s : State} (hu : Uniq s.active) (now : Int) :
    toLedger (prune cfg now s).active = C23Spec.expire cfg.timeout now (toLedger s.active) := by
  unfold prune C23Spec.expire
  split
  · rfl
  · rw [endAll_active, toLedger, toLedger, List.filter_map]
    refine congrArg _ (List.filter_congr fun a ha => congrArg _ ?_)
    show keyIn _ a = isStale cfg now a
    cases hs : isStale cfg now a with
    | true =>
      exact List.any_eq_true.2 ⟨(a.peer, a.chunk), List.mem_map.2 ⟨a, List.mem_filter.2 ⟨ha, hs⟩, rfl⟩, by simp⟩
    | false =>
      refine List.any_eq_false.2 fun k hk hm => ?_
      obtain ⟨b, hb, rfl⟩ := List.mem_map.1 hk
      rw [Bool.and_eq_true, beq_iff_eq, beq_iff_eq] at hm
      rw [uniq_eq hu ha (List.mem_filter.1 hb).1 hm.1 hm.2, (List.mem_filter.1 hb).2] at hs
      cases hs

theorem prune_queue (cfg : Cfg) (now : Int) (s : State) : (prune cfg now s).queue = s.queue := by
  unfold prune; split
  · rfl
  · exact endAll_queue _ _

theorem dispatch_ledger (env : Env) (now : Int) (s : State) (r : Req) :
    toLedger (dispatch env now s r).1.active
      = C23Spec.startAll (toLedger s.active) now (sentOf (dispatch env now s r).2) := by
  unfold dispatch nackFrames
  split
  · split <;> rfl
  · split
    · rfl
    · split
      · split <;> rfl
      · exact toLedger_noteStart s r.peer r.chunk now

theorem loop_ledger {cfg : Cfg} {env : Env} {now : Int} {L : C23Spec.Ledger} {n : Nat} {s : State} {fr : List Frame} :
    C23Spec.startAll L now (sentOf fr) = toLedger s.active →
      C23Spec.startAll L now (sentOf (loop cfg env now false n s fr).2) = toLedger (loop cfg env now false n s fr).1.active := by
  fun_induction loop cfg env now false n s fr with
  | case1 | case2 | case3 => exact id
  | case4 _ _ _ _ _ _ _ _ _ ih => exact ih
  | case5 _ s _ _ r rest _ _ _ _ ih =>
    exact fun h => ih (by rw [sentOf_append, startAll_append, h]; exact (dispatch_ledger env now { s with queue := rest } r).symm)

theorem rotate_active (cfg : Cfg) (now : Int) (s : State) : (rotate cfg now s).active = s.active := by
  unfold rotate; split
  · split <;> rfl
  · rfl

theorem process_ledger {cfg : Cfg} {s : State} (hu : Uniq s.active) (env : Env) (now : Int) :
    toLedger (process cfg env now s).1.active
      = C23Spec.startAll (C23Spec.expire cfg.timeout now (toLedger s.active)) now
          (sentOf (process cfg env now s).2) := by
  unfold process
  dsimp only
  split
  · exact prune_active hu now
  · exact (loop_ledger (fr := []) ((prune_active hu now).symm.trans (congrArg _ (rotate_active ..).symm))).symm

end EphVerif.Uploads
