import EphVerif.Model.Advertise

/-! Helper lemmas for C34: where the automatically published hosts of the node model come from. -/
namespace EphVerif.C34L
open EphVerif.Adv EphVerif.Gen.C34

theorem candIf_admissible (ap : Bool) (via h : Str) (p : Nat) :
    ∀ c ∈ candIf ap via h p, admissible ap c.host c.port = true := by
  intro c hc
  unfold candIf at hc
  split at hc
  · simp only [List.mem_singleton] at hc; subst hc; assumption
  · simp at hc

theorem forall_mem_ite {α : Type} {P : α → Prop} (b : Prop) [Decidable b] {x y : List α}
    (hx : ∀ c ∈ x, P c) (hy : ∀ c ∈ y, P c) : ∀ c ∈ (if b then x else y), P c := by
  split <;> assumption

theorem build_admissible (cfg : Cfg) (echo : Str) (tp : Nat) (nat : NatRes) :
    ∀ c ∈ (build cfg echo tp nat).1, admissible cfg.allowPrivate c.host c.port = true := by
  intro c hc
  rcases List.mem_append.mp hc with hc | hc
  · exact forall_mem_ite _ (candIf_admissible _ _ _ _) (candIf_admissible _ _ _ _) c hc
  · exact forall_mem_ite _ (candIf_admissible _ _ _ _) (fun _ h => (List.not_mem_nil h).elim) c hc

theorem admissible_not_private (h : Str) (p : Nat) (ha : admissible false h p = true) : isPrivHost h = false := by
  unfold admissible at ha
  simp only [Bool.false_or, Bool.and_eq_true, Bool.not_eq_true'] at ha
  exact ha.2

theorem appendEps_mem (cs : List Cand) (tp : Nat) : ∀ (seen : List (Str × Nat)) (acc : List Ep) (e : Ep),
    e ∈ appendEps cs tp seen acc → e ∈ acc ∨ (e.manual = false ∧ ∃ c ∈ cs, e.host = c.host) := by
  induction cs with
  | nil => intro seen acc e h; exact Or.inl (by simpa [appendEps] using h)
  | cons c cs ih =>
    intro seen acc e h
    rw [appendEps] at h
    generalize (if (c.port != 0) = true then c.port else tp) = port at h
    by_cases hcond : (List.isEmpty c.host || port == 0 || seen.contains (c.host, port)) = true
    · rw [if_pos hcond] at h
      rcases ih _ _ _ h with h' | ⟨hm, c', hc', he⟩
      · exact Or.inl h'
      · exact Or.inr ⟨hm, c', List.mem_cons_of_mem _ hc', he⟩
    · rw [if_neg hcond] at h
      rcases ih _ _ _ h with h' | ⟨hm, c', hc', he⟩
      · rcases List.mem_append.mp h' with h'' | h''
        · exact Or.inl h''
        · simp only [List.mem_singleton] at h''
          subst h''
          exact Or.inr ⟨rfl, c, List.mem_cons_self, rfl⟩
      · exact Or.inr ⟨hm, c', List.mem_cons_of_mem _ hc', he⟩

theorem appendEps_nil (tp : Nat) (seen : List (Str × Nat)) (acc : List Ep) : appendEps [] tp seen acc = acc := rfl

theorem promoted_sub (mode : Mode) (conflict manualEmpty : Bool) (cands : List Cand) :
    ∀ c ∈ promoted mode conflict manualEmpty cands, c ∈ cands := by
  intro c hc
  unfold promoted at hc
  split at hc
  · simp at hc
  · split at hc
    · split at hc
      · split at hc
        · rename_i c' hfind
          simp only [List.mem_singleton] at hc
          subst hc
          exact List.mem_of_find?_eq_some hfind
        · exact List.mem_of_mem_take hc
      · exact hc
    · simp at hc

theorem promoted_warn_conflict (manualEmpty : Bool) (cands : List Cand) :
    promoted Mode.warn true manualEmpty cands = [] := by
  unfold promoted
  split
  · rfl
  · simp

theorem appendAll_mem : ∀ (l : List CEp) (seen : List (Str × Nat)) (e : CEp), e ∈ appendAll l seen → e ∈ l := by
  intro l
  induction l with
  | nil => intro seen e h; simp [appendAll] at h
  | cons x xs ih =>
    intro seen e h
    rw [appendAll] at h
    split at h
    · exact List.mem_cons_of_mem _ (ih _ _ h)
    · rcases List.mem_cons.mp h with h' | h'
      · exact h' ▸ List.mem_cons_self
      · exact List.mem_cons_of_mem _ (ih _ _ h')

theorem manual_filter (cfg : Cfg) : ∀ e ∈ cfg.endpoints.filter (·.manual), e.manual = true := by
  intro e he; exact (List.mem_filter.mp he).2

/-- What holds of the node after `refresh_advertised_endpoints`: candidates are admissible, automatic endpoints carry
candidate hosts, and with mode off, or with a conflict in warn mode, only the manual endpoints are left. -/
structure AfterRefresh (cfg : Cfg) (n : Node) : Prop where
  cfg_eq : n.cfg = cfg
  cands : ∀ c ∈ n.cands, admissible cfg.allowPrivate c.host c.port = true
  endpoints : ∀ e ∈ n.endpoints, e.manual = true ∨ ∃ c ∈ n.cands, e.host = c.host
  withheld : cfg.mode = Mode.off ∨ (cfg.mode = Mode.warn ∧ n.conflict = true) → ∀ e ∈ n.endpoints, e.manual = true

theorem refreshIdle_spec (cfg : Cfg) (tp : Nat) (nat : Option NatRes) : AfterRefresh cfg (refreshIdle cfg tp nat) :=
  ⟨rfl, nofun, fun e he => Or.inl (manual_filter cfg e he), fun _ => manual_filter cfg⟩

theorem refreshActive_spec (cfg : Cfg) (echo : Str) (tp : Nat) (nr : NatRes) (hoff : cfg.mode ≠ Mode.off) :
    AfterRefresh cfg (refreshActive cfg echo tp nr) := by
  refine ⟨rfl, build_admissible cfg echo tp nr, fun e he => ?_, fun hw e he => ?_⟩
  · rcases appendEps_mem _ _ _ _ _ he with h' | ⟨_, c, hc, hec⟩
    · exact Or.inl (manual_filter cfg e h')
    · exact Or.inr ⟨c, promoted_sub _ _ _ _ c hc, hec⟩
  · obtain ⟨hwarn, hconf⟩ := hw.resolve_left hoff
    simp only [refreshActive] at he hconf
    rw [hwarn, hconf, promoted_warn_conflict, appendEps_nil] at he
    exact manual_filter cfg e he

theorem refresh_spec (cfg : Cfg) (echo : Str) (tp : Nat) (nat : Option NatRes) :
    AfterRefresh cfg (refresh cfg echo tp nat) := by
  unfold refresh
  split
  · exact refreshIdle_spec cfg tp nat
  · rename_i hoff
    split
    · exact refreshIdle_spec cfg tp nat
    · split
      · exact refreshIdle_spec cfg tp none
      · exact refreshActive_spec cfg echo tp _ fun h => hoff (by rw [h]; rfl)

theorem preferred_auto (n : Node) (e : CEp) (he : e ∈ preferred n) (hm : e.manual = false) :
    (∃ ep ∈ n.endpoints, ep.manual = false ∧ ep.host = e.host) ∨
    (publishAuto n = true ∧ ∃ c ∈ n.cands, c.host = e.host) ∨
    (publishAuto n = true ∧ (n.cfg.allowPrivate = true ∨ isPrivHost e.host = false)) := by
  have hmem := appendAll_mem _ _ _ he
  simp only [List.mem_append] at hmem
  rcases hmem with (h | h) | h
  · left
    unfold prefListed at h
    split at h
    · obtain ⟨ep, hep, rfl⟩ := List.mem_map.mp h
      exact ⟨ep, hep, hm, rfl⟩
    · split at h
      · simp only [List.mem_singleton] at h; subst h; simp at hm
      · split at h
        · simp only [List.mem_singleton] at h; subst h; simp at hm
        · simp at h
  · right; left
    unfold prefCands at h
    split at h
    · rename_i hp
      obtain ⟨c, hc, rfl⟩ := List.mem_map.mp h
      exact ⟨hp, c, hc, rfl⟩
    · simp at h
  · right; right
    unfold prefSelf at h
    split at h
    · rename_i hp
      have hp' : publishAuto n = true := by
        simp only [Bool.and_eq_true] at hp; exact hp.1
      split at h
      · split at h
        · rename_i hh pp _ hallow
          simp only [List.mem_singleton] at h
          subst h
          refine ⟨hp', ?_⟩
          simp only [Bool.or_eq_true, Bool.not_eq_true'] at hallow
          exact hallow
        · simp at h
      · simp at h
    · simp at h

theorem autoHints_mem (n : Node) (h : Str) (hh : h ∈ autoHints n) :
    ∃ e ∈ preferred n, e.manual = false ∧ e.host = h := by
  unfold autoHints hints at hh
  obtain ⟨x, hx, rfl⟩ := List.mem_map.mp hh
  obtain ⟨hx1, hx2⟩ := List.mem_filter.mp hx
  obtain ⟨e, he, rfl⟩ := List.mem_map.mp hx1
  simp only at hx2 ⊢
  have hman : e.manual = false := by
    cases hm : e.manual
    · rfl
    · rw [hm] at hx2; simp only [if_true] at hx2; exact absurd hx2 (by decide)
  refine ⟨e, ?_, hman, rfl⟩
  rcases List.mem_append.mp he with h' | h' <;> exact (List.mem_filter.mp h').1

/-- With private advertising not allowed, no host the classifier flags is published automatically, neither in
`advertised_endpoints` nor among the non-manual manifest hints: every such host went through `append_candidate`
or the filter of `append_self_endpoint`. -/
theorem AfterRefresh.not_published {cfg : Cfg} {n : Node} (hn : AfterRefresh cfg n) (hpriv : cfg.allowPrivate = false)
    (s : Str) (hs : isPrivHost s = true) : s ∉ autoAdvertised n ++ autoHints n := by
  suffices ∀ h ∈ autoAdvertised n ++ autoHints n, isPrivHost h = false from
    fun hmem => Bool.noConfusion ((this s hmem).symm.trans hs)
  have hcands : ∀ c ∈ n.cands, isPrivHost c.host = false :=
    fun c hc => admissible_not_private _ _ (hpriv ▸ hn.cands c hc)
  have heps : ∀ e ∈ n.endpoints, e.manual = false → isPrivHost e.host = false := by
    intro e he hm
    rcases hn.endpoints e he with h' | ⟨c, hc, hec⟩
    · rw [hm] at h'; cases h'
    · rw [hec]; exact hcands c hc
  intro h hh
  rcases List.mem_append.mp hh with hh | hh
  · obtain ⟨e, he, rfl⟩ := List.mem_map.mp hh
    obtain ⟨he1, he2⟩ := List.mem_filter.mp he
    exact heps e he1 (by simpa using he2)
  · obtain ⟨e, he, hm, rfl⟩ := autoHints_mem _ _ hh
    rcases preferred_auto _ e he hm with ⟨ep, hep, hepm, hhost⟩ | ⟨_, c, hc, hhost⟩ | ⟨_, hself⟩
    · rw [← hhost]; exact heps ep hep hepm
    · rw [← hhost]; exact hcands c hc
    · rw [hn.cfg_eq, hpriv] at hself
      exact hself.resolve_left nofun

end EphVerif.C34L
