/-
C10: lemmas about the model's `split` and `combine` (share-index loop, validation loop, byte-wise
interpolation) used by `Proofs/C10.lean`.
-/
import EphVerif.Lemmas.C10Interp

namespace EphVerif.C10L
open EphVerif.Shamir EphVerif.Gen.C10

/-- With a counter type that can hold `count + 1`, the loop exits after pushing the `k` indices `idx, idx+1, …, count`. -/
theorem shareIndices_ok (M n : Nat) (hM : n + 1 < M) : ∀ (k fuel idx : Nat) (acc : List Nat),
    idx + k = n + 1 → k < fuel → shareIndices M n fuel idx acc = some (acc ++ List.range' idx k)
  | _, 0, _, _, _, h => absurd h (Nat.not_lt_zero _)
  | 0, fuel + 1, idx, acc, hk, _ => by
    rw [shareIndices, if_neg (by omega), List.range'_zero, List.append_nil]
  | k + 1, fuel + 1, idx, acc, hk, hf => by
    rw [shareIndices, if_pos (by omega), Nat.mod_eq_of_lt (by omega),
      shareIndices_ok M n hM k fuel (idx + 1) _ (by omega) (by omega), List.range'_succ, List.append_assoc]
    rfl

/-- A counter of `M` values never exceeds `count = M - 1`: the exit test never fails, whatever the fuel
    (the original `std::uint8_t` counter with `share_count = 255`). -/
theorem shareIndices_wrap {M : Nat} (hM : 0 < M) : ∀ (fuel idx : Nat) (acc : List Nat), idx < M →
    shareIndices M (M - 1) fuel idx acc = none
  | 0, _, _, _ => rfl
  | fuel + 1, idx, acc, h => by
    rw [shareIndices, if_pos (by omega)]
    exact shareIndices_wrap hM fuel _ _ (Nat.mod_lt _ hM)

theorem kShareIndexModulus_gt' : 256 < kShareIndexModulus := by decide

theorem split_eq (rd : Nat → Nat) (secret : List Nat) {t n : Nat} (ht : 1 ≤ t) (htn : t ≤ n) (hn : n ≤ 255) :
    split rd secret t n = .ok ((List.range' 1 n).map (mkShare rd secret t)) := by
  unfold split
  rw [if_neg (by omega), if_neg (by omega), kShareIndexStart_eq,
    shareIndices_ok kShareIndexModulus n (by have := kShareIndexModulus_gt'; omega) n splitFuel 1 [] (by omega)
      (by unfold splitFuel; omega)]
  simp

theorem mkShareP_index (pb : Bool) (rd : Nat → Nat) (secret : List Nat) (t : Nat) {x : Nat} (hx : x < 256) :
    (mkShareP pb rd secret t x).index = x := Nat.mod_eq_of_lt hx

theorem coeffsForP_length (pb : Bool) (rd : Nat → Nat) (t b : Nat) : (coeffsForP pb rd t b).length = t - 1 := by
  simp [coeffsForP, kDegreeStart_eq]

theorem coeffsForP_bytes (pb : Bool) (rd : Nat → Nat) (t b : Nat) : Bytes (coeffsForP pb rd t b) :=
  List.forall_mem_map.2 fun _ _ => Nat.mod_lt _ (by decide)

theorem mkShareP_value_getD (pb : Bool) (rd : Nat → Nat) (secret : List Nat) (t : Nat) {x : Nat} (hx : x < 256) {b : Nat}
    (hb : b < secret.length) :
    (mkShareP pb rd secret t x).value.getD b 0 = evalPoly x (secret.getD b 0) (coeffsForP pb rd t b) := by
  simp [mkShareP, Nat.mod_eq_of_lt hx, List.getD_eq_getElem?_getD, hb]

theorem mkShareP_value_length (pb : Bool) (rd : Nat → Nat) (secret : List Nat) (t x : Nat) :
    (mkShareP pb rd secret t x).value.length = secret.length := by
  simp [mkShareP]

/-- `s` is a point of the sharing of `secret`: its index lies in `1 … 255` and byte `b` of its value is the value there of
    the polynomial `secret[b] + c₁X + … + c_{t-1}X^{t-1}` of byte `b` (what `split` promises of each of its shares). -/
structure OnSharing (pb : Bool) (rd : Nat → Nat) (secret : List Nat) (t : Nat) (s : Share) : Prop where
  index_pos : 1 ≤ s.index
  index_le : s.index ≤ 255
  value : ∀ b, b < secret.length → s.value.getD b 0 = evalPoly s.index (secret.getD b 0) (coeffsForP pb rd t b)

theorem onSharing_mkShareP (pb : Bool) (rd : Nat → Nat) (secret : List Nat) (t : Nat) {x : Nat} (h1 : 1 ≤ x)
    (hx : x ≤ 255) : OnSharing pb rd secret t (mkShareP pb rd secret t x) := by
  have hx' : x < 256 := by omega
  have hi := mkShareP_index pb rd secret t hx'
  exact ⟨hi.symm ▸ h1, hi.symm ▸ hx, fun b hb => hi.symm ▸ mkShareP_value_getD pb rd secret t hx' hb⟩

theorem onSharing_of_mem_split {rd : Nat → Nat} {secret : List Nat} {t n : Nat} (hn : n ≤ 255) {s : Share}
    (hs : s ∈ (List.range' 1 n).map (mkShare rd secret t)) : OnSharing kDrawPerByte rd secret t s := by
  obtain ⟨x, hx, rfl⟩ := List.mem_map.1 hs
  have := List.mem_range'_1.1 hx
  exact onSharing_mkShareP _ rd secret t (by omega) (by omega)

theorem validIndices_iff (l seen : List Nat) :
    validIndices l seen = true ↔ 0 ∉ l ∧ l.Disjoint seen ∧ l.Nodup := by
  induction l generalizing seen with
  | nil => simp [validIndices]
  | cons x l ih =>
    by_cases h : x = 0 ∨ x ∈ seen
    · simp only [validIndices, if_pos h, List.mem_cons, List.disjoint_cons_left]
      rcases h with h | h <;> simp [h]
    · simp only [validIndices, if_neg h, ih, List.mem_cons, List.disjoint_cons_left, List.disjoint_cons_right,
        List.nodup_cons]
      simp only [not_or] at h ⊢
      constructor
      · rintro ⟨a, ⟨b, c⟩, d⟩; exact ⟨⟨Ne.symm h.1, a⟩, ⟨h.2, c⟩, b, d⟩
      · rintro ⟨⟨_, a⟩, ⟨_, c⟩, b, d⟩; exact ⟨a, ⟨b, c⟩, d⟩

theorem combineN_eq (bytes : Nat) (sel : List Share) (t : Nat) :
    combineN bytes sel t =
      if t ≤ sel.length ∧ 0 ∉ (sel.take t).map (·.index) ∧ ((sel.take t).map (·.index)).Nodup then
        interpolate bytes (sel.take t)
      else .invalidArgument := by
  by_cases h : t ≤ sel.length
  · simp [combineN, validIndices_iff, h]
  · simp [combineN, h]

theorem sequence_map_ok {α : Type} (l : List Nat) (F : Nat → Outcome α) (f : Nat → α)
    (h : ∀ b ∈ l, F b = .ok (f b)) : Shamir.sequence (l.map F) = .ok (l.map f) := by
  induction l with
  | nil => rfl
  | cons b l ih =>
    have ih := ih (fun c hc => h c (List.mem_cons_of_mem _ hc))
    simp only [List.map_cons, h b (List.mem_cons_self), Shamir.sequence, ih]

theorem gfDiv_ne_hang (a b : Nat) : gfDiv a b ≠ .hang := by
  unfold gfDiv
  split
  · nofun
  · split <;> nofun

theorem interpStep_ne_hang (xs ys : List Nat) {acc : Outcome Nat} (h : acc ≠ .hang) (i : Nat) :
    interpStep xs ys acc i ≠ .hang := by
  cases acc with
  | hang => exact absurd rfl h
  | invalidArgument => exact h
  | ok v =>
    dsimp only [interpStep]
    split
    · exact h
    · split
      · nofun
      · nofun
      · next heq => exact absurd heq (gfDiv_ne_hang _ _)

theorem foldl_interpStep_ne_hang (xs ys : List Nat) : ∀ (l : List Nat) {acc : Outcome Nat}, acc ≠ .hang →
    l.foldl (interpStep xs ys) acc ≠ .hang
  | [], _, h => h
  | i :: l, _, h => foldl_interpStep_ne_hang xs ys l (interpStep_ne_hang xs ys h i)

theorem sequence_ne_hang : ∀ l : List (Outcome Nat), (∀ o ∈ l, o ≠ .hang) → Shamir.sequence l ≠ .hang
  | [], _ => nofun
  | .hang :: _, h => absurd rfl (h _ List.mem_cons_self)
  | .invalidArgument :: _, _ => nofun
  | .ok v :: l, h => by
    rw [Shamir.sequence]
    split
    · nofun
    · nofun
    · next heq => exact absurd heq (sequence_ne_hang l fun o ho => h o (List.mem_cons_of_mem _ ho))

theorem interpolate_ne_hang (bytes : Nat) (shares : List Share) : interpolate bytes shares ≠ .hang := by
  apply sequence_ne_hang
  intro o ho
  obtain ⟨b, _, rfl⟩ := List.mem_map.1 ho
  exact foldl_interpStep_ne_hang _ _ _ nofun

end EphVerif.C10L
