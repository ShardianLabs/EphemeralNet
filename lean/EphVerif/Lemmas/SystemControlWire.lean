/-
SystemControl, wire side: the bytes `ControlClient::send` writes for the CLI's STORE parse into the
request of `Lemmas/SystemControl.lean`, and the daemon's OK_STORE response reaches the CLI intact
(C29.roundtrip).
-/
import EphVerif.Lemmas.SystemControl

namespace EphVerif.System.Control
open EphVerif EphVerif.Control

/-- one `KEY:value` header as the client writes it (the key already upper-cased) -/
def headerLine (p : Bytes × Bytes) : Bytes := p.1 ++ 58 :: p.2

/-- `ControlClient::send(command, fields, payload)`: COMMAND, TOKEN (if configured), the fields in the
    iteration order of the map, PAYLOAD-LENGTH (if there is a payload), blank line, payload.
    `headers` is that whole list of pairs, in order. -/
def clientBytes (headers : Fields) (payload : Bytes) : Bytes :=
  wireLines (headers.map headerLine) ++ 10 :: payload

/-- a key the client writes: no colon, CR or LF, upper case, short (`decide` shows it of a literal) -/
def ClientKeyOk (k : Bytes) : Prop := (∀ c ∈ k, c ≠ 58 ∧ c ≠ 10 ∧ c ≠ 13) ∧ toUpper k = k ∧ k.length ≤ 100

instance (k : Bytes) : Decidable (ClientKeyOk k) := by unfold ClientKeyOk; infer_instance

/-- a value the line framing carries unchanged -/
def ClientValueOk (v : Bytes) : Prop := (∀ b ∈ v, b ≠ 10 ∧ b ≠ 13) ∧ v.length ≤ 16000

instance (v : Bytes) : Decidable (ClientValueOk v) := by unfold ClientValueOk; infer_instance

theorem clientKeyOk_payloadLength : ClientKeyOk (ascii "PAYLOAD-LENGTH") := by decide +kernel

theorem clientValueOk_toDec {n : Nat} (hn : n < 18446744073709551616) : ClientValueOk (toDec n) :=
  ⟨fun b hb => ⟨(toDec_clean n b hb).1, (toDec_clean n b hb).2.1⟩, by have := toDec_len20 hn; omega⟩

theorem headerLine_good {k v : Bytes} (hk : ClientKeyOk k) (hv : ClientValueOk v) :
    GoodLine serverMaxLine (headerLine (k, v)) ∧ stripCR (headerLine (k, v)) = headerLine (k, v) := by
  have hclean : ∀ c ∈ headerLine (k, v), c ≠ 10 ∧ c ≠ 13 :=
    List.forall_mem_append.mpr ⟨fun c hc => (hk.1 c hc).2, List.forall_mem_cons.mpr ⟨by decide, hv.1⟩⟩
  have hs := stripCR_id fun c hc => (hclean c hc).2
  refine ⟨⟨fun c hc => (hclean c hc).1, ?_, ?_⟩, hs⟩
  · rw [hs]
    exact List.append_ne_nil_of_right_ne_nil _ (List.cons_ne_nil _ _)
  · have hM : 16101 ≤ serverMaxLine := by decide
    rw [hs]
    simp only [headerLine, List.length_append, List.length_cons]
    have := hk.2.2; have := hv.2; omega

theorem reqLine_plain (cap : Nat) (st : ReqState) {k : Bytes} (v : Bytes) (hk : ClientKeyOk k) (hpl : k ≠ ascii "PAYLOAD-LENGTH") :
    reqLine cap st (headerLine (k, v)) = .next { st with sawAnyLines := true, fields := setField st.fields k v } := by
  unfold reqLine headerLine
  simp only [splitColon_append k v fun c hc => (hk.1 c hc).1, hk.2.1, hpl, ↓reduceIte]

theorem reqLine_payloadLength (cap n : Nat) (st : ReqState) (hn : n ≤ cap) (h64 : n < 18446744073709551616) :
    reqLine cap st (headerLine (ascii "PAYLOAD-LENGTH", toDec n)) =
      .next { st with sawAnyLines := true, payloadLength := some n, headerPresent := true,
                      fields := setField st.fields (ascii "PAYLOAD-LENGTH") (toDec n) } := by
  have hk := clientKeyOk_payloadLength
  have hg : cmpGt Gen.C28.payloadCapStrict (n : Int) (cap : Int) = false := by
    have : Gen.C28.payloadCapStrict = 1 := by decide
    simp only [cmpGt, this, ↓reduceIte, decide_eq_false_iff_not]
    omega
  unfold reqLine headerLine
  simp only [splitColon_append _ _ fun c hc => (hk.1 c hc).1, hk.2.1, ↓reduceIte, parseU64_toDec n h64, hg, Bool.false_eq_true]

theorem foldLines_plain (cap : Nat) (rest : List Bytes) : ∀ (hs : Fields) (st : ReqState),
    (∀ p ∈ hs, ClientKeyOk p.1 ∧ p.1 ≠ ascii "PAYLOAD-LENGTH") → (∀ p ∈ hs, ClientValueOk p.2) →
    foldLines (reqLine cap) st (hs.map headerLine ++ rest) =
      foldLines (reqLine cap) { st with sawAnyLines := st.sawAnyLines || !hs.isEmpty,
                                        fields := hs.foldl (fun fs p => setField fs p.1 p.2) st.fields } rest
  | [], st, _, _ => by simp
  | (k, v) :: hs, st, hk, hv => by
    obtain ⟨hk0, hk⟩ := List.forall_mem_cons.mp hk
    obtain ⟨hv0, hv⟩ := List.forall_mem_cons.mp hv
    simp only [List.map_cons, List.cons_append, foldLines, (headerLine_good hk0.1 hv0).2, reqLine_plain cap st v hk0.1 hk0.2]
    rw [foldLines_plain cap rest hs _ hk hv]
    simp

/-- **a request the client writes is parsed back into exactly its headers and payload**:
    `headers` are ordinary headers with distinct keys (COMMAND, TOKEN, the command's fields), followed
    by PAYLOAD-LENGTH for a non-empty payload within the cap -/
theorem client_request_parses {cap : Nat} {headers : Fields} {payload : Bytes}
    (hk : ∀ p ∈ headers, ClientKeyOk p.1 ∧ p.1 ≠ ascii "PAYLOAD-LENGTH") (hv : ∀ p ∈ headers, ClientValueOk p.2)
    (hnodup : (headers.map (·.1)).Nodup)
    (hpay : payload ≠ []) (hcap : payload.length ≤ cap) (h64 : payload.length < 18446744073709551616) :
    parseRequest cap (clientBytes (headers ++ [(ascii "PAYLOAD-LENGTH", toDec payload.length)]) payload) =
      .ok { fields := headers ++ [(ascii "PAYLOAD-LENGTH", toDec payload.length)], payload := payload,
            payloadHeaderPresent := true } [] := by
  have hpl := headerLine_good clientKeyOk_payloadLength (clientValueOk_toDec h64)
  have hgood : ∀ l ∈ (headers ++ [(ascii "PAYLOAD-LENGTH", toDec payload.length)]).map headerLine, GoodLine serverMaxLine l := by
    simp only [List.map_append, List.map_cons, List.map_nil, List.mem_append, List.mem_map, List.mem_singleton]
    rintro l (⟨p, hp, rfl⟩ | rfl)
    · exact (headerLine_good (hk p hp).1 (hv p hp)).1
    · exact hpl.1
  have hfields : headers.foldl (fun fs p => setField fs p.1 p.2) [] = headers :=
    C29.foldl_setField_fresh headers [] hnodup (fun _ _ _ hp => nomatch hp)
  have hpos : payload.length > 0 := List.length_pos_iff.mpr hpay
  unfold parseRequest clientBytes
  rw [lineLoop_block serverMaxLine (reqLine cap) _ payload {} hgood, List.map_append, foldLines_plain cap _ headers {} hk hv]
  simp [foldLines, hpl.2, reqLine_payloadLength cap payload.length _ hcap h64, hfields,
    setField_fresh fun p hp => (hk p hp).2, hpos]

/-- what the framing needs of the CLI's inputs: a token without CR/LF, token and path lines within 16 KiB,
    numbers that are `uint64` -/
structure CliStoreWireOk (c : CliStore) (nonce : Nat) : Prop where
  token : ∀ t, c.token = some t → (∀ b ∈ t, b ≠ 10 ∧ b ≠ 13) ∧ t.length ≤ 16000
  path : (Pow.cliWirePath c.path).length ≤ 16000
  ttl : ∀ n, c.ttl = some n → n < 18446744073709551616
  nonce : nonce < 18446744073709551616

theorem cliStoreHeaders_keys (c : CliStore) (nonce : Nat) : ((cliStoreHeaders c nonce).map (·.1)).Sublist
    [ascii "COMMAND", ascii "TOKEN", ascii "PATH", ascii "TTL", ascii "STORE-POW"] := by
  simp only [cliStoreHeaders, List.map_append]
  exact ((((List.Sublist.refl _).append (keys_optField_sublist _ _)).append (.refl _)).append
    (keys_optField_sublist _ _)).append (.refl _)

theorem cli_store_bytes_parse {cap : Nat} {c : CliStore} {nonce : Nat} (hw : CliStoreWireOk c nonce)
    (hpay : c.payload ≠ []) (hcap : c.payload.length ≤ cap) (h64 : c.payload.length < 18446744073709551616) :
    parseRequest cap (clientBytes (cliStoreHeaders c nonce ++ [(ascii "PAYLOAD-LENGTH", toDec c.payload.length)]) c.payload) =
      .ok (cliStoreRequest c nonce) [] := by
  have hsub := cliStoreHeaders_keys c nonce
  have hlit : ∀ k ∈ [ascii "COMMAND", ascii "TOKEN", ascii "PATH", ascii "TTL", ascii "STORE-POW"],
      ClientKeyOk k ∧ k ≠ ascii "PAYLOAD-LENGTH" := by decide +kernel
  refine client_request_parses (fun p hp => hlit p.1 (hsub.subset (List.mem_map_of_mem hp))) ?_
    (hsub.nodup (by decide +kernel)) hpay hcap h64
  simp only [cliStoreHeaders, List.forall_mem_append, forall_mem_optField, List.forall_mem_singleton, Option.map_eq_some_iff]
  refine ⟨⟨⟨⟨by decide +kernel, hw.token⟩, cliWirePath_clean c.path, hw.path⟩, ?_⟩, clientValueOk_toDec hw.nonce⟩
  rintro _ ⟨n, hn, rfl⟩
  exact clientValueOk_toDec (hw.ttl n hn)

theorem linesOk_toDec {k : Bytes} {n : Nat} (hk : ∀ c ∈ k, c ≠ 10) (hl : k.length ≤ 20) (hn : n < 18446744073709551616) :
    LinesOk clientMaxLine k (toDec n) := by
  have hM : 41 ≤ clientMaxLine := by decide
  have := toDec_len20 hn
  exact LinesOk.of_plain hk (fun c hc => ⟨(toDec_clean n c hc).1, (toDec_clean n c hc).2.1, (toDec_clean n c hc).2.2.1⟩) (by omega)

theorem keysOk_of_class {fs : Fields}
    (h : ∀ k ∈ fs.map (·.1), C29.keyClass k = true ∧ k ≠ ascii "STATUS" ∧ k ≠ ascii "PAYLOAD-LENGTH") : ∀ e ∈ fs, KeyOk e.1 :=
  fun e he => have hk := h e.1 (List.mem_map_of_mem he); C29.keyOk_of_class hk.1 hk.2.1 hk.2.2

theorem getField_of_perm {emitted fs : Fields} (hperm : emitted.Perm fs) (hn : (fs.map (·.1)).Nodup) {k v : Bytes}
    (hm : (k, v) ∈ fs) : getField emitted k = some v :=
  C29.getField_of_mem ((hperm.map _).nodup_iff.mpr hn) (hperm.mem_iff.mpr hm)

/-- what `handle_store` hands to `send_response` on success: CODE, MANIFEST, SIZE, TTL and the echoed PATH -/
def storeResponse (manifestUri source : Bytes) (size ttl : Nat) : Response :=
  { success := true,
    fields := [(ascii "CODE", ascii "OK_STORE"), (ascii "MANIFEST", manifestUri), (ascii "SIZE", toDec size),
               (ascii "TTL", toDec ttl), (ascii "SOURCE", source)] }

theorem storeResponse_emittable (limit : Nat) (manifestUri source : Bytes) (size ttl : Nat)
    (hlines : LinesOk clientMaxLine (ascii "MANIFEST") manifestUri ∧ LinesOk clientMaxLine (ascii "SOURCE") source)
    (hsize : size < 18446744073709551616) (httl : ttl < 18446744073709551616) :
    C29.Emittable limit (storeResponse manifestUri source size ttl) := by
  refine ⟨keysOk_of_class ?_, ?_, ?_, Nat.zero_le _, Nat.zero_lt_succ _, fun _ => rfl⟩
  · simp only [storeResponse, List.map_cons, List.map_nil]
    decide +kernel
  · simp only [storeResponse, List.forall_mem_cons, List.not_mem_nil, false_imp_iff, implies_true, and_true]
    exact ⟨LinesOk.of_plain (by decide +kernel) (by decide +kernel) (by decide +kernel), hlines.1,
      linesOk_toDec (by decide +kernel) (by decide +kernel) hsize,
      linesOk_toDec (by decide +kernel) (by decide +kernel) httl, hlines.2⟩
  · simp only [storeResponse, List.map_cons, List.map_nil]
    decide +kernel

end EphVerif.System.Control
