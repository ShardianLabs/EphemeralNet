/-
C10: `interpolate` (and with it `combine`) on `t` points of a sharing with distinct indices returns the secret;
`interpolate` on any well-formed selection returns a value.
-/
import EphVerif.Lemmas.C10Sharing

namespace EphVerif.C10L
open EphVerif.Shamir EphVerif.Gen.C10 Polynomial

theorem interpolate_onSharing {pb : Bool} {rd : Nat → Nat} {secret : List Nat} (hsec : Bytes secret) {t : Nat}
    (ht : 1 ≤ t) {sub : List Share} (hlen : sub.length = t) (hon : ∀ s ∈ sub, OnSharing pb rd secret t s)
    (hnd : (sub.map (·.index)).Nodup) :
    interpolate secret.length sub = .ok secret := by
  unfold interpolate
  rw [sequence_map_ok _ _ (fun b => secret.getD b 0), range_map_getD]
  intro b hb
  have hb : b < secret.length := List.mem_range.1 hb
  have hsb : secret.getD b 0 < 256 := getD_lt hsec b
  have hxs : Bytes (sub.map (·.index)) := List.forall_mem_map.2 fun s hs => Nat.lt_succ_of_le (hon s hs).index_le
  have hys : Bytes (sub.map fun s => s.value.getD b 0) :=
    List.forall_mem_map.2 fun s hs => (hon s hs).value b hb ▸ evalPoly_lt hsb
  obtain ⟨v, h0, h1, h2⟩ := interpolateByte_of_poly hxs hys hnd
    (polyOfList (g (secret.getD b 0) :: (coeffsForP pb rd t b).map g))
    (by
      have := degree_polyOfList_lt (g (secret.getD b 0) :: (coeffsForP pb rd t b).map g)
      rw [List.length_map, hlen]
      rwa [List.length_cons, List.length_map, coeffsForP_length, Nat.sub_add_cancel ht] at this)
    (fun i hi => by
      have hi : i < sub.length := by rwa [List.length_map] at hi
      have h := hon _ (List.getElem_mem hi)
      rw [getD_map_of_lt _ _ _ hi, getD_map_of_lt _ _ _ hi, h.value b hb,
        evalPoly_g (Nat.lt_succ_of_le h.index_le) hsb (coeffsForP_bytes pb rd t b)])
  rw [h0, g_inj h1 hsb (h2.trans (eval_polyOfList_zero ..))]

theorem combineN_onSharing {pb : Bool} {rd : Nat → Nat} {secret : List Nat} (hsec : Bytes secret) {t : Nat}
    (ht : 1 ≤ t) {sel : List Share} (hlen : t ≤ sel.length) (hon : ∀ s ∈ sel.take t, OnSharing pb rd secret t s)
    (hnd : ((sel.take t).map (·.index)).Nodup) :
    combineN secret.length sel t = .ok secret := by
  have h0 : 0 ∉ (sel.take t).map (·.index) := fun h => by
    obtain ⟨s, hs, h⟩ := List.mem_map.1 h
    exact absurd (h ▸ (hon s hs).index_pos) (by decide)
  rw [combineN_eq, if_pos ⟨hlen, h0, hnd⟩]
  exact interpolate_onSharing hsec ht (List.length_take_of_le hlen) hon hnd

/-- Well-formed input never makes `interpolate` throw: with distinct indices every denominator is non-zero. -/
theorem interpolate_total (bytes : Nat) (sub : List Share) (hx : Bytes (sub.map (·.index)))
    (hv : ∀ s ∈ sub, Bytes s.value) (hnd : (sub.map (·.index)).Nodup) :
    ∃ v, interpolate bytes sub = .ok v ∧ v.length = bytes ∧ Bytes v := by
  have key : ∀ b, ∃ v, interpolateByte (sub.map (·.index)) (sub.map fun s => s.value.getD b 0) = .ok v ∧ v < 256 :=
    fun b =>
      have ⟨v, h0, h1, _⟩ := interpolateByte_lagrange hx (List.forall_mem_map.2 fun s hs => getD_lt (hv s hs) b) hnd
      ⟨v, h0, h1⟩
  choose f hf using key
  exact ⟨(List.range bytes).map f, sequence_map_ok _ _ _ fun b _ => (hf b).1, by simp,
    List.forall_mem_map.2 fun b _ => (hf b).2⟩

end EphVerif.C10L
