/-
C16: the decoder's length arithmetic is done in `std::size_t`; the model uses `Nat`.  Every
intermediate sum the decoder forms from 32-bit length fields is below 2^64, so on LP64 the C++
arithmetic cannot wrap and coincides with the model's.  (On a 32-bit `size_t` these sums *could*
wrap; the claim is for LP64 only and is listed as an assumption of the check.)  Core Lean only.
-/
import EphVerif.Lemmas.C15Bytes

namespace EphVerif.Message
open EphVerif.Gen.C15

/-- `parse_announce_payload`: `expected_size = cursor + 32 + 32 + endpoint_len + manifest_len + assignments_len + extra` -/
theorem announce_expectedSize_fits {d : Bytes} {el ml al extra : Nat}
    (h1 : rdU32 d 4 = some el) (h2 : rdU32 d 8 = some ml) (h3 : rdU32 d 12 = some al) (he : extra ≤ 8) :
    16 + kChunkIdSize + kPeerIdSize + el + ml + al + extra < 2 ^ 64 := by
  have := rdU32_lt h1
  have := rdU32_lt h2
  have := rdU32_lt h3
  have hc : kChunkIdSize = 32 := rfl
  have hp : kPeerIdSize = 32 := rfl
  omega

/-- `decode_payload_v1`, Chunk: `expected = 8 + 32 + data_len` -/
theorem chunk_expected_fits {d : Bytes} {dl : Nat} (h : rdU32 d 4 = some dl) : 8 + kChunkIdSize + dl < 2 ^ 64 := by
  have := rdU32_lt h
  have hc : kChunkIdSize = 32 := rfl
  omega

/-- every cursor position used for a read is within the (already checked) expected size -/
theorem announce_cursor_le {el ml al extra : Nat} :
    16 + kChunkIdSize + kPeerIdSize + el + ml + al ≤ 16 + kChunkIdSize + kPeerIdSize + el + ml + al + extra := by
  omega

end EphVerif.Message
