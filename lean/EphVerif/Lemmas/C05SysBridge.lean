/-
System-level composition (extension of C05), part 1.  The C05 node model computes lifetimes with hand-written
functions over a `ChunkStore.NodeCfg`; C02 and C03 are proved over the *generated* ones (`Generated/C02.lean`) over a raw
`Gen.C02.Cfg`.  Here the two are shown equal on `sysCfg` (built through the generated `sanitize_config`), and the bounds
`C02.store`, `C02L.window`, `C03.cap` are imported for the lifetimes the C05 model records.
-/
import EphVerif.Lemmas.C05Run
import EphVerif.Proofs.C02
import EphVerif.Proofs.C03

namespace EphVerif.Sys
open EphVerif.NodeCleanup
open EphVerif.Gen.C02 (clamp_chunk_ttl manifest_ttl enforce_manifest_ttl sanitize_config store_chunk_put_ttl
  store_chunk_shard_ttl store_chunk_announce_ttl store_chunk_manifest_expires chunkstore_put_ttl compute_expiry
  publish_shards_expires add_contact_expires announce_chunk_contact_ttl announce_advertised_ttl ingest_ttl_source
  ingest_shard_ttl announce_ttl_source announce_shard_ttl)

/-- a raw configuration, as handed to the `Node` constructor (any field values) -/
abbrev Raw := EphVerif.Gen.C02.Cfg

/-- what the node is constructed with besides the TTL configuration.  `cleanup` is
    `Config::cleanup_interval` in seconds: **the code never sanitises it** (any `int64`, also `≤ 0` or
    astronomically large). -/
structure Env where
  cleanup : Int
  rebalance : Int
  self : String
  selfId : Routing.Id
  wallOff : Int

/-- the `ChunkStore.NodeCfg` a raw configuration leads to: `Node::Node` stores `sanitize_config(config)` -/
def nodeCfg (raw : Raw) (cleanup : Int) : ChunkStore.NodeCfg :=
  { store := { defaultTtl := (Ttl.effective raw).default_chunk_ttl, persistent := false, wipeOnExpiry := true, passes := 1 },
    minTtl := (Ttl.effective raw).min_manifest_ttl, maxTtl := (Ttl.effective raw).max_manifest_ttl,
    cleanupInterval := cleanup }

def sysCfg (raw : Raw) (e : Env) : Cfg :=
  { node := nodeCfg raw e.cleanup, rebalance := e.rebalance, self := e.self, selfId := e.selfId, wallOff := e.wallOff }

def dayNs : Int := 86400 * 1000000000

theorem ns_eq : NodeCleanup.ns = 1000000000 ∧ ChunkStore.nsPerSec = 1000000000 ∧
    C02Spec.nsPerS = 1000000000 ∧ C03Spec.nsPerS = 1000000000 ∧ C05Spec.nsPerSec = 1000000000 := ⟨rfl, rfl, rfl, rfl, rfl⟩

theorem secs_to_ns {t : Int} (h0 : 0 < t) (h1 : t ≤ 86400) : 0 < t * ns ∧ t * ns ≤ dayNs := by
  simp only [ns, dayNs]; omega

theorem window (raw : Raw) : C02L.Window (Ttl.effective raw) := C02L.window raw

theorem sane (raw : Raw) (ci : Int) : ChunkStore.SaneCfg (nodeCfg raw ci) :=
  ⟨(window raw).min_pos, (window raw).min_le_max⟩

theorem max_le_day (raw : Raw) (e : Env) : (sysCfg raw e).node.maxTtl ≤ 86400 :=
  (window raw).max_le_day

def maxNs (cfg : Cfg) : Int := cfg.node.maxTtl * ns

theorem maxNs_le_day (raw : Raw) (e : Env) : maxNs (sysCfg raw e) ≤ dayNs := by
  have := max_le_day raw e
  simp only [maxNs, ns, dayNs]; omega

theorem clamp_bridge (a mn mx : Int) : ChunkStore.clampChunkTtl a mn mx = clamp_chunk_ttl a mn mx := by
  simp only [ChunkStore.clampChunkTtl, clamp_chunk_ttl, EphVerif.Gen.C01.kMinAllowedManifestTtlSec,
    EphVerif.Gen.C02.kMinAllowedManifestTtl]
  omega

theorem nodeTtl_bridge (raw : Raw) (ci ttl : Int) :
    ChunkStore.nodeTtl (nodeCfg raw ci) ttl = store_chunk_put_ttl ttl (Ttl.effective raw) := by
  simp only [ChunkStore.nodeTtl, store_chunk_put_ttl, clamp_bridge, nodeCfg]

theorem effTtl_bridge (raw : Raw) (ci d : Int) :
    ChunkStore.effTtl (nodeCfg raw ci).store d = chunkstore_put_ttl d (Ttl.effective raw) := by
  simp only [ChunkStore.effTtl, chunkstore_put_ttl, nodeCfg, EphVerif.Gen.C01.kMinimumTtlSec, EphVerif.Gen.C02.kMinimumTtl]
  omega

theorem manifestTtl_bridge (raw : Raw) (e : Env) (W E : Int) :
    manifestTtl (sysCfg raw e) W E = manifest_ttl E (Ttl.effective raw) W := by
  simp only [manifestTtl, manifest_ttl, enforce_manifest_ttl, sysCfg, nodeCfg, ns]
  by_cases h0 : E ≤ W
  · simp [h0]
  · -- the generated function divides with `Int.tdiv`, the model with `/`: the same on a positive difference
    simp only [h0, if_false]
    rw [Int.tdiv_eq_ediv_of_nonneg (by omega)]
    by_cases h1 : (E - W) / 1000000000 ≤ 0
    · simp [h1]
    · simp only [h1, if_false]
      rfl

theorem advertised_bridge (raw : Raw) (e : Env) (ttl t : Int) :
    advertised (sysCfg raw e) ttl t = announce_advertised_ttl ttl t (Ttl.effective raw) := by
  simp only [advertised, announce_advertised_ttl, clamp_bridge, sysCfg, nodeCfg]

def storeLifetimes (cfg : Cfg) (ttl : Int) : C02Spec.StoreDurations :=
  { chunk := ChunkStore.effTtl cfg.node.store (ChunkStore.nodeTtl cfg.node ttl) * ChunkStore.nsPerSec,
    manifest := ChunkStore.nodeTtl cfg.node ttl * ns,
    shard := ChunkStore.nodeTtl cfg.node ttl * ns,
    announce := ChunkStore.nodeTtl cfg.node ttl * ns }

theorem storeLifetimes_bridge (raw : Raw) (e : Env) (ttl steady wall : Int) (prevShard : Int := 0) :
    storeLifetimes (sysCfg raw e) ttl = Ttl.storeChunk raw ttl steady wall prevShard := by
  simp only [storeLifetimes, Ttl.storeChunk, Ttl.chunkStorePut, sysCfg, nodeTtl_bridge, effTtl_bridge,
    compute_expiry, publish_shards_expires, add_contact_expires, announce_chunk_contact_ttl,
    store_chunk_manifest_expires, store_chunk_shard_ttl, store_chunk_announce_ttl, store_chunk_put_ttl,
    ChunkStore.nsPerSec, ns]
  congr 1 <;> omega

theorem store_bounds (raw : Raw) (e : Env) (ttl : Int) :
    C02Spec.StoreOk (sysCfg raw e).node.minTtl (sysCfg raw e).node.maxTtl (storeLifetimes (sysCfg raw e) ttl) := by
  rw [storeLifetimes_bridge raw e ttl 0 0 0]
  refine C02.store raw ttl 0 0 0 ?_
  have := (window raw).min_pos
  have := (window raw).min_le_max
  omega

open EphVerif.MTtl (Write writes Path)
open EphVerif.C03Spec (Slot)

theorem ingest_writes_bridge (raw : Raw) (e : Env) (now E t : Int) (prev : Int)
    (h : manifestTtl (sysCfg raw e) (now + e.wallOff) E = some t) :
    writes (Ttl.effective raw) e.wallOff now E prev .ingest = some [⟨.shard, now + t * ns⟩] := by
  rw [manifestTtl_bridge] at h
  simp only [writes, ingest_ttl_source, h, publish_shards_expires, ingest_shard_ttl, ns]

theorem announce_writes_bridge (raw : Raw) (e : Env) (now E t : Int) (p : String) (ttl : Int) (prev : Int)
    (h : manifestTtl (sysCfg raw e) (now + e.wallOff) E = some t) :
    writes (Ttl.effective raw) e.wallOff now E prev (.announce p ttl true false false) =
      some [⟨.shard, now + t * ns⟩, ⟨.contact p, now + advertised (sysCfg raw e) ttl t * ns⟩] := by
  rw [manifestTtl_bridge] at h
  rw [advertised_bridge]
  simp [writes, announce_ttl_source, h, publish_shards_expires, announce_shard_ttl, add_contact_expires, ns]

theorem manifest_shard_bounds (raw : Raw) (e : Env) (now E t : Int)
    (h : manifestTtl (sysCfg raw e) (now + e.wallOff) E = some t) : t * ns ≤ maxNs (sysCfg raw e) := by
  have hc := (C03.cap raw e.wallOff now E 0 .ingest _ (ingest_writes_bridge raw e now E t 0 h) _ (List.mem_cons_self ..)).1
  simp only [Write.wall] at hc
  show _ ≤ (Ttl.effective raw).max_manifest_ttl * 1000000000
  omega

theorem announce_contact_bounds (raw : Raw) (e : Env) (now E t : Int) (ttl : Int)
    (h : manifestTtl (sysCfg raw e) (now + e.wallOff) E = some t) :
    advertised (sysCfg raw e) ttl t * ns ≤ maxNs (sysCfg raw e) := by
  have hc := (C03.cap raw e.wallOff now E 0 _ _ (announce_writes_bridge raw e now E t "" ttl 0 h) _
    (List.mem_cons_of_mem _ (List.mem_cons_self ..))).1
  simp only [Write.wall] at hc
  show _ ≤ (Ttl.effective raw).max_manifest_ttl * 1000000000
  omega

end EphVerif.Sys
