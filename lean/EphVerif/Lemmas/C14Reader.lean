/-
C14 helper lemmas: the reader machine of Model/Frames.lean.  A reader known to be running is written
out field by field, `⟨none, want, need, acc, delivered, consumed, maxAlloc⟩`, so that `stepByte`,
`complete` and `afterHeader` compute on it.  Feeding is a monoid action (`feed_append`): any chunking of a
stream is the stream; the machine and `receiveLoop` agree on every byte string (`parse_eq`).
-/
import EphVerif.Model.Frames

namespace EphVerif.Frames
open EphVerif.Gen

theorem kNonceSize_eq : C14.kNonceSize = 12 := rfl
theorem kLengthFieldSize_eq : C14.kLengthFieldSize = 4 := rfl

/-- the reader thread is at the top of the loop: about to `recv_all` a nonce -/
structure Idle (r : Reader) : Prop where
  ended : r.ended = none
  want : r.want = .nonce
  need : r.need = 12
  acc : r.acc = []

theorem init_eq : Reader.init = ⟨none, .nonce, 12, [], [], 0, 0⟩ := rfl

theorem idle_init : Idle Reader.init := ⟨rfl, rfl, rfl, rfl⟩

theorem idle_deliver (key : Bytes) (r : Reader) (nonce ct : Bytes) (he : r.ended = none) : Idle (deliver key r nonce ct) :=
  ⟨he, rfl, rfl, rfl⟩

theorem Idle.eq_mk {r : Reader} (h : Idle r) : r = ⟨none, .nonce, 12, [], r.delivered, r.consumed, r.maxAlloc⟩ := by
  obtain ⟨e, w, n, a, d, c, m⟩ := r
  obtain ⟨rfl, rfl, rfl, rfl⟩ := h
  rfl

theorem feed_nil (key : Bytes) (r : Reader) : feed key r [] = r := rfl

theorem feed_cons (key : Bytes) (r : Reader) (b : UInt8) (xs : Bytes) :
    feed key r (b :: xs) = feed key (stepByte key r b) xs := rfl

theorem feed_append (key : Bytes) (r : Reader) (a b : Bytes) :
    feed key r (a ++ b) = feed key (feed key r a) b := List.foldl_append

theorem feedChunks_eq (key : Bytes) (r : Reader) (cs : List Bytes) :
    feedChunks key r cs = feed key r cs.flatten := List.foldl_flatten.symm

theorem feed_ended (key : Bytes) (r : Reader) (xs : Bytes) (h : r.ended.isSome) : feed key r xs = r := by
  induction xs with
  | nil => rfl
  | cons b xs ih =>
    have : stepByte key r b = r := by
      unfold stepByte
      split
      · rfl
      · next he => rw [he] at h; cases h
    rw [feed_cons, this, ih]

theorem feed_short {key : Bytes} {w : Want} {d : List Bytes} {m : Nat} {xs a : Bytes} {n c : Nat} (hlt : xs.length < n) :
    feed key ⟨none, w, n, a, d, c, m⟩ xs = ⟨none, w, n - xs.length, xs.reverse ++ a, d, c + xs.length, m⟩ := by
  induction xs generalizing a n c with
  | nil => rfl
  | cons b xs ih =>
    rw [List.length_cons] at hlt
    have : stepByte key ⟨none, w, n, a, d, c, m⟩ b = ⟨none, w, n - 1, b :: a, d, c + 1, m⟩ := if_neg (by show ¬ n ≤ 1; omega)
    rw [feed_cons, this, ih (by omega : xs.length < n - 1), Nat.sub_sub, Nat.add_assoc, Nat.add_comm 1, List.reverse_cons,
      List.append_assoc]
    rfl

/-- a `recv_all` that gets exactly the bytes it misses returns them; `complete` overwrites its bookkeeping -/
theorem feed_exact {key : Bytes} {w : Want} {d : List Bytes} {m : Nat} {xs : Bytes} {n c : Nat} (hlen : xs.length = n) (hpos : 0 < n) :
    feed key ⟨none, w, n, [], d, c, m⟩ xs = complete key ⟨none, w, n, [], d, c + n, m⟩ xs := by
  rcases List.eq_nil_or_concat xs with rfl | ⟨ys, b, rfl⟩
  · subst hlen; cases hpos
  · rw [List.concat_eq_append, List.length_append, List.length_singleton] at hlen
    have : stepByte key ⟨none, w, n - ys.length, ys.reverse, d, c + ys.length, m⟩ b
        = complete key ⟨none, w, n - ys.length, ys.reverse, d, c + ys.length + 1, m⟩ (ys ++ [b]) := by
      rw [← List.reverse_reverse (ys ++ [b]), List.reverse_append]
      exact if_pos (by show n - ys.length ≤ 1; omega)
    rw [List.concat_eq_append, feed_append, feed_short (by omega : ys.length < n), List.append_nil, feed_cons, feed_nil, this,
      Nat.add_assoc, hlen]
    cases w <;> rfl

section iteration
variable {key : Bytes} {d : List Bytes} {c m : Nat} {nonce lb : Bytes}

theorem feed_header (hn : nonce.length = 12) (hl : lb.length = 4) :
    feed key ⟨none, .nonce, 12, [], d, c, m⟩ (nonce ++ lb)
      = afterHeader key ⟨none, .length nonce, 4, [], d, c + 16, m⟩ nonce (readLength lb) := by
  rw [feed_append, feed_exact hn (by decide)]
  exact feed_exact hl (by decide)

theorem feed_refused {rest : Bytes} (hn : nonce.length = 12) (hl : lb.length = 4)
    (hbig : C14.recvRefuses (readLength lb) = true) :
    feed key ⟨none, .nonce, 12, [], d, c, m⟩ (nonce ++ lb ++ rest)
      = ⟨some (.oversized (readLength lb)), .length nonce, 0, [], d, c + 16, m⟩ := by
  rw [feed_append, feed_header hn hl, afterHeader, if_pos hbig, feed_ended key _ rest rfl]

/-- a header announcing an empty body: `if (!ciphertext.empty())` is skipped and the empty ciphertext is
decrypted and dispatched at once -/
theorem feed_empty (hn : nonce.length = 12) (hl : lb.length = 4)
    (hok : C14.recvRefuses (readLength lb) = false) (h0 : readLength lb = 0) :
    feed key ⟨none, .nonce, 12, [], d, c, m⟩ (nonce ++ lb)
      = ⟨none, .nonce, 12, [], d ++ [cipher key nonce C14.recvCounter []], c + 16, m⟩ := by
  rw [feed_header hn hl, afterHeader, hok, if_neg (by decide), if_pos h0]
  rfl

theorem feed_accepted (hn : nonce.length = 12) (hl : lb.length = 4)
    (hok : C14.recvRefuses (readLength lb) = false) (hpos : readLength lb ≠ 0) :
    feed key ⟨none, .nonce, 12, [], d, c, m⟩ (nonce ++ lb)
      = ⟨none, .body nonce, readLength lb, [], d, c + 16, max m (readLength lb)⟩ := by
  rw [feed_header hn hl, afterHeader, hok, if_neg (by decide), if_neg hpos]

theorem feed_whole {ct : Bytes} (hn : nonce.length = 12) (hl : lb.length = 4)
    (hok : C14.recvRefuses (readLength lb) = false) (hct : ct.length = readLength lb) :
    feed key ⟨none, .nonce, 12, [], d, c, m⟩ (nonce ++ lb ++ ct)
      = ⟨none, .nonce, 12, [], d ++ [cipher key nonce C14.recvCounter ct], c + 16 + ct.length, max m ct.length⟩ := by
  cases ct with
  | nil => rw [List.append_nil, feed_empty hn hl hok hct.symm, List.length_nil, Nat.max_zero, Nat.add_zero]
  | cons b ct =>
    rw [feed_append, feed_accepted hn hl hok (by rw [← hct]; exact Nat.succ_ne_zero _), ← hct]
    exact feed_exact rfl (Nat.succ_pos _)

end iteration

theorem exists_append_of_le {α : Type} (s : List α) {n : Nat} (h : n ≤ s.length) : ∃ a b, s = a ++ b ∧ a.length = n :=
  ⟨s.take n, s.drop n, (List.take_append_drop n s).symm, List.length_take_of_le h⟩

theorem feed_outcome (key : Bytes) (fuel : Nat) (s : Bytes) (d : List Bytes) (c m : Nat) (hf : s.length < fuel) :
    (feed key ⟨none, .nonce, 12, [], d, c, m⟩ s).outcome = receiveLoop key fuel s ⟨d, none, c, m⟩ := by
  induction fuel generalizing s d c m with
  | zero => omega
  | succ fuel ih =>
    unfold receiveLoop
    rw [kNonceSize_eq, kLengthFieldSize_eq]
    -- the branches of the loop body in turn, each condition named and then rewritten (`split` is slow on this body)
    by_cases h1 : s.length < 12
    · rw [if_pos h1, feed_short h1]; rfl
    obtain ⟨nonce, s1, rfl, hn⟩ := exists_append_of_le s (Nat.le_of_not_lt h1)
    rw [if_neg h1]
    simp only [List.take_left' hn, List.drop_left' hn, List.length_append, hn] at hf ⊢
    by_cases h2 : s1.length < 4
    · rw [if_pos h2, feed_append, feed_exact hn (by decide)]
      exact (congrArg Reader.outcome (feed_short h2)).trans (by rw [Reader.outcome, Nat.add_assoc])
    obtain ⟨lb, s2, rfl, hl⟩ := exists_append_of_le s1 (Nat.le_of_not_lt h2)
    rw [if_neg h2]
    simp only [List.take_left' hl, List.drop_left' hl, List.length_append, hl] at hf ⊢
    rw [← List.append_assoc]
    cases h3 : C14.recvRefuses (readLength lb) with
    | true => rw [if_pos rfl, feed_refused hn hl h3]; rfl
    | false =>
    rw [if_neg (by decide)]
    by_cases h4 : readLength lb = 0
    · rw [if_pos h4, feed_append, feed_empty hn hl h3 h4]
      exact ih s2 _ _ _ (by omega)
    rw [if_neg h4]
    by_cases h5 : s2.length < readLength lb
    · rw [if_pos h5, feed_append, feed_accepted hn hl h3 h4, feed_short h5]; rfl
    obtain ⟨ct, s3, rfl, hb⟩ := exists_append_of_le s2 (Nat.le_of_not_lt h5)
    rw [if_neg h5]
    simp only [List.take_left' hb, List.drop_left' hb, List.length_append] at hf ⊢
    rw [← List.append_assoc, feed_append, feed_whole hn hl h3 hb, hb]
    exact ih s3 _ _ _ (by omega)

theorem parse_eq (key : Bytes) (s : Bytes) : (feed key Reader.init s).outcome = parse key s :=
  feed_outcome key (s.length + 1) s [] 0 0 (Nat.lt_succ_self _)

end EphVerif.Frames
