/-
System-level composition (extension of C05), part 2: nothing the node holds ends more than the maximum TTL (≤ 24 h)
after *now*, for a node constructed from any raw configuration (`Young`).  Cached manifests are deliberately absent
from `Young`: the cache keeps a manifest until the manifest's *own* expiry, which for a manifest received from a peer
is whatever the publisher wrote (`Proofs/SystemLifetime.lean`, `remote_manifest_outlives_day`).
-/
import EphVerif.Lemmas.C05SysBridge

namespace EphVerif.Sys
open EphVerif.NodeCleanup EphVerif.C05L
open EphVerif.ChunkStore (aget aset Recs)
open EphVerif.Providers (Table Loc Holder)

/-- the histories the system theorems speak about: announcements come from other peers, and a re-announcement carries
    a TTL ≤ max (`Node`'s own two calls of `announce_chunk` pass a sanitised TTL; the method is public and clamps
    nothing, so an outside caller with a larger TTL is excluded here) -/
def OpSys (cfg : Cfg) : Op → Prop
  | .announce _ _ _ p _ _ _ _ => p ≠ cfg.self
  | .reannounce _ ttl _ => ttl ≤ cfg.node.maxTtl
  | _ => True

def OpsSys (cfg : Cfg) (ops : List Op) : Prop := ∀ op ∈ ops, OpSys cfg op

theorem OpSys.wf {cfg : Cfg} {op : Op} (h : OpSys cfg op) : OpWf cfg op := by
  cases op with
  | announce => exact h
  | _ => trivial

theorem OpsSys.wf {cfg : Cfg} {ops : List Op} (h : OpsSys cfg ops) : OpsWf cfg ops := fun op hop => (h op hop).wf

def RecsYoung (M : Int) (recs : Recs) : Prop := ∀ e ∈ recs, e.2.expires ≤ M
def LocsYoung (M : Int) (t : Table) : Prop := ∀ c l, t c = some l → l.exp ≤ M ∧ ∀ h ∈ l.holders, h.exp ≤ M
def RoutesYoung (M : Int) (r : Routing.Table) : Prop := ∀ i, ∀ x ∈ r.buckets i, x.exp ≤ M
def ListYoung (M : Int) (l : List (String × Int)) : Prop := ∀ e ∈ l, e.2 ≤ M

structure Young (cfg : Cfg) (s : State) : Prop where
  recs : RecsYoung (s.now + maxNs cfg) s.recs
  locs : LocsYoung (s.now + maxNs cfg) s.locs
  routes : RoutesYoung (s.now + maxNs cfg) s.routes
  shards : ListYoung (s.now + maxNs cfg) s.shards

/-- `Young` is `Deadlines` for the bound `· ≤ now + max_ttl`: `LocsYoung M` is `AllLocs (· ≤ M)`, `RoutesYoung M` is
    `AllRoutes (· ≤ M)` -/
theorem young_iff {cfg : Cfg} {s : State} : Young cfg s ↔ Deadlines (· ≤ s.now + maxNs cfg) s :=
  ⟨fun h => ⟨h.recs, h.locs, h.routes, h.shards⟩, fun d => ⟨d.recs, d.locs, d.routes, d.shards⟩⟩

theorem young_init (cfg : Cfg) (t0 : Int) : Young cfg (State.init cfg t0) := young_iff.mpr (.init cfg t0)

/-- what an operation creates ends at most `max_ttl` after the instant of its creation (C02.store, C03.cap; a
    re-announcement by the hypothesis on its TTL) -/
theorem creates_le (raw : Raw) (e : Env) {s : State} {op : Op} {d : Int} (hw : OpSys (sysCfg raw e) op)
    (h : Creates (sysCfg raw e) s op d) : d ≤ s.now + maxNs (sysCfg raw e) := by
  cases op with
  | store c ttl hint =>
    obtain ⟨⟨_, h1⟩, _, ⟨_, h3⟩, _⟩ := store_bounds raw e ttl
    rcases h with rfl | rfl
    · exact Int.add_le_add_left h1 _
    · exact Int.add_le_add_left h3 _
  | ingest c E same =>
    obtain ⟨t, ht, rfl⟩ := h
    exact Int.add_le_add_left (manifest_shard_bounds raw e s.now E t ht) _
  | announce c E same p pid addr ttl hint =>
    obtain ⟨t, ht, rfl | rfl⟩ := h
    · exact Int.add_le_add_left (manifest_shard_bounds raw e s.now E t ht) _
    · exact Int.add_le_add_left (announce_contact_bounds raw e s.now E t ttl ht) _
  | reannounce c ttl hint =>
    obtain ⟨_, rfl⟩ := h
    have : ttl ≤ (sysCfg raw e).node.maxTtl := hw
    simp only [maxNs, ns]; omega
  | lookup c =>
    obtain ⟨E, t, _, ht, rfl⟩ := h
    exact Int.add_le_add_left (manifest_shard_bounds raw e s.now E t ht) _
  | adv | probe | tick | drain | audit => cases h

theorem young_step (raw : Raw) (e : Env) {s : State} (h : Young (sysCfg raw e) s) (op : Op) (hw : OpSys (sysCfg raw e) op) :
    Young (sysCfg raw e) (step (sysCfg raw e) s op) :=
  young_iff.mpr <| ((young_iff.mp h).step _ op fun _ hd => creates_le raw e hw hd).mono fun _ hd =>
    Int.le_trans hd (Int.add_le_add_right (step_clock (sysCfg raw e) s op).1 _)

theorem young_run (raw : Raw) (e : Env) {r : Run} (h : Young (sysCfg raw e) r.s) (ops : List Op)
    (hw : OpsSys (sysCfg raw e) ops) : Young (sysCfg raw e) (run (sysCfg raw e) r ops).s :=
  run_invariant (I := Young (sysCfg raw e)) (fun _ op hop h => young_step raw e h op (hw op hop)) h

end EphVerif.Sys
