/-
Helper lemmas for C25/C26: what the handlers may change.  Every handler is a composition of a few primitive
updates, so a preorder on states that contains the primitives contains every handler (`LineRel` for
handle_line, `StepRel` for a whole event other than `accept`); a frame property is proved by showing that
it is such a preorder.  `Mild` is the frame of the line handlers: they only queue control text, never touch a
read buffer, never add or remove a session, never establish a bridge.
-/
import EphVerif.Lemmas.C25Handlers
namespace EphVerif.Relay
open EphVerif.Gen.C25

structure LineRel (c : Client) (R : State → State → Prop) : Prop where
  refl : ∀ σ, R σ σ
  trans : ∀ {σ1 σ2 σ3}, R σ1 σ2 → R σ2 σ3 → R σ1 σ3
  regs : ∀ {σ σ'}, SameSessions σ σ' → R σ σ'
  edit : ∀ {σ d s} (s' : Session), σ.get d = some s → s'.readBuf = s.readBuf → s'.writeBuf = s.writeBuf →
    (s'.state = .bridged → s.state = .bridged) → R σ (σ.put d s')
  reply : ∀ σ t, R σ (queue σ c (.ctrl t))

namespace LineRel
variable {c : Client} {R : State → State → Prop} (h : LineRel c R)
include h

theorem handleRegister (σ : State) (hex : Bytes) : R σ (handleRegister σ c hex) := by
  unfold Relay.handleRegister
  split
  · exact h.refl σ
  next s hc =>
    dsimp only
    repeat' split
    iterate 3 exact h.reply _ _
    have m1 := h.regs (erased_removeRegistration σ c s).same
    have m2 := h.edit { s with peerHex := hex.map lowerHex, state := .registered }
      ((get_removeRegistration σ c s c).trans hc) rfl rfl (by simp)
    exact h.trans (h.trans (h.trans m1 m2) (h.regs (sameSessions_setReg _ _ c))) (h.reply _ _)

theorem handleConnect (σ : State) (self target : Bytes) : R σ (handleConnect σ c self target) := by
  unfold Relay.handleConnect
  split
  · exact h.refl σ
  next s hc =>
    dsimp only
    iterate 3 split; · exact h.reply _ _
    split
    next σ1 e =>
      have hf : SameSessions σ σ1 := by simpa only [e] using (erased_findRegistered σ target).same
      exact h.trans (h.regs hf) (h.reply _ _)
    next σ1 t e =>
      have hf : SameSessions σ σ1 := by simpa only [e] using (erased_findRegistered σ target).same
      have m := h.trans (h.trans (h.regs hf) (h.regs (sameSessions_eraseReg σ1 target)))
        (h.edit { s with state := .awaitingIdentity, connectSelf := self, partner := some t }
          ((hf.get c).trans hc) rfl rfl (by simp))
      refine h.trans ?_ (h.reply _ _)
      split
      next ts hts => exact h.trans m (h.edit { ts with partner := some c } hts rfl rfl id)
      · exact m

theorem handleLine (σ : State) (line : Bytes) : R σ (handleLine σ c line) :=
  handleLine_cases line (h.refl σ) (h.handleRegister σ) (h.handleConnect σ) (h.reply σ)

end LineRel

structure StepRel (R : State → State → Prop) : Prop where
  refl : ∀ σ, R σ σ
  trans : ∀ {σ1 σ2 σ3}, R σ1 σ2 → R σ2 σ3 → R σ1 σ3
  regs : ∀ {σ σ'}, SameSessions σ σ' → R σ σ'
  edit : ∀ {σ d s} (s' : Session), σ.get d = some s → s'.writeBuf = s.writeBuf → R σ (σ.put d s')
  queue : ∀ σ c it, R σ (queue σ c it)
  drop : ∀ σ c, R σ (σ.drop c)
  closed : ∀ σ c, R σ (σ.emit (.closed c))
  flush : ∀ {σ c s} n, σ.get c = some s →
    R σ ((σ.put c { s with writeBuf := s.writeBuf.drop n }).emit (.sent c (s.writeBuf.take n)))
  hang : ∀ σ, R σ { σ with hung := true }

namespace StepRel
variable {R : State → State → Prop} (h : StepRel R)
include h

theorem line (c : Client) : LineRel c R :=
  ⟨h.refl, h.trans, h.regs, fun s' hd _ hw _ => h.edit s' hd hw, fun σ _ => h.queue σ c _⟩

theorem closeNoPartner (σ : State) (p : Client) : R σ (closeNoPartner σ p) := by
  unfold Relay.closeNoPartner
  split
  · exact h.refl σ
  next s _ => exact h.trans (h.trans (h.regs (erased_removeRegistration σ p s).same) (h.drop _ p)) (h.closed _ p)

theorem detachPartner (σ : State) (s : Session) : R σ (detachPartner σ s) := by
  unfold Relay.detachPartner
  split
  · exact h.refl σ
  split
  · exact h.refl σ
  next p _ _ ps hps =>
    have m := h.edit { ps with partner := none } hps rfl
    dsimp only
    repeat' split
    · exact h.trans m (h.closeNoPartner _ p)
    · exact h.trans m (h.regs (sameSessions_setReg _ _ p))
    · exact m

theorem closeSession (σ : State) (c : Client) : R σ (closeSession σ c) := by
  unfold Relay.closeSession
  split
  · exact h.refl σ
  next s _ =>
    exact h.trans (h.trans (h.trans (h.regs (erased_removeRegistration σ c s).same) (h.drop _ c)) (h.detachPartner _ s))
      (h.closed _ c)

theorem guarded {σ0 σ : State} (m : R σ0 σ) (c : Client) (f : Session → Session) (hf : ∀ s, (f s).writeBuf = s.writeBuf) :
    R σ0 (match σ.get c with | some s1 => σ.put c (f s1) | none => σ) := by
  split
  next s1 h1 => exact h.trans m (h.edit _ h1 (hf s1))
  · exact m

theorem handleIdentityReady (σ : State) (c : Client) : R σ (handleIdentityReady σ c) := by
  unfold Relay.handleIdentityReady
  split
  · exact h.refl σ
  next s _ =>
    split
    · exact h.trans (h.queue _ _ _) (h.closeSession _ _)
    next t _ =>
      dsimp only
      have m := h.guarded (h.guarded (h.queue σ t (.ctrl (beginPrefix ++ s.connectSelf ++ [nl]))) c
        (fun s1 => { s1 with readBuf := [], state := .bridged }) (fun _ => rfl)) t
        (fun ts => { ts with state := .bridged }) (fun _ => rfl)
      split
      · exact h.trans m (h.queue _ _ _)
      · exact h.trans (h.trans m (h.queue _ _ _)) (h.queue _ _ _)

theorem processProtocol (fuel : Nat) : ∀ (σ : State) (c : Client), R σ (processProtocol fuel σ c) := by
  induction fuel with
  | zero => exact fun σ _ => h.hang σ
  | succ fuel ih =>
    intro σ c
    unfold Relay.processProtocol
    split
    · exact h.refl σ
    next s hc =>
      split
      · split
        · exact h.refl σ
        · dsimp only
          split
          · exact h.trans (h.handleIdentityReady σ c) (h.hang _)
          · exact h.trans (h.handleIdentityReady σ c) (ih _ c)
      · split
        · exact h.refl σ
        next line rest _ =>
          exact h.trans (h.trans (h.edit { s with readBuf := rest } hc rfl) ((h.line c).handleLine _ _)) (ih _ c)

theorem step (σ : State) (ev : Event) (hna : ∀ c, ev ≠ .accept c) : R σ (step σ ev) := by
  cases ev with
  | accept c => exact absurd rfl (hna c)
  | recv c data =>
    rw [Relay.step]
    split
    · exact h.refl σ
    next s hc =>
      split
      · unfold forwardToPartner
        split
        · exact h.closeSession _ _
        · exact h.queue _ _ _
      · exact h.trans (h.edit { s with readBuf := s.readBuf ++ data } hc rfl) (h.processProtocol _ _ _)
  | eof c => exact h.closeSession _ _
  | err c => exact h.closeSession _ _
  | flush c n =>
    rw [Relay.step]
    split
    · exact h.refl σ
    next s hc => exact h.flush n hc

end StepRel

def State.rbOf (σ : State) (a : Client) : Option Bytes := (σ.get a).map (·.readBuf)

def Out.closedOf : Out → Option Client
  | .closed c => some c
  | _ => none

def closedList (σ : State) : List Client := σ.out.filterMap Out.closedOf

def isCtrlOut (c : Client) : Out → Prop
  | .queued d (.ctrl _) => d = c
  | _ => False

structure Mild (c : Client) (σ σ' : State) : Prop where
  dom : ∀ a, (σ'.get a).isSome = (σ.get a).isSome
  rb : ∀ a, σ'.rbOf a = σ.rbOf a
  used : σ'.used = σ.used
  hung : σ'.hung = σ.hung
  out : ∃ new, σ'.out = new ++ σ.out ∧ ∀ o ∈ new, isCtrlOut c o
  nb : ∀ a, σ'.stateOf a = some .bridged → σ.stateOf a = some .bridged

theorem Mild.refl (c : Client) (σ : State) : Mild c σ σ :=
  ⟨fun _ => rfl, fun _ => rfl, rfl, rfl, ⟨[], rfl, by simp⟩, fun _ h => h⟩

theorem Mild.trans {c : Client} {σ1 σ2 σ3 : State} (h12 : Mild c σ1 σ2) (h23 : Mild c σ2 σ3) : Mild c σ1 σ3 := by
  obtain ⟨n1, e1, p1⟩ := h12.out
  obtain ⟨n2, e2, p2⟩ := h23.out
  refine ⟨fun a => (h23.dom a).trans (h12.dom a), fun a => (h23.rb a).trans (h12.rb a), h23.used.trans h12.used,
    h23.hung.trans h12.hung, ⟨n2 ++ n1, by rw [e2, e1, List.append_assoc], ?_⟩, fun a h => h12.nb a (h23.nb a h)⟩
  intro o ho
  exact (List.mem_append.mp ho).elim (p2 o) (p1 o)

/-- `Mild` contains what handle_line does -/
theorem mild_lineRel (c : Client) : LineRel c (Mild c) where
  refl := Mild.refl c
  trans := Mild.trans
  regs h := ⟨fun a => by rw [h.get], fun a => by simp [State.rbOf, h.get], h.used, h.hung, ⟨[], h.out, by simp⟩,
    fun a => by simp [State.stateOf, h.get]⟩
  edit {σ d s} s' hd hrb _ hst := by
    refine ⟨fun a => ?_, fun a => ?_, rfl, rfl, ⟨[], rfl, by simp⟩, fun a => ?_⟩
    all_goals simp only [State.rbOf, State.stateOf, get_put]; split
    · subst a; rw [hd]; rfl
    · rfl
    · subst a; rw [hd]; exact congrArg some hrb
    · rfl
    · subst a; rw [hd]; exact fun h => congrArg some (hst (Option.some.inj h))
    · exact id
  reply σ t := by
    refine ⟨by simp, fun a => ?_, by simp, by simp, ?_, by simp⟩
    · simp only [State.rbOf, get_queue]
      split
      · subst a; cases σ.get c <;> rfl
      · rfl
    · rw [out_queue]
      split
      · exact ⟨[.queued c (.ctrl t)], rfl, by simp [isCtrlOut]⟩
      · exact ⟨[], rfl, by simp⟩

theorem mild_handleLine (σ : State) (c : Client) (line : Bytes) : Mild c σ (handleLine σ c line) :=
  (mild_lineRel c).handleLine σ line

end EphVerif.Relay
