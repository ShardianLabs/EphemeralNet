/-
C06: `add_contact` refines the abstract directory's `add` for every hint when the directory is told (as its
`keep` choice) the live part of what the model kept (`R_add`); a second table representing the same directory,
given that choice as hint, follows (`R_add_follow`).
-/
import EphVerif.Lemmas.C06Sim

namespace EphVerif.C06L
open EphVerif.Providers EphVerif.C06Spec List

theorem addBase_distinct {old : List Ann} (h : PeerDistinct old) (p : String) (e : Int) :
    PeerDistinct (addBase old p e) := by
  unfold addBase
  refine pairwise_append.mpr ⟨h.filter _, pairwise_singleton _ _, ?_⟩
  intro a ha b hb
  simp only [mem_singleton] at hb
  subst hb
  simpa using (mem_filter.mp ha).2

theorem addBase_length (old : List Ann) (p : String) (e : Int) :
    (addBase old p e).length ≤ old.length + 1 := by
  unfold addBase
  simp only [length_append, length_singleton]
  exact Nat.add_le_add_right (length_filter_le _ _) 1

theorem maxProviders_eq : maxProviders = 20 := by decide

theorem truncate_cut (base : List Ann) (hint : Option (List String)) :
    ∃ dropped, CutOK (min 20 base.length) base (truncate base hint) dropped := by
  unfold truncate
  rw [maxProviders_eq]
  split
  · rw [Nat.min_eq_left (by omega)]
    exact cut_ok 20 base hint (by omega)
  · rw [Nat.min_eq_right (by omega)]
    exact ⟨[], by rw [append_nil], rfl, by simp⟩

theorem add_ok {t : Table} (h : TableOK t) (now : Int) (c p : String) (ttl : Int) (hint : Option (List String)) :
    TableOK (addContact t now c p ttl hint) := by
  unfold addContact
  refine h.set c _ fun l hl => ?_
  cases hl
  obtain ⟨d, hc⟩ := truncate_cut (addBase (holdersOf t c) p (now + ttl)) hint
  refine ⟨(pairwise_append.mp (hc.distinct (addBase_distinct (h.distinct c) p _))).1, ?_, maxExp_mem _ _⟩
  show (truncate _ hint).length ≤ 20
  rw [hc.len]
  exact Nat.min_le_left _ _

theorem truncate_valid {base : List Ann} {keep : List String} (hl : base.length > 20)
    (hv : validCut 20 base keep = true) :
    truncate base (some keep) = base.filter (fun a => keep.contains a.peer) := by
  simp only [truncate, maxProviders_eq, hl, if_true, cut, hv]

def keepOf (now : Int) (hs : List Ann) : List String := (hs.filter (liveAt now)).map (·.peer)

theorem truncate_small {now : Int} {base : List Ann} (hint : Option (List String))
    (h : (base.filter (liveAt now)).length ≤ 20) :
    (truncate base hint).filter (liveAt now) ~ base.filter (liveAt now) := by
  obtain ⟨d, hc⟩ := truncate_cut base hint
  exact hc.live_small (Nat.le_min.mpr ⟨h, length_filter_le _ _⟩)

theorem truncate_big {now : Int} {base X : List Ann} (hint : Option (List String))
    (h : 20 < (base.filter (liveAt now)).length)
    (hp : base.filter (liveAt now) ~ X.filter (liveAt now)) (hX : PeerDistinct X) :
    validCut 20 X (keepOf now (truncate base hint)) = true ∧
      (X.filter (fun a => (keepOf now (truncate base hint)).contains a.peer)).filter (liveAt now) ~
        (truncate base hint).filter (liveAt now) := by
  obtain ⟨d, hc⟩ := truncate_cut base hint
  have hlen : min 20 base.length = 20 := by
    have := length_filter_le (liveAt now) base
    omega
  rw [hlen] at hc
  have hall := hc.live_big h
  obtain ⟨hv, hsel⟩ := (hc.transfer hall hp).validCut_peers hX
  have hk : keepOf now (truncate base hint) = (truncate base hint).map (·.peer) := by
    rw [keepOf, filter_eq_self.mpr hall]
  rw [hk]
  exact ⟨hv, hsel.filter _⟩

theorem truncate_follow {now : Int} {base base' : List Ann} (hint : Option (List String))
    (hp : base.filter (liveAt now) ~ base'.filter (liveAt now)) (hd : PeerDistinct base') :
    (truncate base' (some (keepOf now (truncate base hint)))).filter (liveAt now) ~
      (truncate base hint).filter (liveAt now) := by
  by_cases hsmall : (base.filter (liveAt now)).length ≤ 20
  · exact (truncate_small _ (hp.length_eq ▸ hsmall)).trans (hp.symm.trans (truncate_small hint hsmall).symm)
  · obtain ⟨hv, hsel⟩ := truncate_big hint (by omega) hp hd
    have hlen : base'.length > 20 := by
      have := length_filter_le (liveAt now) base'
      have := hp.length_eq
      omega
    rw [truncate_valid hlen hv]
    exact hsel

def specBase (s : S) (now : Int) (c p : String) (e : Int) : List Ann :=
  (s c).filter (fun a => a.peer != p && liveAt now a) ++ [⟨p, e⟩]

theorem spec_add_other (s : S) (now : Int) (c p : String) (e : Int) (keep : Option (List String)) (k : String)
    (hk : k ≠ c) : (C06Spec.add s now c p e keep).1 k = s k := by
  have hset : ∀ v, (C06Spec.set s c v) k = s k := fun v => if_neg hk
  unfold C06Spec.add
  dsimp only
  split
  · exact hset _
  · split
    · split <;> exact hset _
    · exact hset _

theorem spec_add_small (s : S) (now : Int) (c p : String) (e : Int) (keep : Option (List String))
    (h : ((specBase s now c p e).filter (liveAt now)).length ≤ 20) :
    (C06Spec.add s now c p e keep).1 c = specBase s now c p e ∧ (C06Spec.add s now c p e keep).2 = true := by
  unfold C06Spec.add
  unfold specBase at h
  simp only [h, if_true, C06Spec.set, specBase, and_true]

theorem spec_add_big (s : S) (now : Int) (c p : String) (e : Int) (k : List String)
    (h : ((specBase s now c p e).filter (liveAt now)).length > 20)
    (hv : validKeep ((specBase s now c p e).filter (liveAt now)) k = true) :
    (C06Spec.add s now c p e (some k)).1 c =
        ((specBase s now c p e).filter (liveAt now)).filter (fun a => k.contains a.peer) ∧
      (C06Spec.add s now c p e (some k)).2 = true := by
  unfold C06Spec.add
  unfold specBase at h hv
  have h' := Nat.not_le.mpr h
  simp only [h', if_false, hv, if_true, C06Spec.set, specBase, and_self]

theorem base_live_perm {now : Int} {t : Table} {s : S} (h : R now t s) (c p : String) (e : Int) :
    (addBase (holdersOf t c) p e).filter (liveAt now) ~ (specBase s now c p e).filter (liveAt now) := by
  have hs : (s c).filter (fun a => a.peer != p && liveAt now a)
      = ((s c).filter (liveAt now)).filter (fun a => a.peer != p) := filter_filter.symm
  unfold addBase specBase
  rw [filter_append, filter_append, hs, filter_comm, filter_comm (liveAt now), filter_live_mono (Int.le_refl now)]
  exact ((h.sim c).filter _).append_right _

theorem add_sim {now : Int} {t : Table} {s : S} (h : R now t s) (c p : String) (e : Int)
    (hint : Option (List String)) (k : List String)
    (hk : k = keepOf now (truncate (addBase (holdersOf t c) p e) hint)) :
    (truncate (addBase (holdersOf t c) p e) hint).filter (liveAt now) ~
        ((C06Spec.add s now c p e (some k)).1 c).filter (liveAt now) ∧
      (C06Spec.add s now c p e (some k)).2 = true := by
  have hbl := base_live_perm h c p e
  by_cases hsmall : ((specBase s now c p e).filter (liveAt now)).length ≤ 20
  · -- no cut in the abstract directory
    obtain ⟨h1, h2⟩ := spec_add_small s now c p e (some k) hsmall
    rw [h1]
    exact ⟨(truncate_small hint (hbl.length_eq ▸ hsmall)).trans hbl, h2⟩
  · -- more than 20 live: both sides cut, and the directory's live base is the `X` of `truncate_big`
    have hbig : ((specBase s now c p e).filter (liveAt now)).length > 20 := by omega
    obtain ⟨hv, hsel⟩ := truncate_big (X := (specBase s now c p e).filter (liveAt now)) hint
      (by rw [hbl.length_eq]; exact hbig) (by rw [filter_live_mono (Int.le_refl now)]; exact hbl)
      (((addBase_distinct (h.ok.distinct c) p e).filter _).perm hbl Ne.symm)
    rw [← hk] at hv hsel
    obtain ⟨h1, h2⟩ := spec_add_big s now c p e k hbig hv
    rw [h1]
    exact ⟨hsel.symm, h2⟩

theorem R_add {now : Int} {t : Table} {s : S} (h : R now t s) (c p : String) (ttl : Int)
    (hint : Option (List String)) (k : List String)
    (hk : k = keepOf now (holdersOf (addContact t now c p ttl hint) c)) :
    R now (addContact t now c p ttl hint) (C06Spec.add s now c p (now + ttl) (some k)).1 ∧
      (C06Spec.add s now c p (now + ttl) (some k)).2 = true := by
  rw [add_holders, if_pos rfl] at hk
  obtain ⟨hsim, hacc⟩ := add_sim h c p (now + ttl) hint k hk
  refine ⟨⟨add_ok h.ok now c p ttl hint, fun c' => ?_⟩, hacc⟩
  rw [add_holders]
  by_cases hc : c' = c
  · subst hc; rw [if_pos rfl]; exact hsim
  · rw [spec_add_other _ _ _ _ _ _ _ hc, if_neg hc]
    exact h.sim c'

theorem R_add_follow {now : Int} {t t' : Table} {s : S} (h : R now t s) (h' : R now t' s) (c p : String) (ttl : Int)
    (hint : Option (List String)) (k : List String)
    (hk : k = keepOf now (holdersOf (addContact t now c p ttl hint) c)) :
    R now (addContact t' now c p ttl (some k)) (C06Spec.add s now c p (now + ttl) (some k)).1 := by
  refine ⟨add_ok h'.ok now c p ttl _, fun c' => Perm.trans ?_ ((R_add h c p ttl hint k hk).1.sim c')⟩
  rw [add_holders, if_pos rfl] at hk
  rw [add_holders, add_holders]
  by_cases hc : c' = c
  · subst hc
    rw [if_pos rfl, if_pos rfl, hk]
    exact truncate_follow hint ((base_live_perm h c' p _).trans (base_live_perm h' c' p _).symm)
      (addBase_distinct (h'.ok.distinct c') p _)
  · rw [if_neg hc, if_neg hc]
    exact (h'.sim c').trans (h.sim c').symm

end EphVerif.C06L
