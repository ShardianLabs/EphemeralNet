/-
Helper lemmas for C03 about the generated `manifest_ttl` / `enforce_manifest_ttl` /
`announce_advertised_ttl` / `pending_manifest_expires` (`Generated/C02.lean`) and about `pendingDue` /
`writes` of `Model/ManifestTtl.lean`.
-/
import EphVerif.Lemmas.C02Window
import EphVerif.Model.ManifestTtl

namespace EphVerif.C03L
open EphVerif.Gen.C02 EphVerif.C02L

theorem manifest_ttl_some (cfg : Cfg) (w : Window cfg) (E wall ttl : Int)
    (h : manifest_ttl E cfg wall = some ttl) :
    cfg.min_manifest_ttl ≤ ttl ∧ ttl ≤ cfg.max_manifest_ttl ∧ 1 ≤ ttl ∧ ttl * 1000000000 ≤ E - wall := by
  have := w.min_pos
  have := w.min_le_max
  unfold manifest_ttl enforce_manifest_ttl at h
  simp only [] at h  -- the `let`s of the translated body
  by_cases h0 : E ≤ wall
  · simp [h0] at h
  · simp only [h0, if_false] at h
    rw [Int.tdiv_eq_ediv_of_nonneg (by omega)] at h
    grind

theorem manifest_ttl_none (cfg : Cfg) (w : Window cfg) (E wall : Int)
    (h : E ≤ wall ∨ E - wall < cfg.min_manifest_ttl * 1000000000) :
    manifest_ttl E cfg wall = none := by
  cases hm : manifest_ttl E cfg wall with
  | none => rfl
  | some ttl =>
    have := manifest_ttl_some cfg w E wall ttl hm
    omega

theorem advertised_range (cfg : Cfg) (w : Window cfg) (a ttl : Int)
    (h1 : cfg.min_manifest_ttl ≤ ttl) (h2 : ttl ≤ cfg.max_manifest_ttl) :
    cfg.min_manifest_ttl ≤ announce_advertised_ttl a ttl cfg ∧ announce_advertised_ttl a ttl cfg ≤ ttl := by
  have := w.min_pos
  unfold announce_advertised_ttl clamp_chunk_ttl
  gen_consts
  grind

theorem pending_expires_range (cfg : Cfg) (E wall : Int) :
    pending_manifest_expires E cfg wall ≤ E ∧
    pending_manifest_expires E cfg wall ≤ wall + cfg.max_manifest_ttl * 1000000000 := by
  unfold pending_manifest_expires
  grind

theorem pending_expires_after (cfg : Cfg) (w : Window cfg) (E wall : Int) (h : wall < E) :
    wall < pending_manifest_expires E cfg wall := by
  have := w.min_pos
  have := w.min_le_max
  unfold pending_manifest_expires
  grind

theorem pendingDue_iff (wall : Int) (p : MTtl.Pending) : MTtl.pendingDue wall p = true ↔ p.exp ≠ 0 ∧ p.exp ≤ wall := by
  simp only [MTtl.pendingDue, Bool.and_eq_true, bne_iff_ne, ne_eq, decide_eq_true_eq, ge_iff_le]

theorem writes_none {cfg : Cfg} {off now E : Int} (h : manifest_ttl E cfg (now + off) = none) (prev : Int) (p : MTtl.Path) :
    MTtl.writes cfg off now E prev p = none := by
  cases p <;> simp only [MTtl.writes, ingest_ttl_source, receive_ttl_source, announce_ttl_source, h]

end EphVerif.C03L
