/-
C09 helper lemmas: the `while` loop of `ChaCha20::apply` has the closed form "byte j = input[j] xor key-stream
byte j".  When the input span aliases the output vector every byte is read immediately before it is overwritten and
bytes not yet processed are untouched, so the aliased loop is the ordinary loop run on a copy of the buffer.
-/
import EphVerif.Lemmas.C09Block

namespace EphVerif.C09
open EphVerif EphVerif.ChaCha20

def ksByte (key nonce : List UInt8) (c : UInt32) (j : Nat) : UInt8 :=
  (chacha20_block key nonce (c + UInt32.ofNat (j / 64))).getD (j % 64) 0

theorem ksByte_of_lt (key nonce : List UInt8) (c : UInt32) {j : Nat} (h : j < 64) :
    ksByte key nonce c j = (chacha20_block key nonce c).getD j 0 := by
  rw [ksByte, Nat.div_eq_of_lt h, Nat.mod_eq_of_lt h, show UInt32.ofNat 0 = 0 from rfl, UInt32.add_zero]

theorem ksByte_add (key nonce : List UInt8) (c : UInt32) (m j : Nat) :
    ksByte key nonce c (64 * m + j) = ksByte key nonce (c + UInt32.ofNat m) j := by
  rw [ksByte, ksByte, Nat.mul_add_div (by omega), Nat.mul_add_mod, UInt32.ofNat_add, UInt32.add_assoc]

theorem xorBlock_succ (input : Array UInt8) (ks : List UInt8) (p bs : Nat) (out : Array UInt8) :
    xorBlock input ks p (bs + 1) out
      = (xorBlock input ks p bs out).setIfInBounds (p + bs) (input.getD (p + bs) 0 ^^^ ks.getD bs 0) := by
  simp only [xorBlock, List.range_succ, List.foldl_append, List.foldl_cons, List.foldl_nil]

theorem size_xorBlock (input : Array UInt8) (ks : List UInt8) (p bs : Nat) (out : Array UInt8) :
    (xorBlock input ks p bs out).size = out.size := by
  induction bs with
  | zero => rfl
  | succ bs ih => rw [xorBlock_succ, Array.size_setIfInBounds, ih]

theorem getElem?_xorBlock (input : Array UInt8) (ks : List UInt8) (p bs : Nat) (out : Array UInt8) (j : Nat) :
    (xorBlock input ks p bs out)[j]? =
      if p ≤ j ∧ j < p + bs ∧ j < out.size then some (input.getD j 0 ^^^ ks.getD (j - p) 0) else out[j]? := by
  induction bs with
  | zero => rw [if_neg (by omega)]; rfl
  | succ bs ih =>
    rw [xorBlock_succ, Array.getElem?_setIfInBounds, size_xorBlock, ih]
    by_cases h : p + bs = j
    · subst h
      rw [if_pos rfl]
      split
      · rw [if_pos (by omega), Nat.add_sub_cancel_left]
      · rw [if_neg (by omega), Array.getElem?_eq_none (by omega)]
    · rw [if_neg h]
      exact ite_congr (propext (by omega)) (fun _ => rfl) (fun _ => rfl)

theorem getElem?_applyLoop (key nonce : List UInt8) (input : Array UInt8) (p : Nat) (c : UInt32) (out : Array UInt8)
    (hsz : out.size = input.size) (j : Nat) :
    (applyLoop key nonce input p c out)[j]? =
      if j < p then out[j]? else input[j]?.map (· ^^^ ksByte key nonce c (j - p)) := by
  fun_induction applyLoop key nonce input p c out with
  | case1 p c out hlt ks c' bs out' ih =>
    have hbs : bs = min 64 (input.size - p) := rfl
    rw [ih (by rw [size_xorBlock, hsz]), getElem?_xorBlock]
    by_cases h1 : j < p
    · rw [if_pos (by omega), if_neg (by omega), if_pos h1]
    · by_cases h2 : j < p + bs
      · have hj : j < input.size := by omega
        rw [if_pos h2, if_pos (by omega), if_neg h1, ksByte_of_lt _ _ _ (by omega), Array.getD_eq_getD_getElem?,
          Array.getElem?_eq_getElem hj, Option.getD_some, Option.map_some]
      · rw [if_neg h2, if_neg h1]
        by_cases hj : j < input.size
        · have hjp : j - p = 64 * 1 + (j - (p + bs)) := by omega
          rw [hjp, ksByte_add, show UInt32.ofNat 1 = 1 from rfl]
        · simp only [Array.getElem?_eq_none (Nat.le_of_not_lt hj), Option.map_none]
  | case2 p c out hge =>
    split
    · rfl
    · rw [Array.getElem?_eq_none (by omega), Array.getElem?_eq_none (by omega), Option.map_none]

theorem toList_applyLoop (key nonce : List UInt8) (input : Array UInt8) (c : UInt32) (out : Array UInt8)
    (hsz : out.size = input.size) :
    (applyLoop key nonce input 0 c out).toList = input.toList.mapIdx fun j b => b ^^^ ksByte key nonce c j := by
  apply List.ext_getElem?
  intro j
  rw [Array.getElem?_toList, getElem?_applyLoop key nonce input 0 c out hsz, if_neg (Nat.not_lt_zero j), List.getElem?_mapIdx,
    Array.getElem?_toList]
  rfl

theorem size_resize (out : Array UInt8) (n : Nat) : (resize out n).size = n := by
  simp only [resize, Array.size_append, Array.size_extract, Array.size_replicate]
  omega

theorem size_prepare (out : Array UInt8) (n : Nat) : (prepare out n).size = n := by
  unfold prepare
  split
  · exact size_resize out n
  · exact Array.size_replicate

theorem applyInto_eq (key nonce input : List UInt8) (c : UInt32) (out0 : List UInt8) :
    applyInto key nonce input c out0 = input.mapIdx fun j b => b ^^^ ksByte key nonce c j :=
  toList_applyLoop key nonce input.toArray c _ (size_prepare _ _)

theorem xorBlockAliased_succ (buf : Array UInt8) (ks : List UInt8) (p bs : Nat) :
    xorBlockAliased buf ks p (bs + 1)
      = (xorBlockAliased buf ks p bs).setIfInBounds (p + bs) ((xorBlockAliased buf ks p bs).getD (p + bs) 0 ^^^ ks.getD bs 0) := by
  simp only [xorBlockAliased, List.range_succ, List.foldl_append, List.foldl_cons, List.foldl_nil]

theorem xorBlockAliased_eq (input buf : Array UInt8) (ks : List UInt8) (p bs : Nat)
    (h : ∀ j, p ≤ j → buf[j]? = input[j]?) : xorBlockAliased buf ks p bs = xorBlock input ks p bs buf := by
  induction bs with
  | zero => exact Eq.refl buf  -- both sides reduce to `buf`; a bare `rfl` has the kernel compare the two loop bodies first
  | succ bs ih =>
    -- the byte read in step `bs` has not been written by the earlier steps
    rw [xorBlockAliased_succ, xorBlock_succ, ih, Array.getD_eq_getD_getElem?, getElem?_xorBlock, if_neg (by omega),
      h _ (by omega), ← Array.getD_eq_getD_getElem?]

theorem applyLoopAliased_eq (key nonce : List UInt8) (input : Array UInt8) (p : Nat) (c : UInt32) (buf : Array UInt8)
    (h : ∀ j, p ≤ j → buf[j]? = input[j]?) :
    applyLoopAliased key nonce input.size p c buf = applyLoop key nonce input p c buf := by
  fun_induction applyLoop key nonce input p c buf with
  | case1 p c buf hlt ks c' bs buf' ih =>
    rw [applyLoopAliased, if_pos hlt]
    simp only [xorBlockAliased_eq input buf _ p _ h]
    exact ih fun j hj => by rw [getElem?_xorBlock, if_neg (by omega), h j (by omega)]
  | case2 p c buf hge => rw [applyLoopAliased, if_neg hge]

theorem applyAliased_eq (key nonce vec : List UInt8) (n : Nat) (c : UInt32) :
    applyAliased key nonce vec n c = (prepare vec.toArray n).toList.mapIdx fun j b => b ^^^ ksByte key nonce c j := by
  have h := applyLoopAliased_eq key nonce (prepare vec.toArray n) 0 c _ fun _ _ => rfl
  rw [size_prepare] at h
  rw [applyAliased, h, toList_applyLoop key nonce _ c _ rfl]

theorem mapIdx_ksByte (key nonce : List UInt8) (counter : UInt32) (input : List UInt8)
    (hk : key.length = 32) (hn : nonce.length = 12) :
    (input.mapIdx fun j b => b ^^^ ksByte key nonce counter j) = Spec.chacha20 key nonce counter input := by
  simp only [spec_chacha20_eq key nonce counter input hk hn, ksByte, chacha20_block_eq key nonce _ hk hn]

end EphVerif.C09
