/-
`encode_field_value` / `decode_field_value`, line splitting and field-map bookkeeping (C29).
-/
import EphVerif.Lemmas.C29Dec
import EphVerif.Lemmas.C27Lines

namespace EphVerif.Control

def escByte (c : UInt8) : Bytes := if c = 92 then [92, 92] else if c = 13 then [92, 114] else [c]

/-- `encode_field_value` on a piece without LF -/
def escSeg (s : Bytes) : Bytes := s.flatMap escByte

abbrev NoLF (s : Bytes) : Prop := ∀ c ∈ s, c ≠ 10

theorem flatMap_congr' {α β : Type} (f g : α → List β) (l : List α) (h : ∀ a ∈ l, f a = g a) :
    l.flatMap f = l.flatMap g := by
  rw [List.flatMap_def, List.flatMap_def, List.map_congr_left h]

theorem encodeValue_noLF {s : Bytes} (h : NoLF s) : encodeValue s = escSeg s :=
  flatMap_congr' _ _ s fun c hc => by rw [if_neg (h c hc)]; rfl

theorem encodeValue_append_lf (s v : Bytes) (h : NoLF s) :
    encodeValue (s ++ 10 :: v) = escSeg s ++ 10 :: 9 :: encodeValue v := by
  rw [← encodeValue_noLF h]
  exact List.flatMap_append

theorem escSeg_id {s : Bytes} (h : ∀ c ∈ s, c ≠ 92 ∧ c ≠ 13) : escSeg s = s := by
  rw [escSeg, flatMap_congr' escByte (fun c => [c]) s fun c hc => by rw [escByte, if_neg (h c hc).1, if_neg (h c hc).2]]
  exact List.flatMap_singleton' s

theorem escSeg_clean {s : Bytes} (h : NoLF s) : ∀ c ∈ escSeg s, c ≠ 10 ∧ c ≠ 13 := by
  intro c hc
  obtain ⟨a, ha, hca⟩ := List.mem_flatMap.mp hc
  unfold escByte at hca
  split at hca
  · simp at hca; rcases hca with rfl <;> decide
  · split at hca
    · simp at hca; rcases hca with rfl | rfl <;> decide
    · rw [List.mem_singleton.mp hca]; exact ⟨h a ha, ‹_›⟩

theorem decodeValue_cons_of_ne {c : UInt8} (h : c ≠ 92) (t : Bytes) : decodeValue (c :: t) = c :: decodeValue t := by
  cases t with
  | nil => rfl
  | cons d r => rw [decodeValue, if_neg fun hc => h hc.1]

theorem decodeValue_escByte (c : UInt8) (t : Bytes) : decodeValue (escByte c ++ t) = c :: decodeValue t := by
  unfold escByte
  split
  · subst c; rw [List.cons_append, List.cons_append, decodeValue]; rfl
  · split
    · subst c; rw [List.cons_append, List.cons_append, decodeValue]; rfl
    · exact decodeValue_cons_of_ne ‹_› t

theorem decodeValue_escSeg : ∀ (s : Bytes), decodeValue (escSeg s) = s
  | [] => rfl
  | c :: s => by rw [escSeg, List.flatMap_cons, decodeValue_escByte, ← escSeg, decodeValue_escSeg s]

theorem decodeValue_id : ∀ (s : Bytes), (∀ c ∈ s, c ≠ 92) → decodeValue s = s
  | [], _ => rfl
  | c :: s, h => by
    rw [decodeValue_cons_of_ne (h c List.mem_cons_self), decodeValue_id s fun x hx => h x (List.mem_cons_of_mem _ hx)]

theorem splitBy_append (sep : UInt8) : ∀ (a b acc : Bytes), (∀ c ∈ a, c ≠ sep) →
    splitBy sep (a ++ sep :: b) acc = (acc.reverse ++ a) :: splitBy sep b []
  | [], b, acc, _ => by simp [splitBy]
  | c :: a, b, acc, h => by
    rw [List.cons_append, splitBy, if_neg (h c List.mem_cons_self),
      splitBy_append sep a b (c :: acc) fun x hx => h x (List.mem_cons_of_mem _ hx)]
    simp

theorem splitBy_noSep (sep : UInt8) : ∀ (a acc : Bytes), (∀ c ∈ a, c ≠ sep) → splitBy sep a acc = [acc.reverse ++ a]
  | [], acc, _ => by simp [splitBy]
  | c :: a, acc, h => by
    rw [splitBy, if_neg (h c List.mem_cons_self), splitBy_noSep sep a (c :: acc) fun x hx => h x (List.mem_cons_of_mem _ hx)]
    simp

theorem splitColon_append : ∀ (k x : Bytes), (∀ c ∈ k, c ≠ 58) → splitColon (k ++ 58 :: x) = some (k, x)
  | [], x, _ => by simp [splitColon]
  | c :: k, x, h => by
    rw [List.cons_append, splitColon, if_neg (h c List.mem_cons_self),
      splitColon_append k x fun y hy => h y (List.mem_cons_of_mem _ hy)]

theorem appendToField_twice (fs : Fields) (k a b : Bytes) :
    appendToField (appendToField fs k a) k b = appendToField fs k (a ++ b) := by
  unfold appendToField
  rw [List.map_map]
  refine List.map_congr_left fun p _ => ?_
  by_cases h : p.1 = k <;> simp [h]

theorem appendToField_setField (fs : Fields) (k s e : Bytes) :
    appendToField (setField fs k s) k e = setField fs k (s ++ e) := by
  unfold setField appendToField
  split
  · rw [List.map_map]
    refine List.map_congr_left fun p _ => ?_
    by_cases hp : p.1 = k <;> simp [hp]
  · rename_i h
    have h := hasKey_false_iff.mp (Bool.not_eq_true _ ▸ h)
    rw [List.map_append, List.map_congr_left (g := id) fun p hp => by simp [h p hp]]
    simp

end EphVerif.Control
