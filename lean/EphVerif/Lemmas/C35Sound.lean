/-
C35 — soundness of the may-analysis: a post-fixpoint `S` of the facts-free analysis bounds the
exception classes that can leave any function, for every assignment of facts and every call depth.
Independent of the generated table.  Also: the facts about serial accept loops behind `C35_partial` and
`probe_expectation`.
-/
import EphVerif.Model.Escape

namespace EphVerif.Escape
open EphVerif.Gen.C35

theorem mem_stepEsc_mono {facts : Facts} {callee : Nat → List Exc} {S : List (List Exc)}
    (h : ∀ f e, e ∈ callee f → e ∈ S.getD f []) {st : Step} {e : Exc}
    (he : e ∈ stepEsc facts callee st) : e ∈ stepEsc allFire (fun g => S.getD g []) st := by
  cases st with
  | prim s x g =>
    simp only [stepEsc] at he ⊢
    split at he
    · rename_i hc
      simp only [Bool.and_eq_true] at hc
      simp only [allFire, Bool.true_and, hc.2, if_true]
      exact he
    · cases he
  | call f g =>
    simp only [stepEsc, List.mem_filter] at he ⊢
    exact ⟨h f e he.1, he.2⟩

theorem escFn_subset {table : List (List Step)} {S : List (List Exc)} (hS : isPostFix table S = true)
    (facts : Facts) {fuel f : Nat} {e : Exc} (he : e ∈ escFn table facts fuel f) : e ∈ S.getD f [] := by
  induction fuel generalizing f e with
  | zero => cases he
  | succ n ih =>
    obtain ⟨st, hst, hes⟩ := List.mem_flatMap.mp he
    have hf : f < table.length := by
      refine Nat.lt_of_not_le fun hf => ?_
      rw [List.getD_eq_getElem?_getD, List.getElem?_eq_none hf] at hst
      cases hst
    have := List.all_eq_true.mp (List.all_eq_true.mp hS f (List.mem_range.mpr hf)) e
      (List.mem_flatMap.mpr ⟨st, hst, mem_stepEsc_mono (fun _ _ => ih) hes⟩)
    exact List.contains_iff_mem.mp this

theorem outcome_survives {table : List (List Step)} {S : List (List Exc)} (hS : isPostFix table S = true)
    {root : Nat} (hr : (S.getD root []).isEmpty = true) (facts : Facts) (fuel : Nat) :
    outcome table facts fuel root = .survives := by
  have hnil : escFn table facts fuel root = [] :=
    List.eq_nil_iff_forall_not_mem.mpr fun e he =>
      List.not_mem_nil (List.isEmpty_iff.mp hr ▸ escFn_subset hS facts he)
  rw [outcome, hnil]

theorem pickedUpAt_isSome (b : Bounds) : ∀ (cs : List Conn) (k : Nat),
    (pickedUpAt b cs k).isSome = true ↔ ∀ c ∈ cs.take k, (holdTime b c).isSome = true
  | [], 0 | [], _ + 1 | _ :: _, 0 => ⟨fun _ _ h => (nomatch h), fun _ => rfl⟩
  | c :: rest, k + 1 => by
    rw [List.take_succ_cons, List.forall_mem_cons, ← pickedUpAt_isSome b rest k, pickedUpAt]
    cases holdTime b c <;> cases pickedUpAt b rest k <;>
      simp only [Option.isSome_none, Option.isSome_some, Bool.false_eq_true, false_and, and_false, and_self]

theorem pickedUpAt_well_behaved {cs : List Conn} (h : ∀ c ∈ cs, c.wellBehaved = true) (b : Bounds) (k : Nat) :
    (pickedUpAt b cs k).isSome = true :=
  (pickedUpAt_isSome b cs k).mpr fun c hc => by
    cases c with
    | completes w => rfl
    | stalls s w => cases h _ (List.mem_of_mem_take hc)

theorem holdTime_bounded {T B : Nat} {b : Bounds} (hb : ∀ s, b s = some T) {c : Conn} (hc : c.work ≤ B) :
    ∃ h, holdTime b c = some h ∧ h ≤ T + B := by
  cases c with
  | completes w => exact ⟨w, rfl, Nat.le_trans hc (Nat.le_add_left ..)⟩
  | stalls s w => exact ⟨w + T, by rw [holdTime, hb s]; rfl, by rw [Nat.add_comm]; exact Nat.add_le_add_left hc T⟩

theorem pickedUpAt_bounded {T B : Nat} {b : Bounds} (hb : ∀ s, b s = some T) {cs : List Conn}
    (hB : ∀ c ∈ cs, c.work ≤ B) (k : Nat) : ∃ t, pickedUpAt b cs k = some t ∧ t ≤ k * (T + B) := by
  induction cs generalizing k with
  | nil => cases k <;> exact ⟨0, rfl, Nat.zero_le _⟩
  | cons c rest ih =>
    cases k with
    | zero => exact ⟨0, rfl, Nat.zero_le _⟩
    | succ k =>
      obtain ⟨t, ht, hle⟩ := ih (fun x hx => hB x (List.mem_cons_of_mem _ hx)) k
      obtain ⟨h, hh, hle'⟩ := holdTime_bounded hb (hB c List.mem_cons_self)
      exact ⟨h + t, by rw [pickedUpAt, hh, ht], by rw [Nat.succ_mul]; omega⟩

theorem servedBehind_eq (b : Bounds) (s : Site) : servedBehind b s = (b s).isSome := by
  rw [servedBehind, pickedUpAt, holdTime]
  cases b s <;> rfl

end EphVerif.Escape
