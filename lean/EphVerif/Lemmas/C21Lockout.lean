import EphVerif.Lemmas.C21Basic

/-! C21 — failure history and lockout along histories. -/

namespace EphVerif.C21
open EphVerif.Announce

theorem sublist_dropWhile {p : Int → Bool} : ∀ {ts l : List Int}, (∀ x ∈ ts.head?, p x = false) → ts.Sublist l →
    ts.Sublist (l.dropWhile p)
  | [], _, _, _ => List.nil_sublist _
  | _ :: _, [], _, h => nomatch h
  | x :: xs, y :: ys, hx, h => by
    rw [List.dropWhile_cons]
    split
    · next hy =>
      cases h with
      | cons _ h' => exact sublist_dropWhile hx h'
      | cons_cons _ h' => rw [hx x rfl] at hy; cases hy
    · exact h

/-- bookkeeping for the counted rejections of one peer at the times `ts`, the first of them (if any) at `t0` -/
def OnRecord (ts : List Int) (t0 now : Int) (ps : PeerSt) : Prop :=
  t0 ≤ now ∧
  (ts.Sublist ps.fails ∨                                   -- the rejections are in the failure history,
   (∃ u, ps.lock = some u ∧ t0 + lockoutDuration ≤ u) ∨    -- or they have set a lockout that outlasts the first by 180 s,
   now - t0 > failureWindow)                               -- or the first of them no longer counts

theorem onRecord_adv {ts : List Int} {t0 now : Int} {ps : PeerSt} (h : OnRecord ts t0 now ps) (d : Nat) : OnRecord ts t0 (now + d) ps :=
  ⟨by have := h.1; omega, h.2.imp_right (.imp_right fun h => by omega)⟩

theorem onRecord_prefix {ts more : List Int} {t0 now : Int} {ps : PeerSt} (h : OnRecord (ts ++ more) t0 now ps) : OnRecord ts t0 now ps :=
  ⟨h.1, h.2.imp_left (List.sublist_append_left ts more).trans⟩

theorem onRecord_count {ts : List Int} {t0 now : Int} {ps ps' : PeerSt} (hh : ∀ x ∈ ts.head?, x = t0)
    (h : OnRecord ts t0 now ps) (hu : Unlocked now ps) (hf : (ps'.fails, ps'.lock) = failStep now ps.fails) :
    OnRecord (ts ++ [now]) t0 now ps' ∧
    (now - t0 ≤ failureWindow → failureThreshold ≤ ts.length + 1 → ps'.lock = some (now + lockoutDuration)) := by
  have hwl : failureWindow < lockoutDuration := by decide
  obtain ⟨h0, hq⟩ := h
  by_cases hwin : now - t0 ≤ failureWindow
  · -- an unexpired lockout or a `t0` outside the window are excluded, so `ts` is on record and survives the pruning
    have hs : ts.Sublist ps.fails := by
      rcases hq with hs | ⟨u, hl, hle⟩ | hout
      · exact hs
      · have := hu u hl; omega
      · omega
    have hp := (sublist_dropWhile (p := fun t => decide (now - t > failureWindow))
      (fun x hx => by rw [hh x hx]; simpa using hwin) hs).append (List.Sublist.refl [now])
    have hlen := hp.length_le
    rw [List.length_append, List.length_singleton] at hlen
    rw [failStep] at hf
    split at hf <;> obtain ⟨hf1, hf2⟩ := Prod.mk.inj hf
    · exact ⟨⟨h0, .inr (.inl ⟨_, hf2, by omega⟩)⟩, fun _ _ => hf2⟩
    · exact ⟨⟨h0, .inl (hf1 ▸ hp)⟩, fun _ _ => by omega⟩
  · exact ⟨⟨h0, .inr (.inr (by omega))⟩, fun h => absurd h hwin⟩

theorem onRecord_announce {cfg : Cfg} {ts : List Int} {t0 now : Int} {ps : PeerSt} (a : Ann) (hh : ∀ x ∈ ts.head?, x = t0)
    (h : OnRecord ts t0 now ps) (hna : (peerAnnounce cfg now ps a).2 ≠ .accepted) :
    OnRecord ts t0 now (peerAnnounce cfg now ps a).1 := by
  have hx := peerAnnounce_exit cfg now ps a
  generalize peerAnnounce cfg now ps a = r at hx hna
  cases hx with
  | locked => exact h
  | rejected hl => exact onRecord_prefix (onRecord_count hh h hl rfl).1
  | accepted => exact absurd rfl hna

theorem onRecord_reject {cfg : Cfg} {ts : List Int} {t0 now : Int} {ps : PeerSt} (a : Ann) (hh : ∀ x ∈ ts.head?, x = t0)
    (h : OnRecord ts t0 now ps) (hr : ∃ x, (peerAnnounce cfg now ps a).2 = .rejected x ∧ x ≠ .locked) :
    OnRecord (ts ++ [now]) t0 now (peerAnnounce cfg now ps a).1 ∧
    (now - t0 ≤ failureWindow → failureThreshold ≤ ts.length + 1 →
      (peerAnnounce cfg now ps a).1.lock = some (now + lockoutDuration)) := by
  have hx := peerAnnounce_exit cfg now ps a
  generalize peerAnnounce cfg now ps a = r at hx hr
  obtain ⟨x, hx', hxl⟩ := hr
  cases hx with
  | locked => cases hx'; exact absurd rfl hxl
  | rejected hl => exact onRecord_count hh h hl rfl
  | accepted => cases hx'

def NoAccept (p : String) (evs : List Ev) : Prop := ∀ e ∈ evs, e.a.peer = p → e.out ≠ .accepted

theorem step_onRecord {cfg : Cfg} {p : String} {ts : List Int} {t0 : Int} {s : State} (op : Op) (hh : ∀ x ∈ ts.head?, x = t0)
    (h : OnRecord ts t0 s.now (s.peers p)) (hna : NoAccept p (step cfg s op).2) :
    OnRecord ts t0 (step cfg s op).1.now ((step cfg s op).1.peers p) := by
  cases op with
  | adv d => exact onRecord_adv h d
  | ann a =>
    by_cases hp : p = a.peer
    · subst hp
      exact announce_peer cfg s a ▸ onRecord_announce a hh h (hna ⟨s.now, a, (announce cfg s a).2⟩ (List.mem_singleton_self _) rfl)
    · exact announce_other cfg s a p hp ▸ h

theorem run_onRecord {cfg : Cfg} {p : String} {ts : List Int} {t0 : Int} (hh : ∀ x ∈ ts.head?, x = t0) (ops : List Op) :
    ∀ (s : State) (log : List Ev), OnRecord ts t0 s.now (s.peers p) → NoAccept p (run cfg (s, log) ops).2 →
      OnRecord ts t0 (run cfg (s, log) ops).1.now ((run cfg (s, log) ops).1.peers p) := by
  induction ops with
  | nil => intro s log h _; exact h
  | cons op rest ih =>
    intro s log h hna
    exact ih _ _ (step_onRecord op hh h fun e he => hna e (mem_run rest _ _ e (List.mem_append_right _ he))) hna

theorem run_locked {cfg : Cfg} {p : String} {u : Int} (ops : List Op) :
    ∀ (s : State) (log : List Ev), (s.peers p).lock = some u → (run cfg (s, log) ops).1.now < u →
      ((run cfg (s, log) ops).1.peers p).lock = some u := by
  induction ops with
  | nil => intro s log h _; exact h
  | cons op rest ih =>
    intro s log h hlt
    refine ih _ _ ?_ hlt
    cases op with
    | adv d => exact h
    | ann a =>
      have hnow : s.now < u := Int.lt_of_le_of_lt (run_now_le cfg rest (announce cfg s a).1 _) hlt
      by_cases hp : p = a.peer
      · subst hp
        show ((announce cfg s a).1.peers a.peer).lock = some u
        rw [announce_peer, peerAnnounce_locked a h hnow]
        exact h
      · exact announce_other cfg s a p hp ▸ h

theorem announce_locked {cfg : Cfg} {s : State} {a : Ann} {u : Int} (h : (s.peers a.peer).lock = some u)
    (hlt : s.now < u) : (announce cfg s a).2 = .rejected .locked ∧ (announce cfg s a).1.obs = s.obs := by
  have hout : (announce cfg s a).2 = .rejected .locked := by rw [announce_out, peerAnnounce_locked a h hlt]
  exact ⟨hout, announce_obs cfg s a (hout ▸ nofun)⟩

end EphVerif.C21
