/-
Helper lemmas for C25: write buffers are FIFO queues tied to the effects in `out` (`Fifo`): whatever is
queued for a client goes to the end of its write buffer, whatever is sent comes off the front, nothing else
touches a write buffer.  Every primitive update keeps that, hence (`StepRel`) every event does.
-/
import EphVerif.Lemmas.C25View
namespace EphVerif.Relay
open EphVerif.Gen.C25

/-- bytes queued for `d` by a list of effects (newest first), in chronological order -/
def qbytes : List Out → Client → Bytes
  | [], _ => []
  | .queued c it :: rest, d => qbytes rest d ++ (if c = d then it.bytes else [])
  | _ :: rest, d => qbytes rest d

def sbytes : List Out → Client → Bytes
  | [], _ => []
  | .sent c b :: rest, d => sbytes rest d ++ (if c = d then b else [])
  | _ :: rest, d => sbytes rest d

theorem qbytes_append (n2 n1 : List Out) (d : Client) : qbytes (n2 ++ n1) d = qbytes n1 d ++ qbytes n2 d := by
  induction n2 with
  | nil => simp [qbytes]
  | cons o t ih => cases o <;> simp [qbytes, ih, List.append_assoc]

theorem sbytes_append (n2 n1 : List Out) (d : Client) : sbytes (n2 ++ n1) d = sbytes n1 d ++ sbytes n2 d := by
  induction n2 with
  | nil => simp [sbytes]
  | cons o t ih => cases o <;> simp [sbytes, ih, List.append_assoc]

/-- For client `d`: what has been queued for it is what has been sent to it followed by some `r`, which is its
    write buffer while it has a session; a client never accepted has no session and nothing queued. -/
def FifoAt (σ : State) (d : Client) : Prop :=
  ∃ r, sbytes σ.out d ++ r = qbytes σ.out d ∧ (∀ s, σ.get d = some s → s.writeBuf = r) ∧
    (d ∉ σ.used → σ.get d = none ∧ qbytes σ.out d = [])

def Fifo (σ : State) : Prop := ∀ d, FifoAt σ d

theorem fifo_init : Fifo init := fun _ => ⟨[], rfl, fun _ h => (by cases h), fun _ => ⟨rfl, rfl⟩⟩

theorem Fifo.alive {σ : State} (h : Fifo σ) {d : Client} {s : Session} (hd : σ.get d = some s) :
    sbytes σ.out d ++ s.writeBuf = qbytes σ.out d := by
  obtain ⟨r, e, hr, -⟩ := h d
  rw [hr s hd, e]

theorem fifo_stepRel : StepRel fun σ σ' => Fifo σ → Fifo σ' where
  refl _ := id
  trans h12 h23 := h23 ∘ h12
  regs {σ σ'} h hF d := by
    obtain ⟨r, e, hr, hf⟩ := hF d
    exact ⟨r, by rw [h.out]; exact e, by rw [h.get]; exact hr, by rw [h.used, h.get, h.out]; exact hf⟩
  edit {σ c s} s' hc hw hF d := by
    obtain ⟨r, e, hr, hf⟩ := hF d
    refine ⟨r, e, fun s1 h1 => ?_, fun hu => ⟨?_, (hf hu).2⟩⟩ <;> rw [get_put] at *
    · split at h1
      · subst d; cases h1; rw [hw]; exact hr s hc
      · exact hr s1 h1
    · rw [if_neg (by rintro rfl; rw [hc] at hf; cases (hf hu).1)]; exact (hf hu).1
  queue σ c it hF d := by
    cases hc : σ.get c with
    | none => rw [queue_of_dead hc]; exact hF d
    | some s =>
      obtain ⟨r, e, hr, hf⟩ := hF d
      rw [queue_of_get hc]
      by_cases hd : c = d
      · subst hd
        refine ⟨r ++ it.bytes, ?_, fun s1 h1 => ?_, fun hu => ?_⟩
        · simp only [out_emit, out_put, qbytes, sbytes, if_true, ← List.append_assoc, e]
        · rw [get_emit, get_put, if_pos rfl] at h1; cases h1; rw [← hr s hc]
        · rw [hc] at hf; cases (hf hu).1
      · refine ⟨r, ?_, fun s1 h1 => ?_, fun hu => ⟨?_, ?_⟩⟩
        · simp only [out_emit, out_put, qbytes, sbytes, if_neg hd, List.append_nil, e]
        · rw [get_emit, get_put, if_neg (Ne.symm hd)] at h1; exact hr s1 h1
        · rw [get_emit, get_put, if_neg (Ne.symm hd)]; exact (hf hu).1
        · simp only [out_emit, out_put, qbytes, if_neg hd, List.append_nil]; exact (hf hu).2
  drop σ c hF d := by
    obtain ⟨r, e, hr, hf⟩ := hF d
    refine ⟨r, e, fun s1 h1 => ?_, fun hu => ⟨?_, (hf hu).2⟩⟩ <;> rw [get_drop] at *
    · split at h1
      · cases h1
      · exact hr s1 h1
    · rw [(hf hu).1, ite_self]
  closed _ _ hF d := hF d
  flush {σ c s} n hc hF d := by
    obtain ⟨r, e, hr, hf⟩ := hF d
    by_cases hd : c = d
    · subst hd
      refine ⟨r.drop n, ?_, fun s1 h1 => ?_, fun hu => ?_⟩
      · simp only [out_emit, out_put, qbytes, sbytes, if_true, hr s hc, List.append_assoc, List.take_append_drop, e]
      · rw [get_emit, get_put, if_pos rfl] at h1; cases h1; rw [← hr s hc]
      · rw [hc] at hf; cases (hf hu).1
    · refine ⟨r, ?_, fun s1 h1 => ?_, fun hu => ⟨?_, (hf hu).2⟩⟩
      · simp only [out_emit, out_put, qbytes, sbytes, if_neg hd, List.append_nil, e]
      · rw [get_emit, get_put, if_neg (Ne.symm hd)] at h1; exact hr s1 h1
      · rw [get_emit, get_put, if_neg (Ne.symm hd)]; exact (hf hu).1
  hang _ hF d := hF d

theorem fifo_step (σ : State) (ev : Event) (hF : Fifo σ) : Fifo (step σ ev) := by
  by_cases hacc : ∃ c, ev = .accept c
  · obtain ⟨c, rfl⟩ := hacc
    rw [step]
    split
    · exact hF
    next hu =>
      -- the new session starts with an empty write buffer, and nothing was ever queued for or sent to `c`
      intro d
      obtain ⟨r, e, hr, hf⟩ := hF d
      show ∃ r, sbytes σ.out d ++ r = qbytes σ.out d ∧ (∀ s, (σ.put c {}).get d = some s → s.writeBuf = r) ∧
        (d ∉ c :: σ.used → (σ.put c {}).get d = none ∧ qbytes σ.out d = [])
      rw [get_put]
      split
      · subst d
        have hq := (hf hu).2
        rw [hq] at e ⊢
        exact ⟨[], by rw [(List.append_eq_nil_iff.mp e).1]; rfl, fun s h => (by cases h; rfl), fun h => absurd List.mem_cons_self h⟩
      · exact ⟨r, e, hr, fun h => hf fun h' => h (List.mem_cons_of_mem _ h')⟩
  · exact fifo_stepRel.step σ ev (fun c h => hacc ⟨c, h⟩) hF

theorem fifo_run (evs : List Event) : Fifo (run init evs) :=
  run_invariant fifo_step evs init fifo_init

end EphVerif.Relay
