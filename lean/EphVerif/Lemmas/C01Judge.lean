/-
Every observation the ChunkStore model makes is accepted by the specification's `judge` (C01).
-/
import EphVerif.Lemmas.C01Refine

namespace EphVerif.ChunkStore
open EphVerif.StoreSpec (Op Obs Params Entry W last readWire readRecord live judge)

theorem get_eq_readWire {w : World} {a : W} (h : Rel w a) (id : String) :
    get w.sys.recs w.now id = readWire a.s id a.now :=
  map_getRecord h id _ _ fun _ _ h1 _ _ => h1.symm

theorem fetch_eq_read {w : World} {a : W} (h : Rel w a) (id : String) :
    nodeFetch w.sys.recs w.now id = StoreSpec.read a.s id a.now :=
  map_getRecord h id _ _ fun _ _ _ h2 _ => h2.symm

theorem record_eq_readRecord {w : World} {a : W} (h : Rel w a) (id : String) :
    (getRecord w.sys.recs w.now id).map (fun r => (r.data, r.expires)) = readRecord a.s id a.now :=
  map_getRecord h id _ _ fun _ _ h1 _ h3 => by rw [h1, h3]

theorem request_some {nc : NodeCfg} {w : World} {a : W} (h : Rel w a) {id : String} {b : Bytes}
    (hq : nodeRequest nc w.sys.recs w.now id = some b) : readWire a.s id a.now = some b :=
  (get_eq_readWire h id).symm.trans (nodeRequest_some hq)

theorem request_none {nc : NodeCfg} (hs : SaneCfg nc) {w : World} {a : W} (h : Rel w a) {id : String}
    (hq : nodeRequest nc w.sys.recs w.now id = none) {e : Entry} (he : last a.s id = some e) :
    ¬ (a.now < e.deadline ∧ nc.minTtl * EphVerif.StoreSpec.nsPerSec ≤ e.deadline - a.now) := by
  rintro ⟨hl, hgr⟩
  obtain ⟨r, hg, _, _, h3⟩ := getRecord_of_live h he hl
  cases (nodeRequest_of_grace hs.1 hg (by rw [← h3, h.now_eq]; exact hgr)).symm.trans hq

theorem live_iff {s : EphVerif.StoreSpec.S} {id : String} {t : Int} :
    live s id t = true ↔ ∃ e, last s id = some e ∧ t < e.deadline := by
  unfold live StoreSpec.read
  cases last s id with
  | none => simp
  | some e => by_cases h : t < e.deadline <;> simp [h]

theorem mem_list_iff {w : World} {a : W} (h : Rel w a) {id : String} {d : Int} :
    (id, d) ∈ (nodeList w.sys.recs w.now).map (fun e => (e.1, e.2.1)) ↔
      ∃ e, last a.s id = some e ∧ a.now < e.deadline ∧ e.deadline = d := by
  rw [mem_nodeList]
  constructor
  · rintro ⟨r, hr, rfl, hl⟩
    obtain ⟨e, he, _, _, h3⟩ := h.sound _ _ (aget_of_mem h.uniq hr)
    exact ⟨e, he, by rw [← h.now_eq, h3]; exact hl, h3⟩
  · rintro ⟨e, he, hl, rfl⟩
    obtain ⟨r, hg, _, _, h3⟩ := getRecord_of_live h he hl
    obtain ⟨hr, hl'⟩ := getRecord_eq_some.mp hg
    exact ⟨r, mem_of_aget hr, h3.symm, h3 ▸ hl'⟩

theorem last_id {s : EphVerif.StoreSpec.S} {id : String} {e : Entry} (h : last s id = some e) : e.id = id := by
  induction s with
  | nil => simp [last] at h
  | cons x s ih =>
    simp only [last] at h
    split at h
    · cases h; assumption
    · exact ih h

theorem judge_stepF {nc : NodeCfg} (hs : SaneCfg nc) (φ : Faults) {w : World} {a : W} (h : Rel w a) (op : Op) :
    judge (paramsOf nc) a op (stepF nc φ w op).2 = none := by
  cases op with
  | lookup id => simp [stepF, judge, get_eq_readWire h]
  | record id => simp [stepF, judge, recObs, record_eq_readRecord h]
  | fetch id => simp [stepF, judge, fetch_eq_read h]
  | request id =>
    simp only [stepF, judge]
    cases hq : nodeRequest nc w.sys.recs w.now id with
    | some b => simp [request_some h hq]
    | none =>
      simp only []
      cases he : last a.s id with
      | none => rfl
      | some e => exact if_neg (request_none hs h hq he)
  | list =>
    simp only [stepF, judge]
    rw [if_neg, if_neg, if_neg]
    -- the three clauses of the listing, last first
    · simp only [List.any_eq_true, bne_iff_ne, not_exists, not_and, Decidable.not_not]
      intro x hx
      obtain ⟨e, he, _, hd⟩ := (mem_list_iff h).mp hx
      rw [he, Option.map_some, hd]
    · simp only [List.any_eq_true, Bool.and_eq_true, Bool.not_eq_true', List.contains_eq_mem, decide_eq_false_iff_not,
        not_exists, not_and]
      intro x hx hl
      obtain ⟨e, he, hlt⟩ := live_iff.mp hl
      exact fun hn => hn (List.mem_map.mpr ⟨_, (mem_list_iff h).mpr ⟨e, he, hlt, rfl⟩, rfl⟩)
    · simp only [List.any_eq_true, Bool.not_eq_true', not_exists, not_and, Bool.not_eq_false]
      intro x hx
      obtain ⟨e, he, hl, _⟩ := (mem_list_iff h).mp hx
      exact live_iff.mpr ⟨e, he, hl⟩
  | tick =>
    simp only [stepF, nodeTickF]
    split <;> rfl
  | _ => rfl

theorem judge_step {nc : NodeCfg} (hs : SaneCfg nc) {w : World} {a : W} (h : Rel w a) (op : Op) :
    judge (paramsOf nc) a op (step nc w op).2 = none := judge_stepF hs [] h op

end EphVerif.ChunkStore
