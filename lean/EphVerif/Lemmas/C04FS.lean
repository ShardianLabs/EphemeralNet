/-
File-system effect of the ChunkStore model's operation lists (C04): overwrite passes,
secure wipe, persist, put, sweep, start-up purge.
-/
import EphVerif.Lemmas.C01Assoc

namespace EphVerif.ChunkStore

theorem applyOps_append (fs : FS) (a b : List FsOp) : applyOps fs (a ++ b) = applyOps (applyOps fs a) b :=
  List.foldl_append

theorem applyOps_nil (fs : FS) : applyOps fs [] = fs := rfl
theorem applyOps_cons (fs : FS) (o : FsOp) (r : List FsOp) : applyOps fs (o :: r) = applyOps (applyOp fs o) r := rfl

def FsOp.path : FsOp → Name
  | .create p | .append p _ | .zero p _ _ | .remove p => p

/-- operations that can never bring a file into existence -/
def FsOp.wipeish : FsOp → Prop
  | .zero _ _ _ | .remove _ => True
  | _ => False

theorem applyOp_other (fs : FS) {o : FsOp} {q : Name} (h : o.path ≠ q) : aget (applyOp fs o) q = aget fs q := by
  cases o with
  | create p => exact aget_aset_ne _ _ h
  | remove p => exact aget_adel_ne _ h
  | append p bs | zero p =>
    simp only [applyOp]
    split
    · exact aget_aset_ne _ _ h
    · rfl

theorem applyOps_other {q : Name} {ops : List FsOp} {fs : FS} (h : ∀ o ∈ ops, o.path ≠ q) :
    aget (applyOps fs ops) q = aget fs q := by
  induction ops generalizing fs with
  | nil => rfl
  | cons o r ih =>
    rw [applyOps_cons, ih fun o' ho' => h o' (List.mem_cons_of_mem _ ho'), applyOp_other fs (h o List.mem_cons_self)]

theorem applyOp_absent {fs : FS} {q : Name} {o : FsOp} (hw : o.wipeish) (h : aget fs q = none) :
    aget (applyOp fs o) q = none := by
  by_cases hq : o.path = q
  · cases o with
    | create p => cases hw
    | append p bs => cases hw
    | zero p off len => cases hq; simp only [applyOp, show aget fs p = none from h]; exact h
    | remove p => cases hq; exact aget_adel_self _ _
  · rw [applyOp_other fs hq, h]

theorem applyOps_absent {q : Name} {ops : List FsOp} {fs : FS} (hw : ∀ o ∈ ops, o.wipeish)
    (h : aget fs q = none) : aget (applyOps fs ops) q = none := by
  induction ops generalizing fs with
  | nil => exact h
  | cons o r ih =>
    exact ih (fun o' ho' => hw o' (List.mem_cons_of_mem _ ho')) (applyOp_absent (hw o List.mem_cons_self) h)

theorem passOps_zero (p : Name) (fuel off : Nat) : passOps p fuel off 0 = [] := by
  cases fuel <;> simp [passOps]

theorem passOps_succ (p : Name) (fuel off : Nat) {rem : Nat} (hr : rem ≠ 0) :
    ∃ c, 1 ≤ c ∧ c ≤ rem ∧ passOps p (fuel + 1) off rem = .zero p off c :: passOps p fuel (off + c) (rem - c) :=
  ⟨if wipeBuf = 0 then rem else min wipeBuf rem, by split <;> omega, by split <;> omega, by simp only [passOps, hr, if_false]⟩

theorem passOps_ops {p : Name} {fuel off rem : Nat} : ∀ o ∈ passOps p fuel off rem, o.path = p ∧ o.wipeish := by
  induction fuel generalizing off rem with
  | zero => exact List.forall_mem_nil _
  | succ n ih =>
    by_cases hr : rem = 0
    · rw [hr, passOps_zero]; exact List.forall_mem_nil _
    · obtain ⟨c, _, _, hc⟩ := passOps_succ p n off hr
      rw [hc, List.forall_mem_cons]
      exact ⟨⟨rfl, trivial⟩, ih⟩

theorem zero_step (off c : Nat) (tail : Bytes) :
    (zeros off ++ tail).take off ++ zeros c ++ (zeros off ++ tail).drop (off + c) = zeros (off + c) ++ tail.drop c := by
  have h1 : (zeros off ++ tail).take off = zeros off := by
    simp [zeros]
  have h2 : (zeros off ++ tail).drop (off + c) = tail.drop c := by
    simp [zeros, List.drop_append]
  rw [h1, h2]
  simp [zeros, List.replicate_append_replicate]

theorem passOps_content (p : Name) {fuel off rem : Nat} {fs : FS} {tail : Bytes}
    (hf : rem ≤ fuel) (hl : tail.length = rem) (hg : aget fs p = some (zeros off ++ tail)) :
    aget (applyOps fs (passOps p fuel off rem)) p = some (zeros (off + rem)) := by
  induction fuel generalizing off rem fs tail with
  | zero =>
    obtain rfl : rem = 0 := by omega
    obtain rfl := List.eq_nil_of_length_eq_zero hl
    rwa [List.append_nil] at hg
  | succ n ih =>
    by_cases hr : rem = 0
    · subst hr
      obtain rfl := List.eq_nil_of_length_eq_zero hl
      rwa [passOps_zero, List.append_nil] at *
    · obtain ⟨c, hc1, hc2, hc⟩ := passOps_succ p n off hr
      have hg' : aget (applyOp fs (.zero p off c)) p = some (zeros (off + c) ++ tail.drop c) := by
        simp only [applyOp, hg, aget_aset_self, zero_step]
      rw [hc, applyOps_cons, ih (by omega) (by simp [hl]) hg']
      congr 2
      omega

def writtenBytes : List FsOp → Nat
  | [] => 0
  | .zero _ _ len :: r => len + writtenBytes r
  | .append _ bs :: r => bs.length + writtenBytes r
  | _ :: r => writtenBytes r

theorem passOps_written (p : Name) {fuel off rem : Nat} (h : rem ≤ fuel) :
    writtenBytes (passOps p fuel off rem) = rem := by
  induction fuel generalizing off rem with
  | zero =>
    obtain rfl : rem = 0 := by omega
    rfl
  | succ n ih =>
    by_cases hr : rem = 0
    · rw [hr, passOps_zero]; rfl
    · obtain ⟨c, hc1, hc2, hc⟩ := passOps_succ p n off hr
      rw [hc, writtenBytes, ih (by omega)]; omega

theorem writtenBytes_append (a b : List FsOp) : writtenBytes (a ++ b) = writtenBytes a + writtenBytes b := by
  induction a with
  | nil => simp [writtenBytes]
  | cons o r ih => cases o <;> simp [writtenBytes, ih] <;> omega

theorem overwriteOps_succ (p : Name) (size passes : Nat) :
    overwriteOps p size (passes + 1) = passOps p size 0 size ++ overwriteOps p size passes := by
  simp only [overwriteOps, List.replicate_succ, List.flatten_cons]

theorem overwriteOps_written (p : Name) (size passes : Nat) :
    writtenBytes (overwriteOps p size passes) = passes * size := by
  induction passes with
  | zero => simp [overwriteOps, writtenBytes]
  | succ n ih =>
    rw [overwriteOps_succ, writtenBytes_append, ih, passOps_written p (Nat.le_refl _), Nat.add_mul]; omega

theorem overwriteOps_ops {p : Name} {size passes : Nat} : ∀ o ∈ overwriteOps p size passes, o.path = p ∧ o.wipeish := by
  intro o h
  simp only [overwriteOps, List.mem_flatten, List.mem_replicate] at h
  obtain ⟨l, ⟨_, rfl⟩, ho⟩ := h
  exact passOps_ops o ho

theorem overwriteOps_content (p : Name) {passes : Nat} {fs : FS} {bs : Bytes} (hg : aget fs p = some bs) :
    aget (applyOps fs (overwriteOps p bs.length passes)) p = some (if passes = 0 then bs else zeros bs.length) := by
  induction passes generalizing fs bs with
  | zero => exact hg
  | succ n ih =>
    rw [overwriteOps_succ, applyOps_append]
    have h1 := passOps_content p (off := 0) (Nat.le_refl _) rfl hg
    rw [Nat.zero_add] at h1
    have h2 := ih h1
    rw [show (zeros bs.length).length = bs.length from List.length_replicate] at h2
    rw [h2]
    by_cases hn : n = 0 <;> simp [hn]

theorem faultAt_nil (i : Nat) : faultAt [] i = none := rfl

theorem truncOp_ops {o : FsOp} {s : Nat} : ∀ o' ∈ truncOp o s, o'.path = o.path ∧ (o.wipeish → o'.wipeish) := by
  cases o with
  | create p | remove p => exact List.forall_mem_nil _
  | append p bs | zero p off len =>
    simp only [truncOp]
    split
    · exact List.forall_mem_nil _
    · rw [List.forall_mem_singleton]; exact ⟨rfl, id⟩

theorem writesF_ops {P : FsOp → Prop} {φ : Faults} {ops : List FsOp} {n : Nat}
    (h : ∀ o ∈ ops, P o) (ht : ∀ o, P o → ∀ s, ∀ o' ∈ truncOp o s, P o') :
    ∀ o ∈ (writesF φ ops n).1, P o := by
  induction ops generalizing n with
  | nil => exact List.forall_mem_nil _
  | cons x r ih =>
    rw [List.forall_mem_cons] at h
    unfold writesF
    split
    · exact ht x h.1 _
    · rw [List.forall_mem_cons]; exact ⟨h.1, ih h.2⟩

theorem writesF_nofault (ops : List FsOp) (n : Nat) : (writesF [] ops n).1 = ops := by
  induction ops generalizing n with
  | nil => rfl
  | cons o r ih => simp only [writesF, faultAt_nil, ih]

theorem wipeF_ops {cfg : Cfg} {φ : Faults} {fs : FS} {p : Name} {n : Nat} :
    ∀ o ∈ (wipeF cfg φ fs p n).1, o.path = p ∧ o.wipeish := by
  have hw : ∀ size m, ∀ o ∈ (writesF φ (overwriteOps p size cfg.passes) m).1, o.path = p ∧ o.wipeish :=
    fun size m => writesF_ops overwriteOps_ops
      fun o hP s o' ho' => ⟨(truncOp_ops o' ho').1.trans hP.1, (truncOp_ops o' ho').2 hP.2⟩
  simp only [wipeF]
  split
  · exact List.forall_mem_nil _
  · split
    · exact List.forall_mem_nil _
    · split
      · exact hw _ _
      · rw [List.forall_mem_append, List.forall_mem_singleton]; exact ⟨hw _ _, rfl, trivial⟩

theorem wipeF_ok {cfg : Cfg} {φ : Faults} {fs : FS} {p : Name} {n : Nat}
    (h : (wipeF cfg φ fs p n).2.2 = true) : aget (applyOps fs (wipeF cfg φ fs p n).1) p = none := by
  simp only [wipeF] at h ⊢
  split
  · assumption
  · split
    · simp only [*] at h; cases h
    · split
      · simp only [*] at h; cases h
      · rw [applyOps_append]; exact aget_adel_self _ _

theorem wipeF_nofault (cfg : Cfg) (fs : FS) (p : Name) (n : Nat) :
    (wipeF cfg [] fs p n).1 = wipeOps cfg fs p ∧ (wipeF cfg [] fs p n).2.2 = true := by
  simp only [wipeF, wipeOps, faultAt_nil, writesF_nofault]
  split <;> exact ⟨rfl, rfl⟩

theorem wipeOps_self (cfg : Cfg) (fs : FS) (p : Name) : aget (applyOps fs (wipeOps cfg fs p)) p = none :=
  (wipeF_nofault cfg fs p 0).1 ▸ wipeF_ok (wipeF_nofault cfg fs p 0).2

theorem wipeOps_other (cfg : Cfg) (fs : FS) {p q : Name} (h : p ≠ q) :
    aget (applyOps fs (wipeOps cfg fs p)) q = aget fs q := by
  rw [← (wipeF_nofault cfg fs p 0).1]
  exact applyOps_other fun o ho => (wipeF_ops o ho).1 ▸ h

theorem persistF_path {cfg : Cfg} {φ : Faults} {fs : FS} {p : Name} {data : Bytes} {n : Nat} :
    ∀ o ∈ (persistF cfg φ fs p data n).ops, o.path = p := by
  have hw : ∀ fs n, ∀ o ∈ (wipeF cfg φ fs p n).1, o.path = p := fun fs n o ho => (wipeF_ops o ho).1
  have ht : ∀ s, ∀ o ∈ truncOp (.append p data) s, o.path = p := fun s o ho => (truncOp_ops o ho).1
  simp only [persistF]
  split
  · rw [List.forall_mem_append]; exact ⟨hw _ _, hw _ _⟩
  · split
    · rw [List.forall_mem_append, List.forall_mem_singleton]; exact ⟨hw _ _, rfl⟩
    · split
      · simp only [List.forall_mem_append, List.forall_mem_cons]; exact ⟨⟨hw _ _, rfl, ht _⟩, hw _ _⟩
      · simp only [List.forall_mem_append, List.forall_mem_cons]; exact ⟨hw _ _, rfl, rfl, List.forall_mem_nil _⟩

theorem persistF_ok {cfg : Cfg} {φ : Faults} {fs : FS} {p : Name} {data : Bytes} {n : Nat}
    (h : (persistF cfg φ fs p data n).ok = true) :
    aget (applyOps fs (persistF cfg φ fs p data n).ops) p = some data ∧ (persistF cfg φ fs p data n).defer = false := by
  simp only [persistF] at h ⊢
  split
  · simp only [*] at h; cases h
  · split
    · next he =>
      obtain rfl : data = [] := List.isEmpty_iff.mp he
      exact ⟨by rw [applyOps_append]; exact aget_aset_self _ _ _, rfl⟩
    · split
      · simp only [*] at h; cases h
      · refine ⟨?_, rfl⟩
        rw [applyOps_append]
        simp only [applyOps_cons, applyOps_nil, applyOp, aget_aset_self, List.nil_append]

theorem persistF_failed {cfg : Cfg} {φ : Faults} {fs : FS} {p : Name} {data : Bytes} {n : Nat}
    (h : (persistF cfg φ fs p data n).ok = false) (hd : (persistF cfg φ fs p data n).defer = false) :
    aget (applyOps fs (persistF cfg φ fs p data n).ops) p = none := by
  simp only [persistF] at h hd ⊢
  split
  · simp only [*, Bool.not_eq_false'] at hd
    rw [applyOps_append]
    exact wipeF_ok hd
  · split
    · simp only [*] at h; cases h
    · split
      · simp only [*, Bool.false_eq_true, if_false, Bool.not_eq_false'] at hd
        rw [applyOps_append, applyOps_append]
        exact wipeF_ok hd
      · simp only [*] at h; cases h

theorem putF_path {cfg : Cfg} {φ : Faults} {s : Recs} {fs : FS} {pend : List Name} {id : String} {data : Bytes} :
    ∀ o ∈ (putF cfg φ s fs pend id data).ops, o.path = .chunk id := by
  have h1 : ∀ o ∈ (oldWipeF cfg φ s fs id).1, o.path = .chunk id := by
    unfold oldWipeF
    split
    · split
      · exact fun o ho => (wipeF_ops o ho).1
      · exact List.forall_mem_nil _
    · exact List.forall_mem_nil _
  cases hp : cfg.persistent
  · simp only [putF, hp, Bool.false_eq_true, if_false]
    exact h1
  · simp only [putF, hp, if_true, List.forall_mem_append]
    exact ⟨h1, persistF_path⟩

theorem putF_other {cfg : Cfg} {φ : Faults} {s : Recs} {fs : FS} {pend : List Name} {id : String} {data : Bytes}
    {q : Name} (h : Name.chunk id ≠ q) :
    aget (applyOps fs (putF cfg φ s fs pend id data).ops) q = aget fs q :=
  applyOps_other fun o ho => putF_path o ho ▸ h

theorem putF_pending_other {cfg : Cfg} {φ : Faults} {s : Recs} {fs : FS} {pend : List Name} {id : String} {data : Bytes}
    {q : Name} (h : Name.chunk id ≠ q) : q ∈ (putF cfg φ s fs pend id data).pending ↔ q ∈ pend := by
  have hq : q ≠ Name.chunk id := h.symm
  simp only [putF, apply_ite PutRes.pending, apply_ite (q ∈ ·), List.mem_cons, List.mem_filter, hq, false_or,
    decide_false, Bool.not_false, and_true, ite_self]

theorem putF_ok {cfg : Cfg} (hp : cfg.persistent = true) {φ : Faults} {s : Recs} {fs : FS} {pend : List Name}
    {id : String} {data : Bytes} (h : (putF cfg φ s fs pend id data).persisted = true) :
    aget (applyOps fs (putF cfg φ s fs pend id data).ops) (.chunk id) = some data ∧
    Name.chunk id ∉ (putF cfg φ s fs pend id data).pending := by
  simp only [putF, hp, if_true, applyOps_append] at h ⊢
  obtain ⟨h1, h2⟩ := persistF_ok h
  exact ⟨h1, by simp [h2, List.mem_filter]⟩

theorem putF_failed {cfg : Cfg} (hp : cfg.persistent = true) {φ : Faults} {s : Recs} {fs : FS} {pend : List Name}
    {id : String} {data : Bytes} (h : (putF cfg φ s fs pend id data).persisted = false)
    (hnp : Name.chunk id ∉ (putF cfg φ s fs pend id data).pending) :
    aget (applyOps fs (putF cfg φ s fs pend id data).ops) (.chunk id) = none := by
  simp only [putF, hp, if_true, applyOps_append] at h hnp ⊢
  -- a deferred wipe would have put the path on the retry list
  refine persistF_failed h (Bool.eq_false_iff.mpr fun hd => hnp ?_)
  rw [if_pos hd]
  exact List.mem_cons_self

theorem wipeAllF_ops {cfg : Cfg} {φ : Faults} {names : List Name} {fs : FS} {n : Nat} :
    ∀ o ∈ (wipeAllF cfg φ names fs n).1, o.path ∈ names ∧ o.wipeish := by
  induction names generalizing fs n with
  | nil => exact List.forall_mem_nil _
  | cons p rest ih =>
    simp only [wipeAllF, List.forall_mem_append]
    exact ⟨fun o ho => ⟨(wipeF_ops o ho).1 ▸ List.mem_cons_self, (wipeF_ops o ho).2⟩,
      fun o ho => ⟨List.mem_cons_of_mem _ (ih o ho).1, (ih o ho).2⟩⟩

theorem wipeAllF_failed_sub {cfg : Cfg} {φ : Faults} {names : List Name} {fs : FS} {n : Nat} :
    ∀ q ∈ (wipeAllF cfg φ names fs n).2.2, q ∈ names := by
  induction names generalizing fs n with
  | nil => exact List.forall_mem_nil _
  | cons p rest ih =>
    simp only [wipeAllF]
    split
    · exact fun q hq => List.mem_cons_of_mem _ (ih q hq)
    · rw [List.forall_mem_cons]
      exact ⟨List.mem_cons_self, fun q hq => List.mem_cons_of_mem _ (ih q hq)⟩

theorem wipeAllF_gone {cfg : Cfg} {φ : Faults} {names : List Name} {fs : FS} {n : Nat} {q : Name}
    (hq : q ∈ names) (hnf : q ∉ (wipeAllF cfg φ names fs n).2.2) :
    aget (applyOps fs (wipeAllF cfg φ names fs n).1) q = none := by
  induction names generalizing fs n with
  | nil => cases hq
  | cons p rest ih =>
    simp only [wipeAllF, applyOps_append] at hnf ⊢
    by_cases hin : q ∈ rest
    · refine ih hin fun hh => hnf ?_
      split
      · exact hh
      · exact List.mem_cons_of_mem _ hh
    · -- `q = p` is wiped now and the remaining wipes cannot bring it back
      obtain rfl : q = p := (List.mem_cons.mp hq).resolve_right hin
      by_cases hok : (wipeF cfg φ fs q n).2.2 = true
      · exact applyOps_absent (fun o ho => (wipeAllF_ops o ho).2) (wipeF_ok hok)
      · rw [if_neg hok] at hnf; exact absurd List.mem_cons_self hnf

theorem wipeAllF_keep {cfg : Cfg} {φ : Faults} {names : List Name} {fs : FS} {n : Nat} {q : Name} (hq : q ∉ names) :
    aget (applyOps fs (wipeAllF cfg φ names fs n).1) q = aget fs q :=
  applyOps_other fun o ho hh => hq (hh ▸ (wipeAllF_ops o ho).1)

theorem wipeAllF_nofault {cfg : Cfg} {names : List Name} {fs : FS} {n : Nat} : (wipeAllF cfg [] names fs n).2.2 = [] := by
  induction names generalizing fs n with
  | nil => rfl
  | cons p rest ih => simp only [wipeAllF, (wipeF_nofault cfg fs p n).2, if_true, ih]

end EphVerif.ChunkStore
