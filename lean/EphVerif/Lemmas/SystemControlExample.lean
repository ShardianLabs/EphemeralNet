/-
SystemControl: the inputs of the non-vacuity examples of `Proofs/SystemControl.lean`, and what the kernel evaluates
about them once (with the real SHA-256, ChaCha20 and Shamir models) for several examples to use.
-/
import EphVerif.Lemmas.SystemControlStore
import EphVerif.Lemmas.C08Eval

namespace EphVerif.SystemControl.Example
open EphVerif EphVerif.Control EphVerif.System.Control

/-- the examples rewrite to C08's form of SHA-256, which the kernel can evaluate on concrete inputs -/
theorem sha256_eval : Spec.sha256 = C08Eval.sha256 := funext C08Eval.sha256_eq

def cfgA : Config := { token := some (ascii "tk"), powDifficulty := 4, cap := 16, minTtl := 30, maxTtl := 100, defaultTtl := 60 }

/-- `eph store "/tmp/a\rb.txt" --ttl 45 --control-token tk` with a 2-byte file -/
def cA : CliStore := { path := ascii "/tmp/a\rb.txt", payload := ascii "hi", ttl := some 45, token := some (ascii "tk") }

def bytesA (n : Nat) : Control.Bytes :=
  clientBytes (cliStoreHeaders cA n ++ [(ascii "PAYLOAD-LENGTH", toDec cA.payload.length)]) cA.payload

theorem solveA : Pow.computeStorePow Spec.sha256 (fun _ => (0 : Nat)) Pow.countingStream (cliWork Spec.sha256 cA)
    (cliDifficulty cfgA.powDifficulty) 0 = some 14 := by
  rw [sha256_eval]
  decide +kernel

theorem wireA : CliStoreWireOk cA 14 :=
  ⟨by intro t ht; cases ht; decide, by decide, by intro n hn; cases hn; decide, by decide⟩

theorem ttlA : TtlOk cfgA cA.ttl :=
  show cfgA.minTtl ≤ ((45 : Nat) : Int) ∧ ((45 : Nat) : Int) ≤ cfgA.maxTtl from ⟨by decide, by decide⟩

/-- `store_then_list`: C01's example configuration, one admitted STORE, 5 s later: one valid row, listed while live -/
def wList : ChunkStore.World :=
  ChunkStore.runModel C01.exCfg
    ((chunkStoreOps C01.exCfg (fun _ => String.ofList (List.replicate 64 'a')) (fun p => (p.map UInt8.toNat, []))).store
      (ChunkStore.runModel C01.exCfg (ChunkStore.fresh 0 []) []) (ascii "hi") 45 none)
    [StoreSpec.Op.advance 5000000000]

theorem snapshotA : listSnapshot wList = [{ idHex := List.replicate 64 97, size := 2, encrypted := true, ttl := 40 }] := by
  decide +kernel

/-- `store_then_fetch_daemon`: C11's pipeline with a 1-of-1 sharing, a non-zero key; the daemon after the STORE streams the payload -/
def pcfg : StorePipeline.Config := { shardThreshold := 1, shardTotal := 1, minTtl := 30, maxTtl := 100, defaultTtl := 60 }
def draws : Draws := { key := List.replicate 32 7, nonce := List.replicate 12 1, rk := List.replicate 32 9, rd := fun _ => 5 }
def opsP : NodeOps StorePipeline.NodeState :=
  pipelineOps pcfg 0 (fun _ => draws) (List.replicate 32 9)
    (fun uri => if uri = ascii "eph://m" then some (Spec.sha256 (ascii "hi")) else none) (fun st _ => some st)
def fetchReq : Request :=
  { fields := [(ascii "COMMAND", ascii "FETCH"), (ascii "TOKEN", ascii "tk"), (ascii "MANIFEST", ascii "eph://m"),
               (ascii "STREAM", ascii "client")] }

theorem shardP : C11.ShardCfg pcfg := ⟨by decide, by decide⟩
theorem keyP : C11.ChunkKey draws.key := ⟨by decide, by decide⟩
theorem isFetchReq : IsCliFetch cfgA.token (ascii "eph://m") fetchReq := by constructor <;> decide +kernel

end EphVerif.SystemControl.Example
