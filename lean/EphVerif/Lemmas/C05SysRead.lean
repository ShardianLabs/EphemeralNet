/-
System-level composition (extension of C05), part 4: the read side of the node, obtained from the
C01 and C06 theorems through the projections of `C05SysProj`, and the life of one local store epoch.
-/
import EphVerif.Lemmas.C05SysProj

namespace EphVerif.Sys
open EphVerif.NodeCleanup EphVerif.C05L
open EphVerif.ChunkStore (aget)

theorem node_rel (raw : Raw) (e : Env) (t0 : Int) (ops : List Op) :
    ChunkStore.Rel (ChunkStore.runModel (sysCfg raw e).node (ChunkStore.fresh t0 []) (c01Hist ops))
      (ChunkStore.runSpec (ChunkStore.paramsOf (sysCfg raw e).node) (ChunkStore.freshSpec t0) (c01Hist ops)) :=
  ChunkStore.rel_run (sane raw e.cleanup) (c01Hist ops) (ChunkStore.rel_fresh t0 [])

theorem chunk_read_live (raw : Raw) (e : Env) (t0 : Int) (ops : List Op) {c : String} {r : ChunkStore.Rec}
    (hg : ChunkStore.getRecord (C05.reach (sysCfg raw e) t0 ops).s.recs (C05.reach (sysCfg raw e) t0 ops).s.now c = some r) :
    (C05.reach (sysCfg raw e) t0 ops).s.now < r.expires := by
  have hag := agree_reach (sysCfg raw e) rfl t0 ops
  obtain ⟨hnow, _, hre, _⟩ := C01.reads_exact (sysCfg raw e).node (sane raw e.cleanup) t0 [] (c01Hist ops) c
  rw [← hag.recs, ← hag.now, hg] at hre
  simp only [Option.map_some, StoreSpec.readRecord] at hre
  split at hre
  · next en _ =>
    split at hre
    · next hlt =>
      have h2 : r.expires = en.deadline := (Prod.mk.inj (Option.some.inj hre)).2
      rw [h2, hag.now, hnow]
      exact hlt
    · cases hre
  · cases hre

def storesC (c : String) : Op → Bool
  | .store k _ _ => k == c
  | _ => false

theorem c01Hist_append (a b : List Op) : c01Hist (a ++ b) = c01Hist a ++ c01Hist b := List.flatMap_append

theorem c01Hist_storesId (c : String) (ops : List Op) (h : ∀ op ∈ ops, storesC c op = false) :
    ∀ o ∈ c01Hist ops, ChunkStore.storesId c o = false := by
  intro o ho
  obtain ⟨op, hop, hm⟩ := List.mem_flatMap.mp ho
  have := h op hop
  cases op with
  | store k ttl hint => exact List.mem_singleton.mp hm ▸ this
  | adv | tick => exact List.mem_singleton.mp hm ▸ rfl
  | _ => cases hm

theorem effNode_bridge (raw : Raw) (e : Env) (ttl steady wall : Int) :
    StoreSpec.effNode (ChunkStore.paramsOf (sysCfg raw e).node) ttl * StoreSpec.nsPerSec =
      (Ttl.storeChunk raw ttl steady wall).chunk := by
  have h := ChunkStore.nodeTtl_eq (sysCfg raw e).node (sane raw e.cleanup) ttl
  rw [← storeLifetimes_bridge raw e ttl steady wall, ← h]
  rfl

theorem last_after_store (raw : Raw) (e : Env) (t0 : Int) (pre post : List Op) (c : String) (ttl : Int)
    (hint : Option (List String)) (hpost : ∀ op ∈ post, storesC c op = false) :
    ∃ en, StoreSpec.last (ChunkStore.runSpec (ChunkStore.paramsOf (sysCfg raw e).node) (ChunkStore.freshSpec t0)
        (c01Hist (pre ++ Op.store c ttl hint :: post))).s c = some en ∧
      en.deadline = (C05.reach (sysCfg raw e) t0 pre).s.now +
        (Ttl.storeChunk raw ttl (C05.reach (sysCfg raw e) t0 pre).s.now
          ((C05.reach (sysCfg raw e) t0 pre).s.now + e.wallOff)).chunk := by
  have hnow : (C05.reach (sysCfg raw e) t0 pre).s.now =
      (ChunkStore.runSpec (ChunkStore.paramsOf (sysCfg raw e).node) (ChunkStore.freshSpec t0) (c01Hist pre)).now :=
    (agree_reach (sysCfg raw e) rfl t0 pre).now.trans (node_rel raw e t0 pre).now_eq
  rw [c01Hist_append, ChunkStore.runSpec, List.foldl_append]
  refine ⟨⟨c, [], [], (C05.reach (sysCfg raw e) t0 pre).s.now +
      StoreSpec.effNode (ChunkStore.paramsOf (sysCfg raw e).node) ttl * StoreSpec.nsPerSec⟩,
    (ChunkStore.last_run_other _ _ c _ (c01Hist_storesId c post hpost)).trans ?_,
    congrArg ((C05.reach (sysCfg raw e) t0 pre).s.now + ·) (effNode_bridge raw e ttl _ _)⟩
  simp [StoreSpec.step, StoreSpec.last, hnow, ChunkStore.runSpec]

theorem mem_findProviders_result {t : Providers.Table} {now : Int} {c : String} {a : Providers.Holder}
    (h : a ∈ (Providers.findProviders t now c).2) : ∃ l, t c = some l ∧ a ∈ l.holders := by
  unfold Providers.findProviders at h
  split at h
  · cases h
  · next l hl =>
    dsimp only at h
    split at h
    · cases h
    · exact ⟨l, hl, (List.mem_filter.mp h).1⟩

theorem provider_read_live (cfg : Cfg) (t0 : Int) (ops : List Op) {c : String} {a : Providers.Holder}
    (ha : a ∈ (Providers.findProviders (C05.reach cfg t0 ops).s.locs (C05.reach cfg t0 ops).s.now c).2) :
    (C05.reach cfg t0 ops).s.now < a.exp := by
  have hl := lagree_reach cfg t0 ops
  have href := (C06.refines_at t0 (locHist cfg (State.init cfg t0) ops) c).2.1 a
  rw [hl.t, hl.now] at href
  exact ((C06.spec_find_live _ _ c a).mp (href.mp ha)).2

theorem locHist_append (cfg : Cfg) (s : State) (a b : List Op) (d : List String) :
    locHist cfg s (a ++ b) = locHist cfg s a ++ locHist cfg (run cfg ⟨s, d⟩ a).s b := by
  induction a generalizing s d with
  | nil => rfl
  | cons op ops ih =>
    simp only [List.cons_append, locHist, run, List.foldl_cons, List.append_assoc]
    rw [ih (step cfg s op) (exec cfg ⟨s, d⟩ op).drained]
    rfl

end EphVerif.Sys
