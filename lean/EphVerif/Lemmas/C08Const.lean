/-
C08: what FIPS 180-4 says the constants *are*.
  §4.2.2  K_i   = first 32 bits of the fractional part of the cube root of the i-th prime (i < 64)
  §5.3.3  H0_i  = first 32 bits of the fractional part of the square root of the i-th prime (i < 8)
"x is the first 32 bits of the fractional part of the r-th root of p" is stated over the integers:
  ∃ n,  (n·2^32 + x)^r ≤ p·2^(32 r) < (n·2^32 + x + 1)^r      (with 0 ≤ x < 2^32),
i.e. n·2^32 + x = ⌊2^32 · p^(1/r)⌋, so n = ⌊p^(1/r)⌋ and x/2^32 is the fraction truncated to 32 bits.
-/
import EphVerif.Spec.Sha256

namespace EphVerif.C08

def IsPrime (p : Nat) : Prop := 2 ≤ p ∧ ∀ d, d < p → 2 ≤ d → p % d ≠ 0

def isPrimeB (p : Nat) : Bool := decide (2 ≤ p) && (List.range p).all fun d => decide (d < 2) || p % d != 0

theorem isPrimeB_iff (p : Nat) : isPrimeB p = true ↔ IsPrime p := by
  simp only [isPrimeB, IsPrime, Bool.and_eq_true, decide_eq_true_iff, List.all_eq_true, List.mem_range, Bool.or_eq_true,
    bne_iff_ne, Decidable.or_iff_not_imp_left, Nat.not_lt]

instance : DecidablePred IsPrime := fun p => decidable_of_iff _ (isPrimeB_iff p)

/-- Trial division below `k` decides primality below `k²`: if `d ≥ k` divides `p < k²` properly,
    so does the cofactor `p / d < k`. -/
theorem isPrime_of_lt_sq (k p : Nat) (hp : 2 ≤ p) (hk : p < k * k)
    (H : ∀ d, d < k → d < p → 2 ≤ d → p % d ≠ 0) : IsPrime p := by
  refine ⟨hp, fun d hdp h2 hd => ?_⟩
  have hq : d * (p / d) = p := Nat.mul_div_cancel' (Nat.dvd_of_mod_eq_zero hd)
  by_cases hdk : d < k
  · exact H d hdk hdp h2 hd
  · have h1 : p / d < k := by
      apply Nat.lt_of_not_le
      intro hge
      have := Nat.mul_le_mul (Nat.le_of_not_lt hdk) hge
      omega
    have h3 : 2 ≤ p / d := by
      apply Nat.le_of_not_lt
      intro hlt
      have := Nat.mul_le_mul_left d (Nat.le_of_lt_succ hlt)
      omega
    exact H (p / d) h1 (Nat.div_lt_self (by omega) h2) h3 (Nat.mod_eq_zero_of_dvd ⟨d, by rw [Nat.mul_comm, hq]⟩)

/-- `isPrimeB` with the trial divisors cut off at `k`: for evaluating `decide (IsPrime p)` on many
    `p < k²` (`isPrimeB p` divides by every `d < p`) -/
def isPrimeBelowSqB (k p : Nat) : Bool :=
  decide (2 ≤ p) && (List.range k).all fun d => decide (p ≤ d) || (decide (d < 2) || p % d != 0)

theorem decide_isPrime (k p : Nat) (hk : p < k * k) : decide (IsPrime p) = isPrimeBelowSqB k p := by
  rw [Bool.eq_iff_iff, decide_eq_true_iff]
  simp only [isPrimeBelowSqB, Bool.and_eq_true, decide_eq_true_iff, List.all_eq_true, List.mem_range, Bool.or_eq_true,
    bne_iff_ne, Decidable.or_iff_not_imp_left, Nat.not_lt, Nat.not_le]
  exact ⟨fun h => ⟨h.1, fun d _ hd h2 => h.2 d hd h2⟩, fun h => isPrime_of_lt_sq k p h.1 hk h.2⟩

def primesBelow (b : Nat) : List Nat := (List.range b).filter fun p => decide (IsPrime p)

def primes64 : List Nat := [
  2, 3, 5, 7, 11, 13, 17, 19, 23, 29, 31, 37, 41, 43, 47, 53,
  59, 61, 67, 71, 73, 79, 83, 89, 97, 101, 103, 107, 109, 113, 127, 131,
  137, 139, 149, 151, 157, 163, 167, 173, 179, 181, 191, 193, 197, 199, 211, 223,
  227, 229, 233, 239, 241, 251, 257, 263, 269, 271, 277, 281, 283, 293, 307, 311]

def IsFrac32OfRoot (r p x : Nat) : Prop :=
  x < 2 ^ 32 ∧ ∃ n, (n * 2 ^ 32 + x) ^ r ≤ p * 2 ^ (32 * r) ∧ p * 2 ^ (32 * r) < (n * 2 ^ 32 + x + 1) ^ r

/-- decidable form: the integer part searched below 8 (enough for every prime below 64 and `r ≥ 2`, below 512 and `r ≥ 3`) -/
def isFrac32OfRootB (r p x : Nat) : Bool :=
  decide (x < 2 ^ 32) && (List.range 8).any fun n =>
    decide ((n * 2 ^ 32 + x) ^ r ≤ p * 2 ^ (32 * r)) && decide (p * 2 ^ (32 * r) < (n * 2 ^ 32 + x + 1) ^ r)

theorem isFrac32OfRoot_of_B (r p x : Nat) (h : isFrac32OfRootB r p x = true) : IsFrac32OfRoot r p x := by
  unfold isFrac32OfRootB at h
  rw [Bool.and_eq_true, decide_eq_true_iff, List.any_eq_true] at h
  obtain ⟨hx, n, _, hn⟩ := h
  rw [Bool.and_eq_true, decide_eq_true_iff, decide_eq_true_iff] at hn
  exact ⟨hx, n, hn⟩

end EphVerif.C08
