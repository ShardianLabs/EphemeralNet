/-
Lemmas for C02 / C03 about the *generated* sanitising functions (`Generated/C02.lean`).  Each unfolds the
translated definition and closes by `grind`, so an edited comparison or constant in the C++ changes the term
proved about.  Literal numbers are the property's (5, 3600, 1, 86400, 24).
-/
import EphVerif.Model.Ttl

namespace EphVerif.C02L
open EphVerif.Gen.C02

macro "gen_consts" : tactic =>
  `(tactic| try simp only [kMinKeyRotationInterval, kMaxKeyRotationInterval, kMinAllowedManifestTtl, kMaxAllowedManifestTtl,
      kMinAnnounceInterval, kMaxAnnounceWindow, kMaxAnnouncePowDifficulty, kMaxHandshakePowDifficulty, kMaxStorePowDifficulty,
      kMinimumTtl] at *)

theorem rotation_range (v : Int) :
    5 ≤ sanitize_key_rotation_interval v ∧ sanitize_key_rotation_interval v ≤ 3600 := by
  unfold sanitize_key_rotation_interval
  gen_consts
  grind

theorem manifest_min_range (v : Int) : 1 ≤ sanitize_manifest_min v ∧ sanitize_manifest_min v ≤ 86400 := by
  unfold sanitize_manifest_min
  gen_consts
  grind

theorem manifest_max_range (v mn : Int) (h1 : 1 ≤ mn) (h2 : mn ≤ 86400) :
    mn ≤ sanitize_manifest_max v mn ∧ sanitize_manifest_max v mn ≤ 86400 := by
  unfold sanitize_manifest_max
  gen_consts
  grind

theorem clamp_range (ttl mn mx : Int) (h1 : 1 ≤ mn) (h2 : mn ≤ mx) :
    mn ≤ clamp_chunk_ttl ttl mn mx ∧ clamp_chunk_ttl ttl mn mx ≤ mx := by
  unfold clamp_chunk_ttl
  gen_consts
  grind

theorem clamp_id (ttl mn mx : Int) (h1 : 1 ≤ mn) (h2 : mn ≤ ttl) (h3 : ttl ≤ mx) :
    clamp_chunk_ttl ttl mn mx = ttl := by
  unfold clamp_chunk_ttl
  gen_consts
  grind

structure Window (c : Cfg) : Prop where
  min_pos : 1 ≤ c.min_manifest_ttl
  min_le_max : c.min_manifest_ttl ≤ c.max_manifest_ttl
  max_le_day : c.max_manifest_ttl ≤ 86400
  min_le_default : c.min_manifest_ttl ≤ c.default_chunk_ttl
  default_le_max : c.default_chunk_ttl ≤ c.max_manifest_ttl

theorem window (cfg : Cfg) : Window (sanitize_config cfg) := by
  have h1 := manifest_min_range cfg.min_manifest_ttl
  have h2 := manifest_max_range cfg.max_manifest_ttl (sanitize_manifest_min cfg.min_manifest_ttl) h1.1 h1.2
  constructor <;> simp only [sanitize_config] <;> grind

/-- `ChunkStore::put`'s own floor (and default fallback) is the identity on a TTL ≥ 1 s -/
theorem put_id (c : Cfg) (d : Int) (h : 1 ≤ d) : chunkstore_put_ttl d c = d := by
  unfold chunkstore_put_ttl
  gen_consts
  grind

end EphVerif.C02L
