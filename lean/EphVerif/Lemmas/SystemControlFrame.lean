/-
SystemControl, frame property: connections that do not present the configured token leave the
daemon exactly as it was (C27.gate for the gated commands; the other commands only read), so they
can be deleted from any history without changing anything an authenticated client observes.
-/
import EphVerif.Lemmas.SystemControl

namespace EphVerif.System.Control
open EphVerif EphVerif.Control

section
variable {ν : Type} (sha : Bytes → Bytes) (ops : NodeOps ν) (cfg : Config)

theorem unauthenticated_request_inert {t : Bytes} (ht : cfg.token = some t) (now : Int) (addr : Bytes)
    (st : ServerState ν) {req : Request} (hl : getField req.fields (ascii "TOKEN") ≠ some t) :
    (handleRequest sha ops cfg now addr st req).1 = st := by
  cases hc : getField req.fields (ascii "COMMAND") with
  | none => rw [handleRequest, hc]
  | some c =>
    cases ha : C27.authCode (toUpper c) with
    | some code => rw [(C27.gate sha ops cfg t now addr st req c code ht hc ha hl).1]
    | none =>
      have hne : toUpper c ≠ ascii "STORE" ∧ toUpper c ≠ ascii "FETCH" ∧ toUpper c ≠ ascii "STOP" := by
        refine ⟨?_, ?_, ?_⟩ <;> intro h <;> simp (decide := true) [C27.authCode, h] at ha
      rw [handleRequest, hc]
      simp only [hne, ↓reduceIte]
      split <;> rfl

/-- **one unauthenticated connection is inert**: whatever bytes it carries (C27.gate_stream: what is parsed from
    them carries no such token either) -/
theorem unauthenticated_connection_inert (t : Bytes) (ht : cfg.token = some t) (now : Int) (addr : Bytes)
    (st : ServerState ν) (input : Bytes) (hnot : Spec.Control.presentsToken (splitBy 10 input []) t = false) :
    (handleClient sha ops cfg now addr st input).1 = st := by
  unfold handleClient
  cases hp : parseRequest cfg.cap input with
  | closed => rfl
  | error code u => rfl
  | ok req u => exact unauthenticated_request_inert sha ops cfg ht now addr st (C27.gate_stream hp hnot)

/-- what a client sees: every connection together with the reply it got -/
def runView : Int → ServerState ν → List Event → List (Event × Option Reply) × Int × ServerState ν
  | now, st, [] => ([], now, st)
  | now, st, .advance d :: es => runView (now + d) st es
  | now, st, .connect addr input :: es =>
    let r := handleClient sha ops cfg now addr st input
    let rest := runView now r.1 es
    ((.connect addr input, r.2) :: rest.1, rest.2)

def authenticated (t : Bytes) : Event → Bool
  | .advance _ => true
  | .connect _ input => Spec.Control.presentsToken (splitBy 10 input []) t

theorem runView_frame (t : Bytes) (ht : cfg.token = some t) : ∀ (evs : List Event) (now : Int) (st : ServerState ν),
    (runView sha ops cfg now st evs).2 = (runView sha ops cfg now st (evs.filter (authenticated t))).2 ∧
    (runView sha ops cfg now st evs).1.filter (fun p => authenticated t p.1) =
      (runView sha ops cfg now st (evs.filter (authenticated t))).1
  | [], _, _ => ⟨rfl, rfl⟩
  | .advance d :: es, now, st => by
    have ih := runView_frame t ht es (now + d) st
    have hauth : authenticated t (.advance d) = true := rfl
    simp only [runView, List.filter_cons, hauth, ↓reduceIte]
    exact ih
  | .connect addr input :: es, now, st => by
    cases ha : Spec.Control.presentsToken (splitBy 10 input []) t with
    | true =>
      have ih := runView_frame t ht es now (handleClient sha ops cfg now addr st input).1
      have hauth : authenticated t (.connect addr input) = true := ha
      simp only [runView, List.filter_cons, hauth, ↓reduceIte]
      exact ⟨ih.1, by rw [ih.2]⟩
    | false =>
      have hauth : authenticated t (.connect addr input) = false := ha
      have hin := unauthenticated_connection_inert sha ops cfg t ht now addr st input ha
      have ih := runView_frame t ht es now st
      simp only [runView, List.filter_cons, hauth, Bool.false_eq_true, ↓reduceIte, hin]
      exact ih

/-- `runEvents` (the histories of C28.rate) ends at the instant and in the state `runView` ends in, whatever its log -/
theorem runEvents_final : ∀ (evs : List Event) (now : Int) (st : ServerState ν) (log : List LogEntry),
    ((runEvents sha ops cfg now st log evs).1, (runEvents sha ops cfg now st log evs).2.1) = (runView sha ops cfg now st evs).2
  | [], _, _, _ => rfl
  | .advance d :: es, now, st, log => runEvents_final es (now + d) st log
  | .connect _ _ :: es, now, _, _ => runEvents_final es now _ _

end

end EphVerif.System.Control
