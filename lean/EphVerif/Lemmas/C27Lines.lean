/-
How the `while (recv_line(...))` loops of the control plane consume a byte stream
(used by C27, C28 and C29), and what `parse_request` guarantees of its result.
-/
import EphVerif.Lemmas.C27Basics
import EphVerif.Spec.Control

namespace EphVerif.Control

def stripCR (l : Bytes) : Bytes := l.filter (· != 13)

theorem stripCR_id {l : Bytes} (h : ∀ c ∈ l, c ≠ 13) : stripCR l = l :=
  List.filter_eq_self.mpr fun c hc => by simpa using h c hc

theorem stripCR_reverse (l : Bytes) : stripCR l.reverse = (stripCR l).reverse := List.filter_reverse ..

theorem stripCR_cons (c : UInt8) (l : Bytes) : stripCR (c :: l) = if c = 13 then stripCR l else c :: stripCR l := by
  by_cases h : c = 13 <;> simp [stripCR, h]

theorem lineLoop_feed {σ : Type} (M : Nat) (body : σ → Bytes → Step σ) :
    ∀ (l rest acc : Bytes) (n : Nat) (st : σ), (∀ c ∈ l, c ≠ 10) → n + (stripCR l).length ≤ M →
      lineLoop M body (l ++ 10 :: rest) acc n st =
        lineLoop M body (10 :: rest) ((stripCR l).reverse ++ acc) (n + (stripCR l).length) st
  | [], rest, acc, n, st, _, _ => rfl
  | c :: l, rest, acc, n, st, hno, hlen => by
    have hno' : ∀ d ∈ l, d ≠ 10 := fun d hd => hno d (List.mem_cons_of_mem _ hd)
    rw [List.cons_append, lineLoop, if_neg (hno c List.mem_cons_self)]
    rw [stripCR_cons] at hlen ⊢
    by_cases hc13 : c = 13
    · simp only [if_pos hc13] at hlen ⊢
      exact lineLoop_feed M body l rest acc n st hno' hlen
    · simp only [if_neg hc13, List.length_cons] at hlen ⊢
      rw [if_neg (by omega), lineLoop_feed M body l rest (c :: acc) (n + 1) st hno' (by omega)]
      simp only [List.reverse_cons, List.append_assoc, List.singleton_append]
      congr 1; omega

theorem lineLoop_line {σ : Type} (M : Nat) (body : σ → Bytes → Step σ) (l rest : Bytes) (st : σ)
    (hno : ∀ c ∈ l, c ≠ 10) (hlen : (stripCR l).length ≤ M) :
    lineLoop M body (l ++ 10 :: rest) [] 0 st =
      if (stripCR l).isEmpty then (st, .blank, rest)
      else match body st (stripCR l) with
        | .next st' => lineLoop M body rest [] 0 st'
        | .stop st' => (st', .stopped, rest) := by
  rw [lineLoop_feed M body l rest [] 0 st hno (by omega), lineLoop]
  simp only [↓reduceIte, List.append_nil, List.isEmpty_reverse, List.reverse_reverse]
  rfl

theorem lineLoop_clean_line {σ : Type} (M : Nat) (body : σ → Bytes → Step σ) (l rest : Bytes) (st : σ)
    (hclean : ∀ c ∈ l, c ≠ 10 ∧ c ≠ 13) (hne : l ≠ []) (hlen : l.length ≤ M) :
    lineLoop M body (l ++ 10 :: rest) [] 0 st =
      match body st l with
      | .next st' => lineLoop M body rest [] 0 st'
      | .stop st' => (st', .stopped, rest) := by
  have hs : stripCR l = l := stripCR_id fun c h => (hclean c h).2
  rw [lineLoop_line M body l rest st (fun c h => (hclean c h).1) (by rw [hs]; exact hlen), hs, if_neg (by simpa using hne)]

def foldLines {σ : Type} (body : σ → Bytes → Step σ) : σ → List Bytes → σ × Option (List Bytes)
  | st, [] => (st, none)
  | st, l :: ls =>
    match body st (stripCR l) with
    | .next st' => foldLines body st' ls
    | .stop st' => (st', some ls)

def wireLines (ls : List Bytes) : Bytes := ls.flatMap (· ++ [10])

def GoodLine (M : Nat) (l : Bytes) : Prop := (∀ c ∈ l, c ≠ 10) ∧ stripCR l ≠ [] ∧ (stripCR l).length ≤ M

instance (M : Nat) (l : Bytes) : Decidable (GoodLine M l) := by unfold GoodLine; infer_instance

theorem lineLoop_block {σ : Type} (M : Nat) (body : σ → Bytes → Step σ) :
    ∀ (ls : List Bytes) (tail : Bytes) (st : σ), (∀ l ∈ ls, GoodLine M l) →
      lineLoop M body (wireLines ls ++ 10 :: tail) [] 0 st =
        match foldLines body st ls with
        | (st', none) => (st', .blank, tail)
        | (st', some remaining) => (st', .stopped, wireLines remaining ++ 10 :: tail)
  | [], tail, st, _ => by simp [wireLines, foldLines, lineLoop]
  | l :: ls, tail, st, h => by
    obtain ⟨hno, hne, hlen⟩ := h l List.mem_cons_self
    have hw : wireLines (l :: ls) ++ 10 :: tail = l ++ 10 :: (wireLines ls ++ 10 :: tail) := by
      simp [wireLines]
    rw [hw, lineLoop_line M body l _ st hno hlen, if_neg (by simpa using hne), foldLines]
    cases body st (stripCR l) with
    | next st' => exact lineLoop_block M body ls tail st' fun l' hl' => h l' (List.mem_cons_of_mem _ hl')
    | stop st' => rfl

theorem foldLines_append {σ : Type} {body : σ → Bytes → Step σ} {a : List Bytes} {st st' : σ} (b : List Bytes)
    (h : foldLines body st a = (st', none)) : foldLines body st (a ++ b) = foldLines body st' b := by
  induction a generalizing st with
  | nil => cases h; rfl
  | cons l a ih =>
    rw [foldLines] at h
    rw [List.cons_append, foldLines]
    cases hb : body st (stripCR l) with
    | next s1 => rw [hb] at h; exact ih h
    | stop s1 => rw [hb] at h; cases h

/-- with a line `l` on which the body always leaves the loop, the fold stops at `l` or before it:
    the lines after `l` are among those never looked at, and the final state is one the body left with -/
theorem foldLines_stops {σ : Type} (body : σ → Bytes → Step σ) {l : Bytes} (after : List Bytes)
    (hl : ∀ s, ∃ s', body s (stripCR l) = .stop s') : ∀ (before : List Bytes) (s : σ),
      ∃ s0 line s' pre, body s0 line = .stop s' ∧ foldLines body s (before ++ l :: after) = (s', some (pre ++ after))
  | [], s => by
    obtain ⟨s', hs⟩ := hl s
    exact ⟨s, _, s', [], hs, by rw [List.nil_append, foldLines, hs]; rfl⟩
  | b :: before, s => by
    rw [List.cons_append, foldLines]
    cases hb : body s (stripCR b) with
    | next s1 => exact foldLines_stops body after hl before s1
    | stop s1 => exact ⟨s, _, s1, before ++ [l], hb, by simp⟩

def Step.state {σ : Type} : Step σ → σ
  | .next s => s
  | .stop s => s

/-- `P` holds of the final state if it holds initially and the body keeps it on every LF-delimited
    line of the stream (`accS` is the part of the current line already consumed, reversed) -/
theorem lineLoop_invariant {σ : Type} (M : Nat) (body : σ → Bytes → Step σ) (P : σ → Prop) :
    ∀ (input accS : Bytes) (n : Nat) (st : σ),
      (∀ l ∈ splitBy 10 input accS, ∀ s, P s → P (body s (stripCR l)).state) → P st →
      P (lineLoop M body input (stripCR accS) n st).1
  | [], _, _, _, _, h => h
  | c :: rest, accS, n, st, hstep, h => by
    rw [lineLoop]
    rw [splitBy] at hstep
    split at hstep
    · rw [if_pos ‹_›]
      split
      · exact h
      · have h1 := hstep _ List.mem_cons_self st h
        rw [stripCR_reverse] at h1
        have ih := fun st' => lineLoop_invariant M body P rest [] 0 st'
          fun l hl => hstep l (List.mem_cons_of_mem _ hl)
        cases hb : body st (stripCR accS).reverse with
        | next st' => rw [hb] at h1; exact ih st' h1
        | stop st' => rw [hb] at h1; exact h1
    · have ih := lineLoop_invariant M body P rest (c :: accS)
      rw [stripCR_cons] at ih
      rw [if_neg ‹_›]
      split
      · rw [if_pos ‹_›] at ih; exact ih n st hstep h
      · rw [if_neg ‹_›] at ih
        split
        · exact h
        · exact ih (n + 1) st hstep h

theorem dropWhile_splitColon : ∀ (l : Bytes),
    (match l.dropWhile (· != 58) with
     | [] => (none : Option (Bytes × Bytes))
     | _ :: v => some (l.takeWhile (· != 58), v)) = splitColon l
  | [] => rfl
  | c :: l => by
    rw [splitColon, ← dropWhile_splitColon l]
    by_cases hc : c = 58
    · simp [hc]
    · simp only [List.dropWhile_cons, List.takeWhile_cons, bne_iff_ne, ne_eq, hc, not_false_eq_true, ↓reduceIte]
      cases l.dropWhile (· != 58) <;> rfl

theorem header_eq (l : Bytes) :
    Spec.Control.header l = (splitColon (stripCR l)).map fun kv => (toUpper kv.1, kv.2) := by
  unfold Spec.Control.header
  rw [← dropWhile_splitColon (stripCR l)]
  simp only [stripCR]
  cases (List.filter (fun x => x != 13) l).dropWhile (· != 58) <;> rfl

def parseErrorCode (code : String) : Prop :=
  code = "ERR_CONTROL_HEADER" ∨ code = "ERR_CONTROL_PAYLOAD_LENGTH" ∨ code = "ERR_CONTROL_PAYLOAD_TOO_LARGE" ∨
    code = "ERR_CONTROL_PAYLOAD_TRUNCATED"

/-- everything `reqLine` can do with a line: leave the loop with a parse error, or record the
    header -- and, for a PAYLOAD-LENGTH within the cap, the length -/
theorem reqLine_cases (cap : Nat) (st : ReqState) (line : Bytes) :
    (∃ code, parseErrorCode code ∧
      reqLine cap st line = .stop { st with sawAnyLines := true, error := some code }) ∨
    ∃ k v, splitColon line = some (k, v) ∧
      (reqLine cap st line = .next { st with sawAnyLines := true, fields := setField st.fields (toUpper k) v } ∨
       ∃ n : Nat, n ≤ cap ∧ reqLine cap st line =
        .next { st with sawAnyLines := true, payloadLength := some n, headerPresent := true,
                        fields := setField st.fields (toUpper k) v }) := by
  unfold reqLine
  cases splitColon line with
  | none => exact .inl ⟨_, .inl rfl, rfl⟩
  | some p =>
    obtain ⟨k, v⟩ := p
    dsimp only
    split
    · cases parseU64 v with
      | none => exact .inl ⟨_, .inr (.inl rfl), rfl⟩
      | some n =>
        dsimp only
        cases hg : cmpGt Gen.C28.payloadCapStrict n cap with
        | true => exact .inl ⟨_, .inr (.inr (.inl rfl)), rfl⟩
        | false => exact .inr ⟨k, v, rfl, .inr ⟨n, by have := cmpGt_false hg; omega, rfl⟩⟩
    · exact .inr ⟨k, v, rfl, .inl rfl⟩

theorem reqLine_too_large {cap : Nat} (s : ReqState) {l v : Bytes} {n : Nat}
    (hh : Spec.Control.header l = some (ascii "PAYLOAD-LENGTH", v)) (hv : parseU64 v = some n) (hn : n > cap) :
    reqLine cap s (stripCR l) = .stop { s with sawAnyLines := true, error := some "ERR_CONTROL_PAYLOAD_TOO_LARGE" } := by
  rw [header_eq] at hh
  obtain ⟨⟨k, v'⟩, hs, hkv⟩ := Option.map_eq_some_iff.mp hh
  obtain ⟨hk, rfl⟩ := Prod.mk.inj hkv
  unfold reqLine
  simp only [hs, hk, ↓reduceIte, hv, cmpGt_of_gt (show (n : Int) > cap by omega)]

theorem reqLine_stop_error {cap : Nat} {s s' : ReqState} {line : Bytes} (h : reqLine cap s line = .stop s') :
    ∃ code, s'.error = some code := by
  rcases reqLine_cases cap s line with ⟨code, _, he⟩ | ⟨k, v, _, he | ⟨n, _, he⟩⟩ <;> rw [he] at h <;> cases h
  exact ⟨code, rfl⟩

structure ReqInv (cap : Nat) (input : Bytes) (s : ReqState) : Prop where
  payloadLength : ∀ n, s.payloadLength = some n → n ≤ cap
  error : ∀ c, s.error = some c → parseErrorCode c
  fields : ∀ kv ∈ s.fields, ∃ l ∈ splitBy 10 input [], Spec.Control.header l = some kv

theorem ReqInv.reqLine {cap : Nat} {input l : Bytes} {s : ReqState} (hl : l ∈ splitBy 10 input [])
    (h : ReqInv cap input s) : ReqInv cap input (reqLine cap s (stripCR l)).state := by
  have hset : ∀ {k v}, splitColon (stripCR l) = some (k, v) →
      ∀ kv ∈ setField s.fields (toUpper k) v, ∃ l ∈ splitBy 10 input [], Spec.Control.header l = some kv := by
    intro k v hs kv hkv
    rcases mem_setField hkv with hkv | rfl
    · exact h.fields kv hkv
    · exact ⟨l, hl, by rw [header_eq, hs]; rfl⟩
  rcases reqLine_cases cap s (stripCR l) with ⟨code, hcode, he⟩ | ⟨k, v, hs, he | ⟨n, hn, he⟩⟩ <;> rw [he]
  · exact ⟨h.payloadLength, fun c hc => by cases hc; exact hcode, h.fields⟩
  · exact ⟨h.payloadLength, h.error, hset hs⟩
  · exact ⟨fun m hm => by cases hm; exact hn, h.error, hset hs⟩

def ParseOutcome.Sound (cap : Nat) (input : Bytes) : ParseOutcome → Prop
  | .closed => True
  | .error code _ => parseErrorCode code
  | .ok req _ => req.payload.length ≤ cap ∧
      ∀ kv ∈ req.fields, ∃ l ∈ splitBy 10 input [], Spec.Control.header l = some kv

theorem parseRequest_sound (cap : Nat) (input : Bytes) : (parseRequest cap input).Sound cap input := by
  have hinv : ReqInv cap input (lineLoop serverMaxLine (reqLine cap) input [] 0 {}).1 :=
    lineLoop_invariant serverMaxLine (reqLine cap) (ReqInv cap input) input [] 0 {} (fun l hl s hs => hs.reqLine hl)
      ⟨nofun, nofun, nofun⟩
  unfold parseRequest
  generalize lineLoop serverMaxLine (reqLine cap) input [] 0 {} = r at hinv
  obtain ⟨st, e, rest⟩ := r
  dsimp only at hinv ⊢
  split
  · exact hinv.error _ ‹_›
  split
  · trivial
  split
  · split
    · exact .inr (.inr (.inr rfl))
    · refine ⟨?_, hinv.fields⟩
      cases hp : st.payloadLength with
      | none => simp
      | some n => have := hinv.payloadLength n hp; simp only [List.length_take, Option.getD_some]; omega
  · exact ⟨Nat.zero_le _, hinv.fields⟩

end EphVerif.Control
