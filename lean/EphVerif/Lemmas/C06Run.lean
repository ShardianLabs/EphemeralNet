/-
C06: the model (`KademliaTable`'s locator table) and the abstract directory run side by side; `R` holds along every
run; and two model tables that represent the same directory can be driven through the same operations — with suitably
chosen tie-break hints — so that they keep representing it (used for the literal form of sweep safety).
-/
import EphVerif.Lemmas.C06Add

namespace EphVerif.C06L
open EphVerif.Providers EphVerif.C06Spec List

structure St where
  now : Int
  t : Table
  s : S

inductive Obs where
  | found (c : String) (model spec : List Ann)
  /-- an announcement: the holder list the model kept for the chunk, and whether the abstract
      directory accepted the model's choice as a legal "20 expiring last" -/
  | added (kept : List Ann) (specAccepts : Bool)
deriving DecidableEq, Repr

def init (now0 : Int) : St := ⟨now0, Table.empty, C06Spec.empty⟩

/-- one operation on both sides.  The abstract directory has no sweep; its `keep` choice at an
    announcement is the live part of the set the model kept. -/
def step (st : St) : Op → St × List Obs
  | .adv d => ({ st with now := st.now + d }, [])
  | .add c p ttl hint =>
    let t' := addContact st.t st.now c p ttl hint
    let r := C06Spec.add st.s st.now c p (st.now + ttl) (some (keepOf st.now (holdersOf t' c)))
    ({ st with t := t', s := r.1 }, [.added (holdersOf t' c) r.2])
  | .find c =>
    let r := findProviders st.t st.now c
    ({ st with t := r.1 }, [.found c r.2 (C06Spec.find st.s st.now c)])
  | .sweep => ({ st with t := Providers.sweep st.t st.now }, [])
  | .withdraw c p => ({ st with t := Providers.withdraw st.t c p, s := C06Spec.withdraw st.s c p }, [])

def run (st : St) : List Op → St × List Obs
  | [] => (st, [])
  | op :: ops => ((run (step st op).1 ops).1, (step st op).2 ++ (run (step st op).1 ops).2)

theorem run_append (st : St) (a b : List Op) :
    run st (a ++ b) = ((run (run st a).1 b).1, (run st a).2 ++ (run (run st a).1 b).2) := by
  induction a generalizing st with
  | nil => simp [run]
  | cons op ops ih => simp [run, ih, append_assoc]

def Obs.ok : Obs → Prop
  | .found _ m s => m ~ s ∧ (∀ a, a ∈ m ↔ a ∈ s) ∧ m.length ≤ 20
  | .added kept acc => acc = true ∧ kept.length ≤ 20

def Good (st : St) : Prop := R st.now st.t st.s

theorem good_init (now0 : Int) : Good (init now0) := R_init now0

theorem step_good {st : St} (h : Good st) (op : Op) :
    Good (step st op).1 ∧ ∀ o ∈ (step st op).2, o.ok := by
  cases op with
  | adv d => exact ⟨R_adv h d, forall_mem_nil _⟩
  | add c p ttl hint =>
    have := R_add h c p ttl hint _ rfl
    refine ⟨this.1, fun o ho => ?_⟩
    cases mem_singleton.mp ho
    exact ⟨this.2, this.1.ok.length c⟩
  | find c =>
    refine ⟨R_find h c, fun o ho => ?_⟩
    cases mem_singleton.mp ho
    exact h.lookup c
  | sweep => exact ⟨R_sweep h, forall_mem_nil _⟩
  | withdraw c p => exact ⟨R_withdraw h c p, forall_mem_nil _⟩

theorem run_good {st : St} (h : Good st) (ops : List Op) :
    Good (run st ops).1 ∧ ∀ o ∈ (run st ops).2, o.ok := by
  induction ops generalizing st with
  | nil => exact ⟨h, forall_mem_nil _⟩
  | cons op ops ih =>
    have h1 := step_good h op
    have h2 := ih h1.1
    refine ⟨h2.1, fun o ho => ?_⟩
    rcases mem_append.mp ho with ho | ho
    · exact h1.2 o ho
    · exact h2.2 o ho

def eraseHint : Op → Op
  | .add c p ttl _ => .add c p ttl none
  | op => op

def Obs.sameAnswer : Obs → Obs → Prop
  | .found c m _, .found c' m' _ => c = c' ∧ m ~ m' ∧ ∀ a, a ∈ m ↔ a ∈ m'
  | .added _ _, .added _ _ => True
  | _, _ => False

inductive SameAnswers : List Obs → List Obs → Prop where
  | nil : SameAnswers [] []
  | cons {o o' : Obs} {os os' : List Obs} : o.sameAnswer o' → SameAnswers os os' → SameAnswers (o :: os) (o' :: os')

theorem SameAnswers.append {xs xs' ys ys' : List Obs} (h : SameAnswers xs xs') (h' : SameAnswers ys ys') :
    SameAnswers (xs ++ ys) (xs' ++ ys') := by
  induction h with
  | nil => exact h'
  | cons ho _ ih => exact .cons ho ih

/-- one operation of `a`, matched by `b`, whose table represents the directory of `a`: `b` does the
    same, at an announcement with the `keep` choice `a` hands to the directory as its hint -/
theorem step_follow {a b : St} (ha : Good a) (hn : b.now = a.now) (hb : R a.now b.t a.s) (op : Op) :
    ∃ op', eraseHint op' = eraseHint op ∧ (step b op').1.now = (step a op).1.now ∧
      R (step a op).1.now (step b op').1.t (step a op).1.s ∧ SameAnswers (step a op).2 (step b op').2 := by
  obtain ⟨_, tb, sb⟩ := b
  subst hn
  cases op with
  | adv d => exact ⟨.adv d, rfl, rfl, R_adv hb d, .nil⟩
  | add c p ttl hint =>
    exact ⟨.add c p ttl (some (keepOf a.now (holdersOf (addContact a.t a.now c p ttl hint) c))), rfl, rfl,
      R_add_follow ha hb c p ttl hint _ rfl, .cons trivial .nil⟩
  | find c =>
    have hp : (findProviders a.t a.now c).2 ~ (findProviders tb a.now c).2 := by
      rw [find_snd, find_snd]
      exact (ha.sim c).trans (hb.sim c).symm
    exact ⟨.find c, rfl, rfl, R_find hb c, .cons ⟨rfl, hp, fun _ => hp.mem_iff⟩ .nil⟩
  | sweep => exact ⟨.sweep, rfl, rfl, R_sweep hb, .nil⟩
  | withdraw c p => exact ⟨.withdraw c p, rfl, rfl, R_withdraw hb c p, .nil⟩

theorem two_runs (post : List Op) : ∀ (a b : St), Good a → b.now = a.now → R a.now b.t a.s →
    ∃ post', post'.map eraseHint = post.map eraseHint ∧
      SameAnswers (run a post).2 (run b post').2 := by
  induction post with
  | nil => exact fun _ _ _ _ _ => ⟨[], rfl, .nil⟩
  | cons op ops ih =>
    intro a b ha hn hb
    obtain ⟨op', he, hn', hb', hs⟩ := step_follow ha hn hb op
    obtain ⟨post', h1, h2⟩ := ih _ _ (step_good ha op).1 hn' hb'
    exact ⟨op' :: post', by rw [map_cons, map_cons, he, h1], hs.append h2⟩

end EphVerif.C06L
