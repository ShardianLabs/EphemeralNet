import EphVerif.Lemmas.C34Fmt

/-! Helper lemmas for C34: what `normalize_ipv6` / `is_private_or_reserved_host` do on texts of a known shape. -/
namespace EphVerif.C34L
open EphVerif.Adv EphVerif.Gen.C34

theorem strip_id (s : Str) (h : s.head? ≠ some '[') : stripBrackets s = s := by
  rw [stripBrackets, beq_false_of_ne h]; rfl

theorem normalize_append (p t : Str) (h0 : (p ++ t).head? ≠ some '[') (hp : ∀ c ∈ p, plain c = true) :
    normalizeIpv6 (p ++ t) = p ++ lower (t.takeWhile (· != '%')) := by
  have hpc : ∀ c ∈ p, (c != '%') = true := fun c hc => (Bool.and_eq_true_iff.mp (hp c hc)).1
  have hlow : ∀ c ∈ p, lowerC c = id c := fun c hc => eq_of_beq (Bool.and_eq_true_iff.mp (hp c hc)).2
  rw [normalizeIpv6, strip_id _ h0, List.takeWhile_append_of_pos hpc, lower, List.map_append, List.map_congr_left hlow, List.map_id]
  rfl

theorem normalize_clean (s : Str) (h0 : s.head? ≠ some '[') (hs : ∀ c ∈ s, plain c = true) : normalizeIpv6 s = s := by
  simpa [lower] using normalize_append s [] (by simpa using h0) hs

theorem parseIpv4_prefix (p t : Str) (hdot : ∀ c ∈ p, (c != '.') = true) (c : Char) (hc : c ∈ p)
    (hd : isDigit c = false) : parseIpv4 (p ++ t) = none := by
  apply parseIpv4_none
  cases h : parseOctet ((p ++ t).takeWhile (· != '.')) with
  | none => rfl
  | some r =>
    have := parseOctet_digits _ r h c (by rw [List.takeWhile_append_of_pos hdot]; exact List.mem_append_left _ hc)
    rw [hd] at this; cases this

theorem parseIpv4_nondigit (c : Char) (t : Str) (h : isDigit c = false) : parseIpv4 (c :: t) = none := by
  apply parseIpv4_none
  rw [List.takeWhile_cons]
  split
  · rw [parseOctet, if_neg (by simp), parseOctetAux, h]; rfl
  · rfl

theorem isPrivHost_v4 (s : Str) (a b c d : Nat) (hp : parseIpv4 s = some [a, b, c, d]) :
    isPrivHost s = isPrivateOrReservedIpv4 a b c d := by
  cases s with
  | nil => cases hp
  | cons x xs => rw [isPrivHost, if_neg (by simp), hp]; rfl

theorem isPrivHost_v6 (s : Str) (hparse : parseIpv4 s = none) (hcolon : ':' ∈ s)
    (hv6 : isPrivV6 s = true) : isPrivHost s = true := by
  have h2 : s.contains ':' = true := List.contains_iff_mem.mpr hcolon
  unfold isPrivHost
  simp only [hparse, v4OfList, h2, Bool.true_or, if_true, hv6]
  split
  · rfl
  · split <;> rfl

theorem isPrivV6_of_prefix (s : Str) (p : String) (hp : p ∈ kV6Prefixes)
    (h : p.toList.isPrefixOf (normalizeIpv6 s) = true) : isPrivV6 s = true := by
  unfold isPrivV6
  have : kV6Prefixes.any (·.toList.isPrefixOf (normalizeIpv6 s)) = true := List.any_eq_true.mpr ⟨p, hp, h⟩
  simp [this]

theorem isPrivV6_of_exact (s : Str) (p : String) (hp : p ∈ kV6Exact) (h : p.toList = normalizeIpv6 s) :
    isPrivV6 s = true := by
  unfold isPrivV6
  have : kV6Exact.any (·.toList == normalizeIpv6 s) = true := List.any_eq_true.mpr ⟨p, hp, by simp [h]⟩
  simp [this]

/-- what makes a literal prefix usable below: clean for `normalize_ipv6`, no `.`, not all digits -/
def cleanPrefix (p : Str) : Bool :=
  p.head? != some '[' && p.all plain && p.all (· != '.') && p.any (!isDigit ·)

def StartsTested (s : Str) : Prop :=
  ∃ p : String, (p ∈ kV6Prefixes ∧ cleanPrefix p.toList = true) ∧ p.toList <+: s

theorem cleanPrefix_spec (p t : Str) (h : cleanPrefix p = true) :
    (p ++ t).head? ≠ some '[' ∧ (∀ c ∈ p, plain c = true) ∧ parseIpv4 (p ++ t) = none := by
  simp only [cleanPrefix, Bool.and_eq_true, List.all_eq_true, List.any_eq_true, Bool.not_eq_true', bne_iff_ne] at h
  obtain ⟨⟨⟨h0, hplain⟩, hdot⟩, c, hcp, hd⟩ := h
  refine ⟨?_, hplain, parseIpv4_prefix p t (fun x hx => bne_iff_ne.mpr (hdot x hx)) c hcp hd⟩
  cases p with
  | nil => cases hcp
  | cons x xs => exact h0

theorem isPrivHost_of_prefix (s : Str) (h : StartsTested s) (hcolon : ':' ∈ s) : isPrivHost s = true := by
  obtain ⟨p, ⟨hp, hc⟩, t, rfl⟩ := h
  obtain ⟨h0, hplain, hparse⟩ := cleanPrefix_spec p.toList t hc
  refine isPrivHost_v6 _ hparse hcolon (isPrivV6_of_prefix _ p hp ?_)
  rw [normalize_append _ t h0 hplain, List.isPrefixOf_iff_prefix]
  exact List.prefix_append _ _

theorem isPrivHost_fmt6 {g0 g1 g2 g3 g4 g5 g6 g7 : Nat} {s : Str} (hs : s <+: fmt6 [g0, g1, g2, g3, g4, g5, g6, g7])
    (h : StartsTested s) : isPrivHost (fmt6 [g0, g1, g2, g3, g4, g5, g6, g7]) = true :=
  isPrivHost_of_prefix _ (h.imp fun _ hp => ⟨hp.1, hp.2.trans hs⟩) (fmt6_colon g0 g1 g2 g3 g4 g5 g6 g7)

theorem hex16_fc00 (g : Nat) (hl : 0xfc00 ≤ g) (hu : g ≤ 0xfdff) : StartsTested (hex16 g) := by
  rw [hex16_hi g (by omega), show g / 4096 % 16 = 15 by omega]
  rcases (by omega : g / 256 % 16 = 12 ∨ g / 256 % 16 = 13) with e | e <;> rw [e]
  · exact ⟨"fc", by decide, _, rfl⟩
  · exact ⟨"fd", by decide, _, rfl⟩

theorem hex16_fe80 (g : Nat) (hl : 0xfe80 ≤ g) (hu : g ≤ 0xfebf) : StartsTested (hex16 g) := by
  rw [hex16_hi g (by omega), show g / 4096 % 16 = 15 by omega, show g / 256 % 16 = 14 by omega]
  rcases (by omega : g / 16 % 16 = 8 ∨ g / 16 % 16 = 9 ∨ g / 16 % 16 = 10 ∨ g / 16 % 16 = 11) with e | e | e | e <;> rw [e]
  · exact ⟨"fe8", by decide, _, rfl⟩
  · exact ⟨"fe9", by decide, _, rfl⟩
  · exact ⟨"fea", by decide, _, rfl⟩
  · exact ⟨"feb", by decide, _, rfl⟩

theorem hex16_ff00 (g : Nat) (hl : 0xff00 ≤ g) (hu : g < 65536) : StartsTested (hex16 g) := by
  rw [hex16_hi g (by omega), show g / 4096 % 16 = 15 by omega, show g / 256 % 16 = 15 by omega]
  exact ⟨"ff", by decide, _, rfl⟩

theorem isPrivHost_mapped (a b c d : Nat) (ha : a < 256) (hb : b < 256) (hc : c < 256) (hd : d < 256)
    (hv4 : isPrivateOrReservedIpv4 a b c d = true) (m : Str) (hpre : kMappedPrefix.toList = m)
    (hm : cleanPrefix m = true) (hcolon : ':' ∈ m) : isPrivHost (m ++ fmt4 a b c d) = true := by
  obtain ⟨h0, hplain, hparse⟩ := cleanPrefix_spec m (fmt4 a b c d) hm
  refine isPrivHost_v6 _ hparse (List.mem_append_left _ hcolon) ?_
  have hnorm := normalize_clean (m ++ fmt4 a b c d) h0 fun x hx =>
    (List.mem_append.mp hx).elim (hplain x) (fmt4_plain a b c d ha hb hc hd x)
  have : mappedCheck (m ++ fmt4 a b c d) = true := by
    unfold mappedCheck
    simp only [hpre]
    rw [List.isPrefixOf_iff_prefix.mpr (List.prefix_append _ _), List.drop_left, parseIpv4_fmt4 a b c d ha hb hc hd,
      List.isEmpty_eq_false_iff.mpr (List.ne_nil_of_mem hcolon)]
    simp only [v4OfList, hv4]; rfl
  rw [isPrivV6, hnorm]
  show (_ || mappedCheck _) = true
  rw [this, Bool.or_true]

theorem isPrivHost_reserved_name (c : Char) (t : Str) (hc : isDigit c = false) (p : String) (hp : p ∈ kReservedNames)
    (hl : p.toList = lower (c :: t)) : isPrivHost (c :: t) = true := by
  have : kReservedNames.any (·.toList == lower (c :: t)) = true := List.any_eq_true.mpr ⟨p, hp, by simp [hl]⟩
  unfold isPrivHost
  simp only [List.isEmpty_cons, Bool.false_eq_true, if_false, parseIpv4_nondigit c t hc, v4OfList, this, Bool.or_true, if_true]

end EphVerif.C34L
