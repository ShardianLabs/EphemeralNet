/-
Helper lemmas for C26: which clients have been accepted, and that a closed client stays closed.  Neither
needs the invariant: every event but `accept` leaves `used` alone and brings no session back (`Frame`).
-/
import EphVerif.Lemmas.C25View
namespace EphVerif.Relay

structure Frame (σ σ' : State) : Prop where
  used : σ'.used = σ.used
  gone : ∀ a, σ.get a = none → σ'.get a = none

theorem frame_stepRel : StepRel Frame where
  refl _ := ⟨rfl, fun _ h => h⟩
  trans h12 h23 := ⟨h23.used.trans h12.used, fun a h => h23.gone a (h12.gone a h)⟩
  regs h := ⟨h.used, fun a => by rw [h.get]; exact id⟩
  edit {σ d s} s' hd _ := ⟨rfl, fun a h => by
    rw [get_put, if_neg (by rintro rfl; rw [hd] at h; cases h)]; exact h⟩
  queue σ c it := ⟨used_queue σ c it, fun a h => by
    have := isSome_get_queue σ c a it
    rw [h] at this
    exact Option.not_isSome_iff_eq_none.mp (by rw [this]; simp)⟩
  drop σ c := ⟨rfl, fun a h => by rw [get_drop, h, ite_self]⟩
  closed _ _ := ⟨rfl, fun _ h => h⟩
  flush {σ c s} n hc := ⟨rfl, fun a h => by
    rw [get_emit, get_put, if_neg (by rintro rfl; rw [hc] at h; cases h)]; exact h⟩
  hang _ := ⟨rfl, fun _ h => h⟩

theorem mem_used_step (σ : State) (ev : Event) (a : Client) : a ∈ (step σ ev).used ↔ a ∈ σ.used ∨ ev = .accept a := by
  by_cases hacc : ∃ c, ev = .accept c
  · obtain ⟨c, rfl⟩ := hacc
    rw [step]
    split
    · exact ⟨.inl, fun h => h.elim id fun e => by cases e; assumption⟩
    · show a ∈ c :: σ.used ↔ _
      rw [List.mem_cons, or_comm, Event.accept.injEq, eq_comm]
  · rw [(frame_stepRel.step σ ev fun c h => hacc ⟨c, h⟩).used]
    exact ⟨.inl, fun h => h.elim id fun e => (hacc ⟨a, e⟩).elim⟩

theorem mem_used_run (evs : List Event) : ∀ (σ : State) (a : Client),
    a ∈ (run σ evs).used ↔ a ∈ σ.used ∨ .accept a ∈ evs := by
  induction evs with
  | nil => intro σ a; simp [run]
  | cons ev evs ih =>
    intro σ a
    rw [run_cons, ih, mem_used_step, List.mem_cons, or_assoc, eq_comm]

theorem mem_used_run_init (evs : List Event) (a : Client) : a ∈ (run init evs).used ↔ .accept a ∈ evs :=
  (mem_used_run evs init a).trans (or_iff_right List.not_mem_nil)

theorem gone_step (σ : State) (ev : Event) (c : Client) (hu : c ∈ σ.used) (hg : σ.get c = none) :
    (step σ ev).get c = none := by
  by_cases hacc : ∃ d, ev = .accept d
  · obtain ⟨d, rfl⟩ := hacc
    rw [step]
    split
    · exact hg
    next hd =>
      show (σ.put d {}).get c = none
      rw [get_put, if_neg (by rintro rfl; exact hd hu)]; exact hg
  · exact (frame_stepRel.step σ ev fun c h => hacc ⟨c, h⟩).gone c hg

theorem gone_run (evs : List Event) (σ : State) (c : Client) (hu : c ∈ σ.used) (hg : σ.get c = none) :
    (run σ evs).get c = none :=
  (run_invariant (P := fun σ => c ∈ σ.used ∧ σ.get c = none)
    (fun σ ev h => ⟨(mem_used_step σ ev c).mpr (.inl h.1), gone_step σ ev c h.1 h.2⟩) evs σ ⟨hu, hg⟩).2

theorem get_closeSession_self (σ : State) (c : Client) : (closeSession σ c).get c = none := by
  cases h : σ.get c with
  | none => rw [closeSession_of_dead h]; exact h
  | some s => rw [closeSession_of_get h]; exact (frame_stepRel.detachPartner _ s).gone c (by rw [get_drop, if_pos rfl])

theorem left_gone (evs : List Event) : ∀ (σ : State) (c : Client), c ∈ σ.used →
    (Event.eof c ∈ evs ∨ Event.err c ∈ evs) → (run σ evs).get c = none := by
  induction evs with
  | nil => intro σ c _ h; simp at h
  | cons ev evs ih =>
    intro σ c hu h
    have hu' := (mem_used_step σ ev c).mpr (.inl hu)
    by_cases he : ev = .eof c ∨ ev = .err c
    · refine gone_run evs _ c hu' ?_
      rcases he with rfl | rfl <;> exact get_closeSession_self σ c
    · refine ih _ c hu' (h.imp ?_ ?_) <;>
        exact fun h => (List.mem_cons.mp h).elim (fun e => absurd (by simp [e]) he) id

theorem run_append (σ : State) (xs ys : List Event) : run σ (xs ++ ys) = run (run σ xs) ys :=
  List.foldl_append

end EphVerif.Relay
