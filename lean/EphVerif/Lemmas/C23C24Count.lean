/-
The upload (C23) and fetch (C24) models define the same two updates (`bump`, `drop`) of a per-peer slot
counter `String → Nat`: their value at an arbitrary peer, as one arithmetic expression (`drop` is a
truncated subtraction: the C++ erases the entry at `<= 1`).
-/
namespace EphVerif.Count

theorem incr_apply (f : String → Nat) (p q : String) :
    (if q = p then f q + 1 else f q) = f q + if p = q then 1 else 0 := by
  by_cases h : p = q
  · simp [h]
  · simp [h, Ne.symm h]

theorem decr_apply (f : String → Nat) (p q : String) :
    (if q = p then f q - 1 else f q) = f q - if p = q then 1 else 0 := by
  by_cases h : p = q
  · simp [h]
  · simp [h, Ne.symm h]

end EphVerif.Count
