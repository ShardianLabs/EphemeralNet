import EphVerif.Lemmas.C07Bits

/-!
Invariant of the routing table (C07) over all histories: per-bucket facts preserved by
`upsert_bucket` / `sweep_buckets`, and their lift to the table.
-/
namespace EphVerif.C07L
open EphVerif.Routing EphVerif.C07Spec

structure BInv (own : Id) (i : Nat) (b : List Contact) : Prop where
  place : ∀ c ∈ b, bucketIndexFor own c.id = some i
  cap : b.length ≤ kBucketSize
  nodup : b.Pairwise (fun a b => a.id ≠ b.id)

theorem BInv.nil (self : Id) (i : Nat) : BInv self i [] :=
  ⟨by simp, by simp, List.Pairwise.nil⟩

theorem BInv.filter {self : Id} {i : Nat} {b : List Contact} (h : BInv self i b) (p : Contact → Bool) :
    BInv self i (b.filter p) :=
  ⟨fun c hc => h.place c (List.mem_filter.1 hc).1,
   Nat.le_trans (List.length_filter_le _ _) h.cap,
   h.nodup.filter p⟩

theorem not_mem_eraseP_id {l : List Contact} (hp : l.Pairwise (fun a b => a.id ≠ b.id)) (k : Id) :
    ∀ x ∈ l.eraseP (fun e => e.id == k), x.id ≠ k := by
  induction l with
  | nil => simp
  | cons y ys ih =>
    rw [List.pairwise_cons] at hp
    rw [List.eraseP_cons]
    by_cases hy : y.id = k
    · rw [show (y.id == k) = true by simpa using hy]
      exact fun x hx h => hp.1 x hx (hy.trans h.symm)
    · rw [show (y.id == k) = false by simpa using hy]
      exact List.forall_mem_cons.2 ⟨hy, ih hp.2⟩

def kept (now : Int) (c : Contact) (b : List Contact) : List Contact :=
  let l := b.filter (live now)
  if l.any (·.id == c.id) then l.eraseP (·.id == c.id) else if l.length ≥ kBucketSize then l.drop 1 else l

/-- `upsert_bucket` puts the registered contact behind the entries it keeps (a refreshed copy takes
    the new address and expiry, so it is the registered contact) -/
theorem upsertList_eq (now : Int) (c : Contact) (b : List Contact) : upsertList now c b = kept now c b ++ [c] := by
  unfold upsertList kept
  simp only
  split
  · rename_i e he
    have hid : e.id = c.id := by simpa using List.find?_some he
    rw [if_pos (List.any_eq_true.2 ⟨e, List.mem_of_find?_eq_some he, List.find?_some he⟩), hid]
  · rename_i hn
    have hany : (b.filter (live now)).any (·.id == c.id) = false :=
      List.any_eq_false.2 (by simpa using hn)
    simp only [hany, Bool.false_eq_true, if_false]

theorem kept_sublist (now : Int) (c : Contact) (b : List Contact) : (kept now c b).Sublist (b.filter (live now)) := by
  unfold kept
  simp only
  split
  · exact List.eraseP_sublist
  · split
    · exact List.drop_sublist _ _
    · exact List.Sublist.refl _

theorem kept_id_ne {now : Int} {c : Contact} {b : List Contact} (hp : b.Pairwise (fun a b => a.id ≠ b.id)) :
    ∀ x ∈ kept now c b, x.id ≠ c.id := by
  intro x hx
  by_cases hany : (b.filter (live now)).any (·.id == c.id) = true
  · rw [kept, if_pos hany] at hx
    exact not_mem_eraseP_id (hp.filter _) c.id x hx
  · exact fun h => hany (List.any_eq_true.2 ⟨x, (kept_sublist now c b).subset hx, by simpa using h⟩)

theorem length_kept_lt {now : Int} {c : Contact} {b : List Contact} (h : b.length ≤ kBucketSize) :
    (kept now c b).length < kBucketSize := by
  have hl := Nat.le_trans (List.length_filter_le (live now) b) h
  have hpos : 0 < kBucketSize := by decide
  unfold kept
  simp only
  split
  · rename_i hany
    obtain ⟨e, he, _⟩ := List.any_eq_true.1 hany
    have := List.length_pos_of_mem he
    rw [List.length_eraseP, if_pos hany]; omega
  · split
    · rw [List.length_drop]; omega
    · omega

theorem mem_kept_or (now : Int) (c : Contact) (b : List Contact) {x : Contact}
    (hx : x ∈ b) (hl : live now x = true) (hne : x.id ≠ c.id) :
    x ∈ kept now c b ∨
      ((∀ y ∈ b.filter (live now), y.id ≠ c.id) ∧
        kBucketSize ≤ (b.filter (live now)).length ∧ (b.filter (live now)).head? = some x) := by
  have hxf : x ∈ b.filter (live now) := List.mem_filter.2 ⟨hx, hl⟩
  unfold kept
  generalize b.filter (live now) = l at hxf ⊢
  simp only
  split
  · exact Or.inl ((List.mem_eraseP_of_neg (by simpa using hne)).2 hxf)
  · rename_i hany
    split
    · rename_i hfull
      cases l with
      | nil => cases hxf
      | cons y ys =>
        rcases List.mem_cons.1 hxf with rfl | hys
        · exact Or.inr ⟨fun z hz heq => hany (List.any_eq_true.2 ⟨z, hz, by simpa using heq⟩), hfull, rfl⟩
        · exact Or.inl hys
    · exact Or.inl hxf

theorem mem_upsertList {now : Int} {c : Contact} {b : List Contact} (hp : b.Pairwise (fun a b => a.id ≠ b.id))
    {x : Contact} (hx : x ∈ upsertList now c b) : x = c ∨ (x ∈ b ∧ x.id ≠ c.id ∧ live now x = true) := by
  rw [upsertList_eq, List.mem_append, List.mem_singleton] at hx
  rcases hx with hx | rfl
  · have hf := List.mem_filter.1 ((kept_sublist now c b).subset hx)
    exact Or.inr ⟨hf.1, kept_id_ne hp x hx, hf.2⟩
  · exact Or.inl rfl

theorem BInv.upsert {self : Id} {i : Nat} {b : List Contact} (h : BInv self i b) (now : Int) (c : Contact)
    (hc : bucketIndexFor self c.id = some i) : BInv self i (upsertList now c b) := by
  refine ⟨?_, ?_, ?_⟩
  · intro x hx
    rcases mem_upsertList h.nodup hx with rfl | ⟨hb, _, _⟩
    · exact hc
    · exact h.place x hb
  · rw [upsertList_eq, List.length_append]
    exact length_kept_lt h.cap
  · rw [upsertList_eq, List.pairwise_append]
    refine ⟨(h.filter _).nodup.sublist (kept_sublist now c b), List.pairwise_singleton _ _, ?_⟩
    intro a ha d hd
    rw [List.mem_singleton.1 hd]
    exact kept_id_ne h.nodup a ha

def Inv (t : Table) : Prop := ∀ i, BInv t.self i (t.buckets i)

theorem Inv.empty (self : Id) : Inv (Table.empty self) := fun i => BInv.nil self i

theorem upsertBucket_self (t : Table) (now : Int) (c : Contact) : (upsertBucket t now c).self = t.self := by
  unfold upsertBucket; split <;> rfl

theorem buckets_upsertBucket {t : Table} {c : Contact} {i : Nat} (h : bucketIndexFor t.self c.id = some i) (now : Int) :
    (upsertBucket t now c).buckets i = upsertList now c (t.buckets i) := by
  simp only [upsertBucket, h, if_true]

theorem buckets_upsertBucket_of_ne {t : Table} {c : Contact} {j : Nat} (h : bucketIndexFor t.self c.id ≠ some j) (now : Int) :
    (upsertBucket t now c).buckets j = t.buckets j := by
  unfold upsertBucket
  split
  · rfl
  · rename_i i hi
    exact if_neg fun (hj : j = i) => h (hj ▸ hi)

theorem Inv.upsertBucket {t : Table} (h : Inv t) (now : Int) (c : Contact) : Inv (upsertBucket t now c) := by
  intro j
  rw [upsertBucket_self]
  by_cases hj : bucketIndexFor t.self c.id = some j
  · rw [buckets_upsertBucket hj]; exact (h j).upsert now c hj
  · rw [buckets_upsertBucket_of_ne hj]; exact h j

theorem mem_upsertBucket {t : Table} (h : Inv t) {now : Int} {c x : Contact} {j : Nat}
    (hx : x ∈ (upsertBucket t now c).buckets j) : x = c ∨ (x ∈ t.buckets j ∧ x.id ≠ c.id) := by
  by_cases hj : bucketIndexFor t.self c.id = some j
  · rw [buckets_upsertBucket hj] at hx
    rcases mem_upsertList (h j).nodup hx with rfl | ⟨hb, hne, _⟩
    · exact Or.inl rfl
    · exact Or.inr ⟨hb, hne⟩
  · rw [buckets_upsertBucket_of_ne hj] at hx
    exact Or.inr ⟨hx, fun he => hj (he ▸ (h j).place x hx)⟩

theorem mem_upsertBucket_or {t : Table} (now : Int) (c : Contact) {i : Nat} {x : Contact}
    (hx : x ∈ t.buckets i) (hl : live now x = true) (hne : x.id ≠ c.id) :
    x ∈ (upsertBucket t now c).buckets i ∨
      (bucketIndexFor t.self c.id = some i ∧ (∀ y ∈ (t.buckets i).filter (live now), y.id ≠ c.id) ∧
        kBucketSize ≤ ((t.buckets i).filter (live now)).length ∧ ((t.buckets i).filter (live now)).head? = some x) := by
  by_cases hi : bucketIndexFor t.self c.id = some i
  · rw [buckets_upsertBucket hi, upsertList_eq, List.mem_append]
    exact (mem_kept_or now c _ hx hl hne).imp Or.inl (And.intro hi)
  · rw [buckets_upsertBucket_of_ne hi]
    exact Or.inl hx

theorem Inv.sweep {t : Table} (h : Inv t) (now : Int) : Inv (sweepBuckets t now) :=
  fun i => (h i).filter _

theorem Inv.step {s : State} (h : Inv s.table) (op : Op) : Inv (step s op).table := by
  cases op with
  | adv d => exact h
  | reg id addr exp => exact h.upsertBucket _ _
  | add id addr ttl => exact h.upsertBucket _ _
  | sweep => exact h.sweep _
  | closest tg k => exact h

theorem Inv.run {s : State} (h : Inv s.table) (ops : List Op) : Inv (run s ops).table := by
  induction ops generalizing s with
  | nil => exact h
  | cons op ops ih => exact ih (h.step op)

theorem effExp_eq (now : Int) (c : Contact) :
    (if c.exp = 0 then { c with exp := now } else c).exp = effExp now c.exp := by
  unfold effExp; split <;> rfl

theorem step_reg (s : State) (id : Id) (addr : String) (exp : Int) :
    (step s (.reg id addr exp)).table = upsertBucket s.table s.now ⟨id, addr, effExp s.now exp⟩ := by
  simp only [step, registerPeer, effExp]
  split <;> rfl

theorem step_add (s : State) (id : Id) (addr : String) (ttl : Int) :
    (step s (.add id addr ttl)).table = upsertBucket s.table s.now ⟨id, addr, s.now + ttl⟩ := rfl

theorem step_self (s : State) (op : Op) : (step s op).table.self = s.table.self := by
  cases op <;> simp [step, registerPeer, addContactBucket, upsertBucket_self, sweepBuckets]

theorem run_self (s : State) (ops : List Op) : (run s ops).table.self = s.table.self := by
  induction ops generalizing s with
  | nil => rfl
  | cons op ops ih => simp only [run, List.foldl_cons] at ih ⊢; rw [ih, step_self]

def Held (t : Table) (c : Contact) : Prop := ∃ i, c ∈ t.buckets i

theorem Inv.self_not_held {t : Table} (h : Inv t) {c : Contact} (hc : Held t c) : c.id ≠ t.self := by
  obtain ⟨i, hi⟩ := hc
  intro he
  have := (h i).place c hi
  rw [he, bucketIndexFor_self] at this
  cases this

theorem Inv.bucket_unique {t : Table} (h : Inv t) {i j : Nat} {c d : Contact} (hc : c ∈ t.buckets i) (hd : d ∈ t.buckets j)
    (hid : c.id = d.id) : i = j := by
  have h1 := (h i).place c hc
  have h2 := (h j).place d hd
  rw [hid, h2] at h1
  cases h1; rfl

theorem mem_allContacts {t : Table} (h : Inv t) {c : Contact} : c ∈ allContacts t ↔ Held t c := by
  unfold allContacts Held
  rw [List.mem_flatMap]
  constructor
  · rintro ⟨i, _, hc⟩; exact ⟨i, hc⟩
  · rintro ⟨i, hc⟩
    exact ⟨i, List.mem_range.2 (bucketIndexFor_lt ((h i).place c hc)), hc⟩

theorem Inv.allContacts_nodup {t : Table} (h : Inv t) : (allContacts t).Pairwise (fun a b => a.id ≠ b.id) := by
  unfold allContacts
  rw [List.pairwise_flatMap]
  refine ⟨fun i _ => (h i).nodup, ?_⟩
  refine List.Pairwise.imp ?_ (List.pairwise_lt_range (n := kIdBits))
  intro i j hij x hx y hy hid
  have := h.bucket_unique hx hy hid
  omega

end EphVerif.C07L
