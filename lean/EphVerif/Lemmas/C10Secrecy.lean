/-
C10: for `k` distinct non-zero abscissae and a fixed constant term, coefficient vectors of length `k`
and share-value vectors of length `k` correspond one to one.
-/
import EphVerif.Lemmas.C10Interp

namespace EphVerif.C10L
open EphVerif.Shamir Polynomial Finset

theorem polyOfList_inj {a : GF256} {cs cs' : List Nat} (h1 : Bytes cs) (h2 : Bytes cs') (hl : cs'.length = cs.length)
    (h : polyOfList (a :: cs'.map g) = polyOfList (a :: cs.map g)) : cs' = cs := by
  refine List.ext_getElem hl fun m hm' hm => ?_
  have := Polynomial.ext_iff.1 h (m + 1)
  rw [coeff_polyOfList, coeff_polyOfList, List.getD_cons_succ, List.getD_cons_succ, getD_map_of_lt _ _ _ hm',
    getD_map_of_lt _ _ _ hm] at this
  exact g_inj (h2 _ (List.getElem_mem hm')) (h1 _ (List.getElem_mem hm)) this

theorem values_iff_through {xs vs cs : List Nat} {s : Nat} (hx : Bytes xs) (hs : s < 256) (hc : Bytes cs)
    (hvs : Bytes vs) (hlen : vs.length = xs.length) :
    xs.map (fun x => evalPoly x s cs) = vs ↔
      ∀ j, j < xs.length + 1 →
        (polyOfList (g s :: cs.map g)).eval (g ((0 :: xs).getD j 0)) = g ((s :: vs).getD j 0) := by
  rw [eq_iff_getD 0 (List.length_map ..) hlen, Nat.forall_lt_succ_left]
  -- the point `(0, s)` only says that the constant term is `s`
  simp only [List.getD_cons_zero, List.getD_cons_succ, g_zero, eval_polyOfList_zero, true_and]
  refine forall₂_congr fun i hi => ?_
  rw [getD_of_lt 0 hi, getD_map_of_lt _ _ _ hi, ← evalPoly_g (hx _ (List.getElem_mem hi)) hs hc]
  exact ⟨congrArg g, g_inj (evalPoly_lt hs) (getD_lt hvs i)⟩

theorem secrecy_core {xs : List Nat} (hx : ∀ x ∈ xs, 1 ≤ x ∧ x ≤ 255) (hnd : xs.Nodup) {s : Nat} (hs : s < 256)
    {vs : List Nat} (hlen : vs.length = xs.length) (hvs : Bytes vs) :
    ∃! cs : List Nat, cs.length = xs.length ∧ Bytes cs ∧ xs.map (fun x => evalPoly x s cs) = vs := by
  have hxb : Bytes xs := fun x hx' => by have := hx x hx'; omega
  have hinj := injOn_of_nodup (Bytes.cons.2 ⟨(by decide : 0 < 256), hxb⟩)
    (List.nodup_cons.2 ⟨fun h => by have := hx 0 h; omega, hnd⟩)
  rw [List.length_cons] at hinj
  let Z : ℕ → GF256 := fun j => g ((0 :: xs).getD j 0)
  let W : ℕ → GF256 := fun j => g ((s :: vs).getD j 0)
  -- the polynomial of degree `≤ |xs|` through `(0, s)` and the points `(xs[i], vs[i])`
  let p : GF256[X] := Lagrange.interpolate (range (xs.length + 1)) Z W
  have hdeg : p.degree < (xs.length + 1 : ℕ) := by
    have := Lagrange.degree_interpolate_lt (r := W) hinj
    rwa [card_range] at this
  have hnode : ∀ j, j < xs.length + 1 → p.eval (Z j) = W j :=
    fun j hj => Lagrange.eval_interpolate_at_node W hinj (mem_range.2 hj)
  -- a coefficient list of the right length produces `vs` exactly when it spells out `p`
  have key : ∀ cs : List Nat, cs.length = xs.length → Bytes cs →
      (xs.map (fun x => evalPoly x s cs) = vs ↔ polyOfList (g s :: cs.map g) = p) := by
    intro cs hl hb
    rw [values_iff_through hxb hs hb hvs hlen]
    refine ⟨fun h => Lagrange.eq_interpolate_of_eval_eq W hinj ?_ fun j hj => h j (mem_range.1 hj),
      fun h j hj => h ▸ hnode j hj⟩
    rw [card_range]
    simpa [hl] using degree_polyOfList_lt (g s :: cs.map g)
  let cs : List Nat := (List.range xs.length).map fun j => (p.coeff (j + 1)).val
  have hcl : cs.length = xs.length := by simp [cs]
  have hcb : Bytes cs := List.forall_mem_map.2 fun j _ => (p.coeff (j + 1)).lt
  have hp : polyOfList (g s :: cs.map g) = p := by
    have h0 : p.coeff 0 = g s := (coeff_zero_eq_eval_zero p).trans (hnode 0 (Nat.succ_pos _))
    rw [← h0, List.map_map]
    conv_rhs => rw [← polyOfList_coeffs hdeg, List.range_succ_eq_map, List.map_cons, List.map_map]
    simp only [Function.comp_def, g_val]
  refine ⟨cs, ⟨hcl, hcb, (key cs hcl hcb).2 hp⟩, ?_⟩
  rintro cs' ⟨hl, hb, hv⟩
  exact polyOfList_inj hcb hb (hl.trans hcl.symm) (((key cs' hl hb).1 hv).trans hp.symm)

end EphVerif.C10L
