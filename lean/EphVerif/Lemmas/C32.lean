import EphVerif.Model.ConfigLayers
/-! Helper lemmas for C32 (configuration layers): association lists, `merge`, `lookup`, profile chains. -/
namespace EphVerif.C32L
open EphVerif.ConfigLayers

theorem get_cons (k q : String) (v : Value) (rest : Fields) :
    (Fields.cons k v rest).get q = if k = q then some v else rest.get q := rfl

theorem get_erase (k q : String) : ∀ fs : Fields, (fs.erase k).get q = if q = k then none else fs.get q
  | .nil => (ite_self none).symm
  | .cons k' v rest => by
    rw [Fields.erase]
    split
    · next hk =>
      rw [get_erase k q rest, get_cons]
      split
      · rfl
      · next hq => rw [if_neg fun h => hq (h.symm.trans hk)]
    · next hk =>
      rw [get_cons, get_cons, get_erase k q rest]
      split
      · next hq => rw [if_neg fun h => hk (hq.trans h)]
      · rfl

theorem get_set (k q : String) (v : Value) (fs : Fields) :
    (fs.set k v).get q = if k = q then some v else fs.get q := by
  rw [Fields.set, get_cons, get_erase]
  split
  · rfl
  · next h => rw [if_neg fun h' => h h'.symm]

theorem get_mergeFields (base : Fields) (q : String) : ∀ ofs : Fields,
    (mergeFields ofs base).get q =
      match ofs.get q with
      | some v => some (combine v (base.get q))
      | none => base.get q
  | .nil => by rw [mergeFields]; rfl
  | .cons k v rest => by
    rw [mergeFields, get_set, get_cons]
    split
    · next h => rw [h]
    · exact get_mergeFields base q rest

theorem mem_keys_of_get {n : String} {v : Value} : ∀ {fs : Fields}, fs.get n = some v → n ∈ fs.keys
  | .cons k _ rest, h => by
    rw [get_cons] at h
    split at h
    · next hk => exact hk ▸ List.mem_cons_self
    · exact List.mem_cons_of_mem _ (mem_keys_of_get h)

theorem length_keys : ∀ fs : Fields, fs.keys.length = fs.length
  | .nil => rfl
  | .cons _ _ rest => congrArg (· + 1) (length_keys rest)

theorem merge_obj (ofs : Fields) (a : Value) : merge (.obj ofs) a = .obj (mergeFields ofs a.fields) := rfl

theorem merge_nonobj (b a : Value) (h : b.isObj = false) : merge b a = b := by
  cases b with
  | obj _ => cases h
  | _ => rfl

theorem merge_eq_combine (b a : Value) : merge b a = combine b (some (.obj a.fields)) := by
  cases b <;> rfl

theorem combine_obj (vf cf : Fields) : combine (.obj vf) (some (.obj cf)) = .obj (mergeFields vf cf) := rfl

theorem combine_none (v : Value) : combine v none = v := by
  cases v <;> rfl

theorem combine_nonobj_right (v c : Value) (h : c.isObj = false) : combine v (some c) = v := by
  cases c with
  | obj _ => cases h
  | _ => cases v <;> rfl

theorem combine_nonobj_left (v : Value) (cur : Option Value) (h : v.isObj = false) : combine v cur = v := by
  cases v with
  | obj _ => cases h
  | _ => rfl

theorem lookup_nonobj (v : Value) (h : v.isObj = false) (k : String) (ks : List String) : lookup v (k :: ks) = none := by
  cases v with
  | obj _ => cases h
  | _ => rfl

theorem lookup_obj (fs : Fields) (k : String) (ks : List String) :
    lookup (.obj fs) (k :: ks) = (fs.get k).bind (lookup · ks) := by
  rw [lookup]; cases fs.get k <;> rfl

/-- below the root a non-mapping base counts as empty, as in `merge` -/
theorem lookup_fields (a : Value) (k : String) (ks : List String) :
    lookup (.obj a.fields) (k :: ks) = lookup a (k :: ks) := by
  cases a <;> rfl

def pick {α} (a b : Option α) : Option α :=
  match a with
  | some x => some x
  | none => b

def firstSome {α} : List (Option α) → Option α
  | [] => none
  | a :: r => pick a (firstSome r)

theorem pick_none {α} (a : Option α) : pick a none = a := by
  cases a <;> rfl

theorem pick_assoc {α} (a b c : Option α) : pick (pick a b) c = pick a (pick b c) := by
  cases a <;> rfl

theorem firstSome_append {α} (l r : List (Option α)) : firstSome (l ++ r) = pick (firstSome l) (firstSome r) := by
  induction l with
  | nil => rfl
  | cons a l ih => rw [List.cons_append, firstSome, firstSome, ih, pick_assoc]

/-- no scalar in the way of path `p` in `v`: every node the path passes through is a mapping, and what the path ends
at is not one (so `merge_objects` replaces it whole) -/
def Clean : List String → Value → Prop
  | [], v => v.isObj = false
  | k :: ks, v => ∃ fs, v = .obj fs ∧ ∀ c, fs.get k = some c → Clean ks c

/-- What `mergeFields` writes under one key; this is where the induction on the path lives. -/
theorem lookup_combine : ∀ (ks : List String) (v : Value) (cur : Option Value), Clean ks v →
    lookup (combine v cur) ks = pick (lookup v ks) (cur.bind (lookup · ks))
  | [], v, cur, hv => by rw [combine_nonobj_left v cur hv]; rfl
  | _ :: _, v, none, _ => by rw [combine_none, Option.bind_none, pick_none]
  | k :: ks, _, some c, ⟨vf, rfl, hvf⟩ => by
    rw [Option.bind_some]
    cases hc : c.isObj with
    | false => rw [combine_nonobj_right _ c hc, lookup_nonobj c hc, pick_none]
    | true =>
      cases c <;> cases hc
      rw [combine_obj, lookup_obj, lookup_obj, lookup_obj, get_mergeFields]
      cases hv : vf.get k with
      | none => rfl
      | some v => exact lookup_combine ks v _ (hvf v hv)

theorem lookup_merge (p : List String) (b a : Value) (hb : Clean p b) :
    lookup (merge b a) p = pick (lookup b p) (lookup a p) := by
  rw [merge_eq_combine, lookup_combine p b _ hb, Option.bind_some]
  cases p with
  | nil => rfl
  | cons k ks => rw [lookup_fields]

theorem clean_combine : ∀ (ks : List String) (v : Value) (cur : Option Value), Clean ks v →
    (∀ c, cur = some c → Clean ks c) → Clean ks (combine v cur)
  | [], v, cur, hv, _ => by rw [combine_nonobj_left v cur hv]; exact hv
  | _ :: _, v, none, hv, _ => by rw [combine_none]; exact hv
  | k :: ks, _, some c, ⟨vf, rfl, hvf⟩, hc => by
    obtain ⟨cf, rfl, hcf⟩ := hc c rfl
    refine ⟨mergeFields vf cf, rfl, fun x hx => ?_⟩
    rw [get_mergeFields] at hx
    cases hv : vf.get k with
    | none => rw [hv] at hx; exact hcf x hx
    | some v =>
      rw [hv] at hx
      cases hx
      exact clean_combine ks v _ (hvf v hv) hcf

theorem clean_merge (p : List String) (b a : Value) (hb : Clean p b) (ha : Clean p a) : Clean p (merge b a) := by
  cases p with
  | nil => rw [merge_nonobj b a hb]; exact hb
  | cons k ks =>
    obtain ⟨afs, rfl, hafs⟩ := ha
    rw [merge_eq_combine]
    exact clean_combine _ b _ hb fun c hc => Option.some.inj hc ▸ ⟨afs, rfl, hafs⟩

theorem clean_empty (k : String) (ks : List String) : Clean (k :: ks) Value.emptyObj :=
  ⟨.nil, rfl, fun _ hc => nomatch hc⟩

/-- `resolve_profile` of a chain of own mappings (nearest first): ancestors first, descendants on top -/
def chainMerge : List Value → Value
  | [] => Value.emptyObj
  | own :: rest => mergeObjects (chainMerge rest) own

theorem lookup_chain (k : String) (ks : List String) (chain : List Value) (hc : ∀ l ∈ chain, Clean (k :: ks) l) :
    lookup (chainMerge chain) (k :: ks) = firstSome (chain.map (lookup · (k :: ks))) := by
  induction chain with
  | nil => rfl
  | cons own rest ih =>
    obtain ⟨hown, hrest⟩ := List.forall_mem_cons.mp hc
    rw [chainMerge, mergeObjects, lookup_merge _ _ _ hown, ih hrest]
    rfl

theorem clean_chain (k : String) (ks : List String) (chain : List Value) (hc : ∀ l ∈ chain, Clean (k :: ks) l) :
    Clean (k :: ks) (chainMerge chain) := by
  induction chain with
  | nil => exact clean_empty k ks
  | cons own rest ih =>
    obtain ⟨hown, hrest⟩ := List.forall_mem_cons.mp hc
    exact clean_merge _ _ _ hown (ih hrest)

/-- the `extends` chain starting at a profile: names visited and own mappings (without `extends`), nearest first -/
inductive ChainOf (profiles : Fields) : String → List String → List Value → Prop
  | root (name : String) (fs : Fields) :
      profiles.get name = some (.obj fs) → fs.get "extends" = none →
      ChainOf profiles name [name] [.obj (fs.erase "extends")]
  | step (name parent : String) (fs : Fields) (names : List String) (chain : List Value) :
      profiles.get name = some (.obj fs) → fs.get "extends" = some (.str parent) →
      ChainOf profiles parent names chain →
      ChainOf profiles name (name :: names) (.obj (fs.erase "extends") :: chain)

theorem resolve_succ (profiles : Fields) (fuel : Nat) (vis : List String) (name : String) :
    (∃ e, resolve profiles (fuel + 1) vis name = .error e ∧ e ≠ .fuel) ∨
    ∃ fs, profiles.get name = some (.obj fs) ∧ name ∉ vis ∧
      ((fs.get "extends" = none ∧
          resolve profiles (fuel + 1) vis name = .ok (chainMerge [.obj (fs.erase "extends")])) ∨
        ∃ parent, fs.get "extends" = some (.str parent) ∧
          resolve profiles (fuel + 1) vis name =
            (resolve profiles fuel (name :: vis) parent).map (mergeObjects · (.obj (fs.erase "extends")))) := by
  rw [resolve]
  split
  · exact .inl ⟨_, rfl, nofun⟩
  · next fs hg =>
    split
    · exact .inl ⟨_, rfl, nofun⟩
    · next hvis =>
      have hnv : name ∉ vis := mt List.contains_iff_mem.mpr hvis
      split
      · next he => exact .inr ⟨fs, hg, hnv, .inl ⟨he, rfl⟩⟩
      · next parent he =>
        refine .inr ⟨fs, hg, hnv, .inr ⟨parent, he, ?_⟩⟩
        cases resolve profiles fuel (name :: vis) parent <;> rfl
      · exact .inl ⟨_, rfl, nofun⟩
  · exact .inl ⟨_, rfl, nofun⟩

theorem resolve_ok (profiles : Fields) : ∀ (fuel : Nat) (vis : List String) (name : String) (v : Value),
    resolve profiles fuel vis name = .ok v →
    ∃ names chain, ChainOf profiles name names chain ∧ v = chainMerge chain ∧ (∀ n ∈ names, n ∉ vis) ∧ names.Nodup
  | 0, _, _, _, h => nomatch h
  | fuel + 1, vis, name, v, h => by
    obtain ⟨e, he, _⟩ | ⟨fs, hg, hnv, ⟨hx, hr⟩ | ⟨parent, hx, hr⟩⟩ := resolve_succ profiles fuel vis name
    · rw [he] at h; cases h
    · rw [hr] at h; cases h
      exact ⟨[name], _, .root name fs hg hx, rfl, List.forall_mem_singleton.mpr hnv, List.pairwise_singleton _ name⟩
    · rw [hr] at h
      cases hb : resolve profiles fuel (name :: vis) parent with
      | error e => rw [hb] at h; cases h
      | ok base =>
        rw [hb] at h; cases h
        obtain ⟨names, chain, hch, rfl, hnot, hnd⟩ := resolve_ok profiles fuel _ _ _ hb
        exact ⟨name :: names, _, .step name parent fs names chain hg hx hch, rfl,
          List.forall_mem_cons.mpr ⟨hnv, fun n hn hv => hnot n hn (List.mem_cons_of_mem _ hv)⟩,
          List.nodup_cons.mpr ⟨fun hmem => hnot name hmem List.mem_cons_self, hnd⟩⟩

/-- `visiting` holds distinct names of existing profiles, so it never outgrows `profiles` (pigeonhole) -/
theorem resolve_fuel (profiles : Fields) : ∀ (fuel : Nat) (vis : List String) (name : String),
    vis.Nodup → vis ⊆ profiles.keys → profiles.length + 1 ≤ vis.length + fuel →
    resolve profiles fuel vis name ≠ .error .fuel
  | 0, vis, _, hnd, hsub, hlen => by
    have := hnd.length_le_of_subset hsub
    rw [length_keys] at this
    omega
  | fuel + 1, vis, name, hnd, hsub, hlen => by
    obtain ⟨e, hr, he⟩ | ⟨fs, hg, hnv, ⟨_, hr⟩ | ⟨parent, _, hr⟩⟩ := resolve_succ profiles fuel vis name
    · rw [hr]; exact fun h => he (Except.error.inj h)
    · rw [hr]; nofun
    · have ih := resolve_fuel profiles fuel (name :: vis) parent (List.nodup_cons.mpr ⟨hnv, hnd⟩)
        (List.cons_subset.mpr ⟨mem_keys_of_get hg, hsub⟩) (by rw [List.length_cons]; omega)
      rw [hr]
      cases hb : resolve profiles fuel (name :: vis) parent with
      | error e => exact fun h => ih (hb.trans (congrArg _ (Except.error.inj h)))
      | ok base => nofun

def parentOf (profiles : Fields) (name : String) : Option String :=
  match profiles.get name with
  | some (.obj fs) =>
    match fs.get "extends" with
    | some (.str parent) => some parent
    | _ => none
  | _ => none

def iterParent (profiles : Fields) : Nat → String → Option String
  | 0, name => some name
  | n + 1, name =>
    match parentOf profiles name with
    | some p => iterParent profiles n p
    | none => none

theorem iterParent_add (profiles : Fields) (a b : Nat) (name : String) :
    iterParent profiles (a + b) name = (iterParent profiles a name).bind (iterParent profiles b) := by
  induction a generalizing name with
  | zero => rw [Nat.zero_add]; rfl
  | succ a ih =>
    rw [Nat.add_right_comm, iterParent, iterParent]
    cases parentOf profiles name with
    | none => rfl
    | some p => exact ih p

theorem chain_nth {profiles : Fields} {name : String} {names : List String} {chain : List Value}
    (h : ChainOf profiles name names chain) (m : Nat) : names[m]? = iterParent profiles m name := by
  induction h generalizing m with
  | root name fs hg he =>
    cases m with
    | zero => rfl
    | succ m =>
      simp only [iterParent, parentOf, hg, he]
      rfl
  | step name parent fs names chain hg he _ ih =>
    cases m with
    | zero => rfl
    | succ m =>
      simp only [iterParent, parentOf, hg, he]
      exact ih m

theorem chain_members_exist {profiles : Fields} {name : String} {names : List String} {chain : List Value}
    (h : ChainOf profiles name names chain) : ∀ n ∈ names, (profiles.get n).isSome = true := by
  induction h with
  | root name fs hg he => exact List.forall_mem_singleton.mpr (congrArg Option.isSome hg)
  | step name parent fs names chain hg he _ ih => exact List.forall_mem_cons.mpr ⟨congrArg Option.isSome hg, ih⟩

end EphVerif.C32L
