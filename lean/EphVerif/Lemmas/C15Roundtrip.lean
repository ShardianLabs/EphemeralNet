/-
Helper lemmas for C15: decoding the encoding of each payload kind (`Model/Message.lean`), whatever
bytes follow it.  Core Lean only.

Each proof follows its decoder construct by construct, carrying `RestAt d off s`: from the cursor
`off` on, the span reads `s`, the fields still to come.  Every read finds its field at the head of `s`.
-/
import EphVerif.Lemmas.C15Bytes
import EphVerif.Spec.Message

namespace EphVerif.Message
open EphVerif.Gen.C15 EphVerif.MessageSpec

def RestAt (d : Bytes) (off : Nat) (s : Bytes) : Prop := off ≤ d.length ∧ d.drop off = s

theorem restAt_zero {d s : Bytes} (h : d = s) : RestAt d 0 s := ⟨Nat.zero_le _, h⟩

theorem RestAt.drop_eq {d s : Bytes} {off : Nat} (h : RestAt d off s) : d.drop off = s := h.2

theorem RestAt.rd {d b s : Bytes} {off : Nat} (h : RestAt d off (b ++ s)) :
    rd d off b.length = some b ∧ RestAt d (off + b.length) s := by
  obtain ⟨hle, hd⟩ := h
  have hl : d.length - off = b.length + s.length := by rw [← List.length_drop, hd, List.length_append]
  have hb : off + b.length ≤ d.length := by omega
  exact ⟨by rw [rd_some hb, hd, List.take_left], hb, by rw [← List.drop_drop, hd, List.drop_left]⟩

section
variable {β : Type} {d b s : Bytes} {off n : Nat} {r x y : Outcome β} {c : Prop} [Decidable c]

/-- a rejecting test (length, flag byte, version) that the input passes -/
theorem guard_eq (hc : ¬ c) (h : y = r) : (if c then x else y) = r := (if_neg hc).trans h

theorem chk_rd_rest {k : Bytes → Outcome β} (h : RestAt d off (b ++ s)) (hn : b.length = n)
    (hk : RestAt d (off + n) s → k b = r) : chk (rd d off n) k = r := by
  subst hn
  rw [h.rd.1]; exact hk h.rd.2

/-- `rdU32`, `rdU64` on what `write_u32`, `write_u64` wrote for a value that fits -/
theorem chk_rdNat_rest {k : Nat → Outcome β} {v : Nat} (h : RestAt d off (beBytes n v ++ s)) (hv : v < 256 ^ n)
    (hk : RestAt d (off + n) s → k v = r) : chk ((rd d off n).map beNat) k = r := by
  have := h.rd
  rw [beBytes_length] at this
  rw [this.1, Option.map_some, beNat_beBytes, Nat.mod_eq_of_lt hv]; exact hk this.2

theorem chk_rdU8_rest {k : Nat → Outcome β} {v : UInt8} (h : RestAt d off (v :: s))
    (hk : RestAt d (off + 1) s → k v.toNat = r) : chk (rdU8 d off) k = r := by
  have : rd d off 1 = some [v] ∧ RestAt d (off + 1) s := RestAt.rd (b := [v]) h
  rw [rdU8, this.1, Option.map_some, beNat_singleton]; exact hk this.2
end

theorem parseAnnounce_encode (a : Announce) (pow : Bool) (version : Nat) (rest : Bytes)
    (hr : FieldsInRange (.announce a)) (hv : decide (version ≥ encPowMinVersion) = pow) :
    parseAnnounce (encodePayload version (.announce a) ++ rest) pow = .ok (if pow then a else { a with nonce := 0 }) := by
  obtain ⟨hcl, hpl, hel, hml, hsl, ht0, ht1, hn⟩ := hr
  generalize hd : encodePayload version (.announce a) ++ rest = d
  have h0 := restAt_zero hd.symm
  have hlen : d.length = 80 + a.endpoint.length + a.manifestUri.length + a.shards.length + (if pow = true then 8 else 0)
      + rest.length := by
    simp only [← hd, encodePayload, hv, List.length_append, writeU32_length, hcl, hpl, apply_ite List.length,
      writeU64_length, List.length_nil]
  simp only [encodePayload, hv, castU32_of_lt (show a.endpoint.length < 4294967296 by omega),
    castU32_of_lt (show a.manifestUri.length < 4294967296 by omega), castU32_of_lt (show a.shards.length < 4294967296 by omega),
    List.append_assoc] at h0
  have hc : kChunkIdSize = 32 := rfl
  have hp : kPeerIdSize = 32 := rfl
  refine guard_eq (by omega) <|
    chk_rdNat_rest h0 (castU32i_lt _) fun h1 => chk_rdNat_rest h1 (by omega) fun h2 =>
    chk_rdNat_rest h2 (by omega) fun h3 => chk_rdNat_rest h3 (by omega) fun h4 =>
    guard_eq (by omega) <|
    chk_rd_rest h4 hcl fun h5 => chk_rd_rest h5 hpl fun h6 => chk_rd_rest h6 rfl fun h7 =>
    chk_rd_rest h7 rfl fun h8 => chk_rd_rest h8 rfl fun h9 => ?_
  rw [castU32i_of_range ht0 (by omega)]
  cases pow
  · rfl
  · exact chk_rdNat_rest h9 (by omega) fun _ => rfl

theorem flagByte_toNat (b : Bool) : ¬ (flagByte b).toNat > 1 ∧ ((flagByte b).toNat != 0) = b := by
  cases b <;> exact ⟨by decide, rfl⟩

/-- what `decode_payload_v1` returns on the encoding of a payload (no nonce field in this path) -/
def v1View : Payload → Payload
  | .announce a => .announce { a with nonce := 0 }
  | p => p

theorem v1View_announce (a : Announce) : v1View (.announce a) = .announce { a with nonce := 0 } := rfl

theorem decodePayloadV1_encode (p : Payload) (version : Nat) (rest : Bytes) (hr : FieldsInRange p)
    (hv : ∀ a, p = .announce a → version < encPowMinVersion) :
    decodePayloadV1 (tagOf p) (encodePayload version p ++ rest) = .ok (v1View p) := by
  have hc : kChunkIdSize = 32 := rfl
  have hp : kPeerIdSize = 32 := rfl
  generalize hd : encodePayload version p ++ rest = d
  have h0 := restAt_zero hd.symm
  have hlen := congrArg List.length hd
  -- `tagOf p` is a numeral in each case, so the tag tests evaluate: what is left starts at the length test
  cases p with
  | announce a =>
    have := parseAnnounce_encode a false version rest hr (decide_eq_false (Nat.not_le.mpr (hv a rfl)))
    show (parseAnnounce d false).map Payload.announce = _
    rw [← hd, this]; rfl
  | request c r =>
    obtain ⟨h1, h2⟩ := hr
    simp only [encodePayload, List.append_assoc, List.length_append] at h0 hlen
    exact guard_eq (by omega) <|
      chk_rd_rest h0 h1 fun h0 => chk_rd_rest h0 h2 fun _ => rfl
  | chunk c data ttl =>
    obtain ⟨h1, h2, h3, h4⟩ := hr
    simp only [encodePayload, castU32_of_lt (show data.length < 4294967296 by omega), List.append_assoc, List.length_append,
      writeU32_length] at h0 hlen
    refine guard_eq (by omega) <|
      chk_rdNat_rest h0 (castU32i_lt _) fun h0 => chk_rdNat_rest h0 (by omega) fun h0 => guard_eq (by omega) <|
      chk_rd_rest h0 h1 fun h0 => chk_rd_rest h0 rfl fun _ => ?_
    rw [castU32i_of_range h3 (by omega)]; rfl
  | ack c p acc =>
    obtain ⟨h1, h2⟩ := hr
    simp only [encodePayload, List.append_assoc, List.singleton_append, List.length_append, List.length_cons] at h0 hlen
    refine guard_eq (by omega) <|
      chk_rdU8_rest h0 fun h0 => guard_eq (flagByte_toNat acc).1 <|
      chk_rd_rest h0 h1 fun h0 => chk_rd_rest h0 h2 fun _ => ?_
    rw [(flagByte_toNat acc).2]; rfl
  | handshake pub nonce rv =>
    obtain ⟨h1, h2, h3⟩ := hr
    simp only [encodePayload, List.append_assoc, List.singleton_append, List.length_append, List.length_cons,
      writeU32_length, writeU64_length] at h0 hlen
    refine guard_eq (by omega) <|
      chk_rdNat_rest h0 (by omega) fun h0 => chk_rdNat_rest h0 (by omega) fun h0 => chk_rdU8_rest h0 fun _ => ?_
    rw [UInt8.toNat_ofNat_of_lt' h3]; rfl
  | handshakeAck acc nv pub =>
    obtain ⟨h1, h2⟩ := hr
    simp only [encodePayload, List.append_assoc, List.singleton_append, List.length_append, List.length_cons,
      writeU32_length] at h0 hlen
    refine guard_eq (by omega) <|
      chk_rdU8_rest h0 fun h0 => guard_eq (flagByte_toNat acc).1 <|
      chk_rdU8_rest h0 fun h0 => chk_rdNat_rest h0 (by omega) fun _ => ?_
    rw [(flagByte_toNat acc).2, UInt8.toNat_ofNat_of_lt' h1]; rfl

/-- every payload but an announce comes back from `decode_payload_v1` as it was sent -/
theorem decodePayloadV1_encode_of_ne (p : Payload) (version : Nat) (rest : Bytes) (hr : FieldsInRange p)
    (hp : ∀ a, p ≠ .announce a) : decodePayloadV1 (tagOf p) (encodePayload version p ++ rest) = .ok p := by
  rw [decodePayloadV1_encode p version rest hr fun a h => absurd h (hp a)]
  cases p with
  | announce a => exact absurd rfl (hp a)
  | _ => rfl

end EphVerif.Message
