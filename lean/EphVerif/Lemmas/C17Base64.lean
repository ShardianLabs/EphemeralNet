import EphVerif.Model.Manifest

/-! Helper lemmas for C17: the base64 pair of `Manifest.cpp`. -/
namespace EphVerif.Manifest
open EphVerif.Gen.C17

theorem decVal_alphaAt : ∀ i, i < 64 → decVal (alphaAt i) = (i : Int) := by decide +kernel

theorem alphaAt_ne_pad : ∀ i, i < 64 → (alphaAt i != padChar) = true := by decide +kernel

theorem decVal_pad : decVal padChar = 0 := by decide +kernel

theorem decVal_sextet (t k : Nat) : decVal (sextet t k) = ((t / 2 ^ k % 64 : Nat) : Int) :=
  decVal_alphaAt _ (Nat.mod_lt _ (by decide))

theorem sextet_ne_pad (t k : Nat) : (sextet t k != padChar) = true :=
  alphaAt_ne_pad _ (Nat.mod_lt _ (by decide))

theorem b64Encode_length_mod (bs : Bytes) : (b64Encode bs).length % 4 = 0 := by
  fun_induction b64Encode bs <;> simp_all [List.length_cons] <;> omega

/-- the divisions are nested in the proof, which is what `omega` is quick on -/
theorem sextets_recombine (t : Nat) (ht : t < 16777216) :
    (((t / 2 ^ 18 % 64 : Nat) : Int) * 262144 + ((t / 2 ^ 12 % 64 : Nat) : Int) * 4096 +
      ((t / 2 ^ 6 % 64 : Nat) : Int) * 64 + ((t / 2 ^ 0 % 64 : Nat) : Int)).toNat = t := by
  have h18 : t / 2 ^ 18 = t / 64 / 64 / 64 := by simp only [Nat.div_div_eq_div_mul]
  have h12 : t / 2 ^ 12 = t / 64 / 64 := by simp only [Nat.div_div_eq_div_mul]
  rw [h18, h12]
  omega

/-- One group of four characters.  The first two are sextets of the 24-bit value `t`; the last two
    are its remaining sextets, or padding where those sextets are zero. -/
theorem b64Quads_cons (t : Nat) (ht : t < 16777216) (c2 c3 : UInt8) (rest tail : Bytes)
    (h2 : decVal c2 = ((t / 2 ^ 6 % 64 : Nat) : Int)) (h3 : decVal c3 = ((t / 2 ^ 0 % 64 : Nat) : Int))
    (ih : b64Quads rest = .ok tail) :
    b64Quads (sextet t 18 :: sextet t 12 :: c2 :: c3 :: rest) =
      .ok ([UInt8.ofNat (t / 65536 % 256)] ++ (if c2 != padChar then [UInt8.ofNat (t / 256 % 256)] else [])
        ++ (if c3 != padChar then [UInt8.ofNat (t % 256)] else []) ++ tail) := by
  have nonneg (n : Nat) : decide (((n : Nat) : Int) < 0) = false := decide_eq_false (Int.not_lt.mpr (Int.natCast_nonneg n))
  simp only [b64Quads, decVal_sextet, h2, h3, nonneg, sextets_recombine t ht, ih, Res.bind, Bool.or_self,
    Bool.false_eq_true, if_false]

theorem b64Quads_encode (bs : Bytes) : b64Quads (b64Encode bs) = .ok bs := by
  fun_induction b64Encode bs with
  | case1 a b c rest t ih =>
    have ha := UInt8.toNat_lt a
    have hb := UInt8.toNat_lt b
    have hc := UInt8.toNat_lt c
    rw [b64Quads_cons t (by omega) _ _ _ _ (decVal_sextet t 6) (decVal_sextet t 0) ih]
    have h0 : t / 65536 % 256 = a.toNat := by omega
    have h1 : t / 256 % 256 = b.toNat := by omega
    have h2 : t % 256 = c.toNat := by omega
    simp [sextet_ne_pad, h0, h1, h2, UInt8.ofNat_toNat]
  | case2 a b t =>
    have ha := UInt8.toNat_lt a
    have hb := UInt8.toNat_lt b
    rw [b64Quads_cons t (by omega) _ _ [] [] (decVal_sextet t 6) (by rw [decVal_pad]; omega) rfl]
    have h0 : t / 65536 % 256 = a.toNat := by omega
    have h1 : t / 256 % 256 = b.toNat := by omega
    simp [sextet_ne_pad, h0, h1, UInt8.ofNat_toNat]
  | case3 a t =>
    have ha := UInt8.toNat_lt a
    rw [b64Quads_cons t (by omega) _ _ [] [] (by rw [decVal_pad]; omega) (by rw [decVal_pad]; omega) rfl]
    have h0 : t / 65536 % 256 = a.toNat := by omega
    simp [h0, UInt8.ofNat_toNat]
  | case4 => rfl

theorem b64Decode_encode (bs : Bytes) : b64Decode (b64Encode bs) = .ok bs := by
  simp [b64Decode, b64Encode_length_mod, b64Quads_encode]

end EphVerif.Manifest
