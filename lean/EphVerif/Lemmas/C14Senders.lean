/-
C14 helper lemmas: several sender threads with the per-session send lock.  Under the lock invariant a
step changes the wire-once-the-current-frame-is-finished (`committed`) only by a whole frame, so when every
thread is done the wire is whole frames in an order that is a `Merge` of the threads' call lists
(`run_locked`).  The two-thread witness `C14.cexCalls` is used by `concurrent_locked_witness` and
`concurrent_unlocked_counterexample`.
-/
import EphVerif.Model.Frames

namespace EphVerif.Frames

theorem upd_same {α : Type} (f : Nat → α) (i : Nat) (v : α) : upd f i v i = v := if_pos rfl
theorem upd_other {α : Type} {f : Nat → α} {i j : Nat} {v : α} (h : j ≠ i) : upd f i v j = f j := if_neg h

theorem Merge.mem {α : Type} {t : Nat → List α} {l : List α} (m : Merge t l) : ∀ x ∈ l, ∃ i, x ∈ t i := by
  induction m with
  | nil h => intro x hx; cases hx
  | cons i x rest h m ih =>
    intro y hy
    rcases List.mem_cons.mp hy with rfl | hy
    · exact ⟨i, h ▸ List.mem_cons_self⟩
    · obtain ⟨j, hj⟩ := ih y hy
      by_cases hji : j = i
      · rw [hji, upd_same] at hj; exact ⟨i, h ▸ List.mem_cons_of_mem _ hj⟩
      · rw [upd_other hji] at hj; exact ⟨j, hj⟩

theorem Merge.sublist {α : Type} {t : Nat → List α} {l : List α} (m : Merge t l) : ∀ j, (t j).Sublist l := by
  induction m with
  | nil h => intro j; rw [h j]; exact List.Sublist.refl _
  | cons i x rest h m ih =>
    intro j
    have := ih j
    by_cases hji : j = i
    · rw [hji, upd_same] at this
      rw [hji, h]; exact this.cons_cons x
    · rw [upd_other hji] at this
      exact this.cons x

theorem flatMap_range_upd {α : Type} {n : Nat} {t : Nat → List α} {i : Nat} {x : α} {rest : List α} (hi : i < n)
    (h : t i = x :: rest) : ((List.range n).flatMap t).Perm (x :: (List.range n).flatMap (upd t i rest)) := by
  induction n with
  | zero => omega
  | succ n ih =>
    rw [List.range_succ, List.flatMap_append, List.flatMap_append]
    simp only [List.flatMap_cons, List.flatMap_nil, List.append_nil]
    by_cases hin : i = n
    · subst hin
      have : (List.range i).flatMap (upd t i rest) = (List.range i).flatMap t := by
        rw [List.flatMap_def, List.flatMap_def,
          List.map_congr_left fun j hj => upd_other (Nat.ne_of_lt (List.mem_range.mp hj))]
      rw [upd_same, h, this]
      exact List.perm_middle
    · rw [upd_other (by omega : n ≠ i)]
      exact (List.Perm.append_right _ (ih (by omega))).trans (by simp)

theorem Merge.perm {α : Type} {t : Nat → List α} {l : List α} (m : Merge t l) (n : Nat) (hn : ∀ i, n ≤ i → t i = []) :
    l.Perm ((List.range n).flatMap t) := by
  induction m with
  | @nil t' h =>
    rw [List.flatMap_eq_nil_iff.mpr fun i _ => h i]
  | @cons t' l' i x rest h m ih =>
    have hi : i < n := Nat.lt_of_not_le fun hge => List.cons_ne_nil x rest (h ▸ hn i hge)
    have hn' (j : Nat) (hj : n ≤ j) : upd t' i rest j = [] := (upd_other (by omega)).trans (hn j hj)
    exact ((ih hn').cons x).trans (flatMap_range_upd hi h).symm

/-- with the lock: only the owner is inside `send_all` -/
def LockInv (s : Senders) : Prop := ∀ j, s.holder ≠ some j → s.cur j = []

def inflight (s : Senders) : List Bytes :=
  match s.holder with
  | some i => s.cur i
  | none => []

/-- the wire once the owner has written the rest of its frame -/
def committed (s : Senders) : Bytes := s.wire ++ (inflight s).flatten

theorem committed_of_holder {s : Senders} {i : Nat} (h : s.holder = some i) :
    committed s = s.wire ++ (s.cur i).flatten := by
  simp only [committed, inflight, h]

theorem committed_of_free {s : Senders} (h : s.holder = none) : committed s = s.wire := by
  simp only [committed, inflight, h, List.flatten_nil, List.append_nil]

theorem step_locked (s : Senders) (i : Nat) (hinv : LockInv s) :
    LockInv (s.step true i) ∧
    ((s.step true i).todo = s.todo ∧ committed (s.step true i) = committed s ∨
     ∃ c more, s.todo i = c :: more ∧ (s.step true i).todo = upd s.todo i more ∧
       committed (s.step true i) = committed s ++ c.pieces.flatten) := by
  unfold Senders.step
  split
  · next w ws hcur =>
    -- thread `i` is inside `send_all`, hence the owner
    have hown : s.holder = some i := Decidable.byContradiction fun h => by simpa [hcur] using hinv i h
    have hothers (j : Nat) (hj : j ≠ i) : s.cur j = [] := hinv j (by rw [hown]; exact fun h => hj (Option.some.inj h).symm)
    refine ⟨fun j hj => ?_, .inl ⟨rfl, ?_⟩⟩
    · by_cases hji : j = i
      · subst hji
        cases ws with
        | nil => exact upd_same ..
        | cons w' ws' => exact absurd hown hj
      · exact (upd_other hji).trans (hothers j hji)
    · -- the piece `w` goes from the owner's pending pieces to the wire; after the last one the lock is free
      rw [committed_of_holder hown, hcur, List.flatten_cons, ← List.append_assoc]
      cases ws with
      | nil => exact (committed_of_free rfl).trans (by rw [List.flatten_nil, List.append_nil])
      | cons w' ws' => exact (committed_of_holder (i := i) (by exact hown)).trans (by simp only [upd_same])
  split
  · exact ⟨hinv, .inl ⟨rfl, rfl⟩⟩
  next c more htodo =>
  cases hh : s.holder with
  | some j => exact ⟨hinv, .inl ⟨rfl, rfl⟩⟩
  | none =>
    have hall (j : Nat) : s.cur j = [] := hinv j (by rw [hh]; exact nofun)
    simp only [Option.isSome_none, Bool.and_false, Bool.false_eq_true, ↓reduceIte]
    split
    · next hp =>
      refine ⟨fun j _ => hall j, .inr ⟨c, more, htodo, rfl, ?_⟩⟩
      rw [committed_of_free hh, List.isEmpty_iff.mp hp, List.flatten_nil, List.append_nil]
      exact committed_of_free rfl
    · next hp =>
      refine ⟨fun j hj => ?_, .inr ⟨c, more, htodo, rfl, ?_⟩⟩
      · exact (upd_other fun h => hj (congrArg some h.symm)).trans (hall j)
      · rw [committed_of_free hh]
        exact (committed_of_holder (i := i) rfl).trans (by simp only [upd_same])

theorem run_locked_from (sched : List Nat) (s : Senders) (hinv : LockInv s)
    (hdone : (Senders.run true s sched).Done) :
    ∃ order : List SendCall, Merge s.todo order ∧
      (Senders.run true s sched).wire = committed s ++ (order.map fun c => c.pieces.flatten).flatten := by
  induction sched generalizing s with
  | nil =>
    have : committed s = s.wire := by
      cases hh : s.holder with
      | none => exact committed_of_free hh
      | some j => rw [committed_of_holder hh, show s.cur j = [] from (hdone j).2, List.flatten_nil, List.append_nil]
    exact ⟨[], .nil fun i => (hdone i).1, by simp [Senders.run, this]⟩
  | cons i sched ih =>
    obtain ⟨hinv', hstep⟩ := step_locked s i hinv
    obtain ⟨order, hm, hw⟩ := ih _ hinv' hdone
    rcases hstep with ⟨ht, hc⟩ | ⟨c, more, htodo, ht, hc⟩
    · exact ⟨order, ht ▸ hm, hw.trans (by rw [hc])⟩
    · exact ⟨c :: order, .cons i c more htodo (ht ▸ hm),
        hw.trans (by rw [hc, List.map_cons, List.flatten_cons, List.append_assoc])⟩

theorem run_locked (calls : Nat → List SendCall) (sched : List Nat)
    (hdone : (Senders.run true (Senders.init calls) sched).Done) :
    ∃ order : List SendCall, Merge calls order ∧
      (Senders.run true (Senders.init calls) sched).wire = (order.map fun c => c.pieces.flatten).flatten :=
  run_locked_from sched (Senders.init calls) (fun _ _ => rfl) hdone

/-- two threads with one two-piece call each, scheduled alternately: under the lock the second thread
waits until the first has written both its pieces -/
theorem run_locked_alternating (calls : Nat → List SendCall) {a b : SendCall} {a1 a2 b1 b2 : Bytes}
    (h0 : calls 0 = [a]) (h1 : calls 1 = [b]) (ha : a.pieces = [a1, a2]) (hb : b.pieces = [b1, b2]) :
    (Senders.run true (Senders.init calls) [0, 1, 0, 1, 0, 1, 1, 1]).wire = a.pieces.flatten ++ b.pieces.flatten := by
  simp [Senders.run, Senders.step, Senders.init, upd, h0, h1, ha, hb]

end EphVerif.Frames

namespace EphVerif.C14
open EphVerif.Frames

/-! ### the witness: two threads, one 4-byte payload each, every frame taken by the kernel in two pieces
(13 bytes, then the rest) -/

def cexKey : Bytes := List.replicate 32 0
def cexCall (nonceByte : UInt8) (payload : Bytes) : SendCall :=
  let f := encodeFrame cexKey (List.replicate 12 nonceByte) payload
  { nonce := List.replicate 12 nonceByte, payload := payload, pieces := [f.take 13, f.drop 13] }
def cexCalls : Nat → List SendCall
  | 0 => [cexCall 0x01 [1, 2, 3, 4]]
  | 1 => [cexCall 0xff [5, 6, 7, 8]]
  | _ => []

/-- a frame cut in two anywhere is a well-split call -/
theorem cexCalls_ok : ∀ i, i < 2 → ∀ c ∈ cexCalls i, c.wellSplit cexKey ∧ c.nonce.length = 12 ∧ c.payload.length ≤ 1048576 := by
  have ok (b : UInt8) (p : Bytes) (hp : p.length ≤ 1048576) :
      (cexCall b p).wellSplit cexKey ∧ (cexCall b p).nonce.length = 12 ∧ (cexCall b p).payload.length ≤ 1048576 :=
    ⟨by simp [SendCall.wellSplit, cexCall], List.length_replicate, hp⟩
  intro i hi c hc
  match i, hi with
  | 0, _ => rw [List.mem_singleton.mp hc]; exact ok _ _ (by decide)
  | 1, _ => rw [List.mem_singleton.mp hc]; exact ok _ _ (by decide)

end EphVerif.C14
