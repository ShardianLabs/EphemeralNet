/-
Helper lemmas for C25/C26: process_protocol's loop keeps the invariant and only emits relayed bytes
towards an established bridge partner (`Calm`).
-/
import EphVerif.Lemmas.C25Frame
namespace EphVerif.Relay
open EphVerif.Gen.C25

/-- What a step triggered by client `c` may queue, judged in the state `σ` after the step: control text
    for `c` itself, or anything (the BEGIN line, relayed bytes — which must be `c`'s own) for the client whose
    bridge with `c` is established. -/
def ItemOK (σ : State) (c : Client) : Out → Prop
  | .queued d it =>
    (d = c ∧ ∃ t, it = .ctrl t) ∨
    (σ.stateOf d = some .bridged ∧ σ.partnerOf d = some c ∧ σ.stateOf c = some .bridged ∧
      ∀ src data, it = .relay src data → src = c)
  | _ => True

structure Calm (c : Client) (σ σ' : State) : Prop where
  dom : ∀ a, (σ'.get a).isSome = (σ.get a).isSome
  used : σ'.used = σ.used
  closed : closedList σ' = closedList σ
  out : ∃ new, σ'.out = new ++ σ.out ∧ ∀ o ∈ new, ItemOK σ' c o

theorem Calm.refl (c : Client) (σ : State) : Calm c σ σ := ⟨fun _ => rfl, rfl, rfl, ⟨[], rfl, by simp⟩⟩

theorem itemOK_of_ctrl (σ : State) {c : Client} {o : Out} (h : isCtrlOut c o) : ItemOK σ c o := by
  match o, h with
  | .queued _ (.ctrl t), h => exact .inl ⟨h, t, rfl⟩

theorem closedList_of_out {σ σ' : State} {new : List Out} (e : σ'.out = new ++ σ.out) :
    closedList σ' = new.filterMap Out.closedOf ++ closedList σ := by
  unfold closedList; rw [e, List.filterMap_append]

theorem closedList_eq {σ σ' : State} {new : List Out} (e : σ'.out = new ++ σ.out)
    (h : ∀ o ∈ new, Out.closedOf o = none) : closedList σ' = closedList σ := by
  rw [closedList_of_out e, List.filterMap_eq_nil_iff.mpr h]; rfl

theorem Mild.closed {c : Client} {σ σ' : State} (h : Mild c σ σ') : closedList σ' = closedList σ := by
  obtain ⟨new, e, p⟩ := h.out
  refine closedList_eq e fun o ho => ?_
  match o, p o ho with
  | .queued _ _, _ => rfl

theorem Calm.of_mild {c : Client} {σ1 σ2 σ3 : State} (h12 : Mild c σ1 σ2) (h23 : Calm c σ2 σ3) : Calm c σ1 σ3 := by
  obtain ⟨n1, e1, p1⟩ := h12.out
  obtain ⟨n2, e2, p2⟩ := h23.out
  refine ⟨fun a => (h23.dom a).trans (h12.dom a), h23.used.trans h12.used, h23.closed.trans h12.closed,
    ⟨n2 ++ n1, by rw [e2, e1, List.append_assoc], fun o ho => ?_⟩⟩
  exact (List.mem_append.mp ho).elim (p2 o) fun h => itemOK_of_ctrl _ (p1 o h)

theorem Mild.calm {c : Client} {σ σ' : State} (h : Mild c σ σ') : Calm c σ σ' :=
  Calm.of_mild h (Calm.refl c σ')

theorem Calm.after_put {d c : Client} {σ σ' : State} {s : Session} (hc : σ.get c = some s) (s' : Session)
    (h : Calm d (σ.put c s') σ') : Calm d σ σ' :=
  ⟨fun a => (h.dom a).trans (by rw [get_put]; split <;> simp [*]), h.used, h.closed, h.out⟩

theorem splitLine_length {b l r : Bytes} (h : splitLine b = some (l, r)) : r.length < b.length := by
  induction b generalizing l with
  | nil => cases h
  | cons x xs ih =>
    unfold splitLine at h
    split at h
    · cases h; exact Nat.lt_succ_self _
    · split at h
      · cases h
      next l' r' hs => cases h; exact Nat.lt_succ_of_lt (ih hs)

theorem calm_handleIdentityReady {σ : State} (hI : Inv σ) {c : Client} {s : Session} (hc : σ.get c = some s)
    (hst : s.state = .awaitingIdentity) :
    Calm c σ (handleIdentityReady σ c) ∧
      (handleIdentityReady σ c).get c = some { s with readBuf := [], state := .bridged } := by
  obtain ⟨t, ts, hp, htc, ht, htp, -⟩ := hI.partner_of hc (.inl hst)
  obtain ⟨hg, ho, -, hu, -⟩ := handleIdentityReady_bridge hc hp htc ht
  have gc := hg c; rw [if_neg htc.symm, if_pos rfl] at gc
  have gt := hg t; rw [if_pos rfl] at gt
  -- everything queued is for `t`: control text or bytes relayed from `c`
  have hnew : ∀ o ∈ (if (s.readBuf.drop kPeerIdBytes).isEmpty then [] else [.queued t (.relay c (s.readBuf.drop kPeerIdBytes))]) ++
      [Out.queued t (.relay c (s.readBuf.take kPeerIdBytes)), .queued t (.ctrl (beginPrefix ++ s.connectSelf ++ [nl]))],
      ∃ it, o = .queued t it ∧ ∀ src data, it = .relay src data → src = c := by
    intro o h
    split at h <;> simp only [List.nil_append, List.cons_append, List.mem_cons, List.not_mem_nil, or_false] at h
    all_goals
      rcases h with rfl | rfl | rfl
    all_goals exact ⟨_, rfl, fun _ _ e => by cases e <;> rfl⟩
  refine ⟨⟨fun a => ?_, hu, closedList_eq ho fun o h => ?_, ⟨_, ho, fun o h => ?_⟩⟩, gc⟩
  · rw [hg]
    split
    · subst a; rw [ht]; rfl
    split
    · subst a; rw [hc]; rfl
    · rfl
  · obtain ⟨it, rfl, -⟩ := hnew o h; rfl
  · obtain ⟨it, rfl, hsrc⟩ := hnew o h
    exact .inr ⟨stateOf_of_get gt, (partnerOf_of_get gt).trans htp, stateOf_of_get gc, hsrc⟩

/-- process_protocol: never hangs, keeps the invariant, closes nobody, relays only over an established bridge -/
theorem processProtocol_ok : ∀ (fuel : Nat) (σ : State) (c : Client) (s : Session), Inv σ → σ.get c = some s →
    s.readBuf.length < fuel → (s.state = .bridged → s.readBuf = []) →
    Inv (processProtocol fuel σ c) ∧ Calm c σ (processProtocol fuel σ c) := by
  intro fuel
  induction fuel with
  | zero => intro σ c s _ _ h; omega
  | succ fuel ih =>
    intro σ c s hI hc hlen hbr
    unfold processProtocol
    simp only [hc]
    by_cases hst : s.state = .awaitingIdentity
    · simp only [hst, if_true]
      by_cases hshort : s.readBuf.length < kPeerIdBytes
      · simp only [hshort, if_true]; exact ⟨hI, Calm.refl c σ⟩
      · simp only [hshort, if_false]
        obtain ⟨hcalm, hs'⟩ := calm_handleIdentityReady hI hc hst
        simp only [hs']
        -- the next iteration finds a bridged session with an empty buffer and stops
        have h0 := kPeerIdBytes_pos
        obtain ⟨f, rfl⟩ : ∃ f, fuel = f + 1 := ⟨fuel - 1, by omega⟩
        unfold processProtocol
        simp only [hs', splitLine, reduceCtorEq, if_false]
        exact ⟨inv_handleIdentityReady hI hc hst, hcalm⟩
    · simp only [hst, if_false]
      cases hsp : splitLine s.readBuf with
      | none => exact ⟨hI, Calm.refl c σ⟩
      | some p =>
        obtain ⟨line, rest⟩ := p
        simp only
        have hnb : s.state ≠ .bridged := by
          intro e; rw [hbr e] at hsp; cases hsp
        have hrest := splitLine_length hsp
        -- the line has been taken out of the read buffer and handled: c is alive, its buffer is `rest`, it is not bridged
        have hm := mild_handleLine (σ.put c { s with readBuf := rest }) c (stripCr line)
        have hIb := inv_handleLine c (stripCr line) (hI.put hc { s with readBuf := rest } rfl rfl rfl)
          (by simp [State.stateOf, hnb]) (by simp [State.stateOf, hst])
        have hdom := hm.dom c
        have hrb := hm.rb c
        have hnb' := hm.nb c
        simp only [get_put, if_true, Option.isSome_some, State.rbOf, Option.map_some, State.stateOf] at hdom hrb hnb'
        cases hcb : (handleLine (σ.put c { s with readBuf := rest }) c (stripCr line)).get c with
        | none => simp [hcb] at hdom
        | some sb =>
          simp only [hcb, Option.map_some, Option.some.injEq] at hrb hnb'
          obtain ⟨hI', hcalm'⟩ := ih _ c sb hIb hcb (by rw [hrb]; omega) (fun e => absurd (hnb' e) hnb)
          exact ⟨hI', (Calm.of_mild hm hcalm').after_put hc _⟩

end EphVerif.Relay
