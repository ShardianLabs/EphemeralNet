/-
C10: the byte arithmetic of Shamir.cpp as a Mathlib `Field`.
-/
import Mathlib.Algebra.Field.Defs
import EphVerif.Lemmas.C10Field

namespace EphVerif.C10L
open EphVerif.Shamir

structure GF256 where
  val : Nat
  lt : val < 256
deriving DecidableEq

namespace GF256

theorem ext {a b : GF256} (h : a.val = b.val) : a = b := by
  cases a; cases b; simp_all

def ofNat (a : Nat) : GF256 := ⟨a % 256, Nat.mod_lt _ (by decide)⟩

instance : Zero GF256 := ⟨⟨0, by decide⟩⟩
instance : One GF256 := ⟨⟨1, by decide⟩⟩
instance : Add GF256 := ⟨fun a b => ⟨gfAdd a.val b.val, xor_lt a.lt b.lt⟩⟩
instance : Neg GF256 := ⟨fun a => a⟩
instance : Mul GF256 := ⟨fun a b => ⟨gfMul a.val b.val, gfMul_lt _ _⟩⟩
instance : Inv GF256 := ⟨fun a => ⟨gfInv a.val, gfInv_lt _⟩⟩

@[simp] theorem val_zero : (0 : GF256).val = 0 := rfl
@[simp] theorem val_one : (1 : GF256).val = 1 := rfl
@[simp] theorem val_add (a b : GF256) : (a + b).val = a.val ^^^ b.val := rfl
@[simp] theorem val_mul (a b : GF256) : (a * b).val = gfMul a.val b.val := rfl
@[simp] theorem val_inv (a : GF256) : (a⁻¹).val = gfInv a.val := rfl
@[simp] theorem neg_eq (a : GF256) : -a = a := rfl

instance : Field GF256 where
  add_assoc a b c := ext (Nat.xor_assoc ..)
  zero_add a := ext (Nat.zero_xor _)
  add_zero a := ext (Nat.xor_zero _)
  add_comm a b := ext (Nat.xor_comm ..)
  neg_add_cancel a := ext (Nat.xor_self _)
  nsmul := nsmulRec
  zsmul := zsmulRec
  mul_assoc a b c := ext (gfMul_assoc ..)
  one_mul a := ext (one_gfMul a.lt)
  mul_one a := ext (gfMul_one a.lt)
  left_distrib a b c := ext (gfMul_xor a.lt b.lt c.lt)
  right_distrib a b c := ext (xor_gfMul a.lt b.lt c.lt)
  zero_mul a := ext (zero_gfMul a.val)
  mul_zero a := ext (gfMul_zero a.val)
  mul_comm a b := ext (gfMul_comm ..)
  exists_pair_ne := ⟨0, 1, by decide⟩
  mul_inv_cancel a ha := ext (gfMul_gfInv a.lt (fun h => ha (ext h)))
  inv_zero := ext gfInv_zero
  nnqsmul := _
  qsmul := _

end GF256
end EphVerif.C10L
