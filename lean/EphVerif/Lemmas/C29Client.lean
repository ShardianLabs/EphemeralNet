/-
The client's header loop run over what `send_response` emits for one field, for the
PAYLOAD-LENGTH entry and for a whole field list (C29); the responses the property speaks of
(`C29.Emittable`) emit such a list.
-/
import EphVerif.Lemmas.C29Esc

namespace EphVerif.Control

/-- what the proofs need of a key the daemon emits; every key over `[A-Z_-]+` other than STATUS and
    PAYLOAD-LENGTH qualifies (`keyOk_of_class`) -/
structure KeyOk (k : Bytes) : Prop where
  clean : ∀ c ∈ k, c ≠ 58 ∧ c ≠ 10 ∧ c ≠ 13
  noTab : k.head? ≠ some 9
  upper : toUpper k = k
  notStatus : k ≠ ascii "STATUS"
  notPL : k ≠ ascii "PAYLOAD-LENGTH"

def LinesOk (M : Nat) (k v : Bytes) : Prop := ∀ l ∈ splitBy 10 (k ++ 58 :: encodeValue v) [], l.length ≤ M

/-- every physical line of the encoded value `v` is within `M`, the first one counted with what stands
    before the value on it (`p`: the key and its colon, or the TAB of a continuation line) -/
def ShortLines (M : Nat) (p v : Bytes) : Prop := ∀ l ∈ splitBy 10 (p ++ encodeValue v) [], l.length ≤ M

theorem linesOk_iff {M : Nat} {k v : Bytes} : LinesOk M k v ↔ ShortLines M (k ++ [58]) v := by
  rw [LinesOk, ShortLines, List.append_assoc, List.singleton_append]

theorem noLF_append_escSeg {p s : Bytes} (hp : NoLF p) (hs : NoLF s) : NoLF (p ++ escSeg s) :=
  fun c hc => (List.mem_append.mp hc).elim (hp c) fun h => (escSeg_clean hs c h).1

theorem shortLines_noLF {M : Nat} {p s : Bytes} (hp : NoLF p) (hs : NoLF s) :
    ShortLines M p s ↔ (p ++ escSeg s).length ≤ M := by
  rw [ShortLines, encodeValue_noLF hs, splitBy_noSep 10 _ [] (noLF_append_escSeg hp hs), List.forall_mem_singleton]
  rfl

theorem shortLines_lf {M : Nat} {p s : Bytes} (v : Bytes) (hp : NoLF p) (hs : NoLF s) :
    ShortLines M p (s ++ 10 :: v) ↔ (p ++ escSeg s).length ≤ M ∧ ShortLines M [9] v := by
  rw [ShortLines, encodeValue_append_lf s v hs, ← List.append_assoc, splitBy_append 10 _ _ [] (noLF_append_escSeg hp hs),
    List.forall_mem_cons]
  rfl

theorem seg_induction {P : Bytes → Prop} (line : ∀ s, NoLF s → P s)
    (more : ∀ s v, NoLF s → P v → P (s ++ 10 :: v)) (v : Bytes) : P v := by
  suffices h : ∀ v pre, NoLF pre → P (pre ++ v) from h v [] nofun
  intro v
  induction v with
  | nil => intro pre hpre; rw [List.append_nil]; exact line pre hpre
  | cons c v ih =>
    intro pre hpre
    by_cases hc : c = 10
    · subst hc; exact more pre v hpre (ih [] nofun)
    · rw [List.append_cons]
      exact ih _ fun d hd => (List.mem_append.mp hd).elim (hpre d) fun h => List.mem_singleton.mp h ▸ hc

/-- a line that starts with TAB continues the field read last: LF and the decoded rest are appended to it -/
theorem clientLine_cont (k s : Bytes) (st : ClientState) (hc : st.cont = some k) :
    clientLine st (9 :: escSeg s) = .next { st with fields := appendToField st.fields k (10 :: s) } := by
  unfold clientLine
  rw [if_pos (show (9 :: escSeg s).head? = some 9 from rfl), hc]
  simp only [List.drop_succ_cons, List.drop_zero, decodeValue_escSeg]

theorem cont_line (M : Nat) (s rest k : Bytes) (st : ClientState) (hs : NoLF s) (hc : st.cont = some k)
    (hlen : (9 :: escSeg s).length ≤ M) :
    lineLoop M clientLine (9 :: (escSeg s ++ 10 :: rest)) [] 0 st =
      lineLoop M clientLine rest [] 0 { st with fields := appendToField st.fields k (10 :: s) } := by
  have h := lineLoop_clean_line M clientLine (9 :: escSeg s) rest st
    (fun c h => (List.mem_cons.mp h).elim (fun h => h ▸ by decide) (escSeg_clean hs c)) (List.cons_ne_nil _ _) hlen
  rw [List.cons_append] at h
  rw [h, clientLine_cont k s st hc]

theorem cont_lines (M : Nat) (rest k : Bytes) (v : Bytes) : ∀ (st : ClientState), st.cont = some k → ShortLines M [9] v →
    lineLoop M clientLine (9 :: (encodeValue v ++ 10 :: rest)) [] 0 st =
      lineLoop M clientLine rest [] 0 { st with fields := appendToField st.fields k (10 :: v) } := by
  have htab : NoLF [9] := fun c hc => List.mem_singleton.mp hc ▸ by decide
  induction v using seg_induction with
  | line s hs =>
    intro st hc hlen
    rw [encodeValue_noLF hs]
    exact cont_line M s rest k st hs hc ((shortLines_noLF htab hs).mp hlen)
  | more s v hs ih =>
    intro st hc hlen
    obtain ⟨hfirst, hmore⟩ := (shortLines_lf v htab hs).mp hlen
    rw [encodeValue_append_lf s v hs, List.append_assoc, List.cons_append, List.cons_append,
      cont_line M s _ k st hs hc hfirst, ih { st with fields := appendToField st.fields k (10 :: s) } hc hmore]
    simp only [appendToField_twice, List.cons_append]

theorem clientLine_first (k s : Bytes) (st : ClientState) (hk : KeyOk k) :
    clientLine st (k ++ 58 :: escSeg s) = .next { st with fields := setField st.fields k s, cont := some k } := by
  have hhead : (k ++ 58 :: escSeg s).head? ≠ some 9 := by
    cases hk' : k with
    | nil => simp
    | cons a t => have := hk.noTab; rw [hk'] at this; simpa using this
  unfold clientLine
  rw [if_neg hhead, splitColon_append k _ fun c hc => (hk.clean c hc).1]
  simp only [hk.upper, decodeValue_escSeg, hk.notStatus, hk.notPL, ↓reduceIte]

theorem KeyOk.colon_clean {k : Bytes} (hk : KeyOk k) : ∀ c ∈ k ++ [58], c ≠ 10 ∧ c ≠ 13 := fun c hc =>
  (List.mem_append.mp hc).elim (fun h => (hk.clean c h).2) fun h => List.mem_singleton.mp h ▸ by decide

theorem first_line (M : Nat) (k s rest : Bytes) (st : ClientState) (hk : KeyOk k) (hs : NoLF s)
    (hlen : (k ++ 58 :: escSeg s).length ≤ M) :
    lineLoop M clientLine (k ++ 58 :: (escSeg s ++ 10 :: rest)) [] 0 st =
      lineLoop M clientLine rest [] 0 { st with fields := setField st.fields k s, cont := some k } := by
  have h := lineLoop_clean_line M clientLine (k ++ 58 :: escSeg s) rest st (by
    rw [← List.singleton_append, ← List.append_assoc]
    exact fun c hc => (List.mem_append.mp hc).elim (hk.colon_clean c) (escSeg_clean hs c)) (by simp) hlen
  rw [List.append_assoc, List.cons_append] at h
  rw [h, clientLine_first k s st hk]

theorem field_lines (M : Nat) (k v rest : Bytes) (st : ClientState) (hk : KeyOk k) (hl : LinesOk M k v) :
    lineLoop M clientLine (fieldLine (k, v) ++ rest) [] 0 st =
      lineLoop M clientLine rest [] 0 { st with fields := setField st.fields k v, cont := some k } := by
  have hkey := hk.colon_clean
  rw [linesOk_iff] at hl
  have hform : fieldLine (k, v) ++ rest = k ++ 58 :: (encodeValue v ++ 10 :: rest) := by simp [fieldLine]
  rw [hform]
  induction v using seg_induction with
  | line s hs =>
    rw [encodeValue_noLF hs]
    exact first_line M k s rest st hk hs (by simpa using (shortLines_noLF (fun c hc => (hkey c hc).1) hs).mp hl)
  | more s v hs =>
    obtain ⟨hfirst, hmore⟩ := (shortLines_lf v (fun c hc => (hkey c hc).1) hs).mp hl
    rw [encodeValue_append_lf s v hs, List.append_assoc, List.cons_append, List.cons_append,
      first_line M k s _ st hk hs (by simpa using hfirst), cont_lines M rest k v _ rfl hmore]
    simp only [appendToField_setField]

theorem LinesOk.of_plain {M : Nat} {k v : Bytes} (hk : NoLF k) (hv : ∀ c ∈ v, c ≠ 10 ∧ c ≠ 13 ∧ c ≠ 92)
    (hlen : k.length + 1 + v.length ≤ M) : LinesOk M k v := by
  rw [linesOk_iff, shortLines_noLF
    (fun c hc => (List.mem_append.mp hc).elim (hk c) fun h => List.mem_singleton.mp h ▸ by decide) fun c hc => (hv c hc).1,
    escSeg_id fun c hc => ⟨(hv c hc).2.2, (hv c hc).2.1⟩, List.length_append, List.length_append, List.length_singleton]
  exact hlen

theorem pl_line (M n : Nat) (rest : Bytes) (st : ClientState) (hn : n < 18446744073709551616) (hM : 35 ≤ M) :
    lineLoop M clientLine (fieldLine (ascii "PAYLOAD-LENGTH", toDec n) ++ rest) [] 0 st =
      lineLoop M clientLine rest [] 0
        { st with fields := setField st.fields (ascii "PAYLOAD-LENGTH") (toDec n), payloadLength := some n, cont := none } := by
  have hd := toDec_clean n
  have henc : encodeValue (toDec n) = toDec n := by
    rw [encodeValue_noLF fun c hc => (hd c hc).1, escSeg_id fun c hc => ⟨(hd c hc).2.2.1, (hd c hc).2.1⟩]
  have hkey : (∀ c ∈ ascii "PAYLOAD-LENGTH" ++ [58], c ≠ 10 ∧ c ≠ 13) ∧ (ascii "PAYLOAD-LENGTH").length = 14 := by decide
  have hline : fieldLine (ascii "PAYLOAD-LENGTH", toDec n) ++ rest = (ascii "PAYLOAD-LENGTH" ++ 58 :: toDec n) ++ 10 :: rest := by
    simp [fieldLine, henc]
  rw [hline, lineLoop_clean_line M clientLine _ rest st _ (by simp)
    (by have := toDec_len20 hn; simp only [List.length_append, List.length_cons, hkey.2]; omega)]
  · have hhead : (ascii "PAYLOAD-LENGTH" ++ 58 :: toDec n).head? = some 80 := rfl
    unfold clientLine
    rw [if_neg (by rw [hhead]; decide), splitColon_append _ _ (by decide)]
    simp only [show toUpper (ascii "PAYLOAD-LENGTH") = ascii "PAYLOAD-LENGTH" by decide,
      show ascii "PAYLOAD-LENGTH" ≠ ascii "STATUS" by decide, ↓reduceIte,
      decodeValue_id (toDec n) fun c hc => (hd c hc).2.2.1, parseU64_toDec n hn]
  · rw [← List.singleton_append, ← List.append_assoc]
    exact fun c hc => (List.mem_append.mp hc).elim (hkey.1 c) fun h => ⟨(hd c h).1, (hd c h).2.1⟩

/-- an entry of the emitted list: an ordinary field, or the PAYLOAD-LENGTH entry `send_response` adds
    for a payload of `n` bytes -/
def EntryOk (M n : Nat) (e : Bytes × Bytes) : Prop :=
  (KeyOk e.1 ∧ LinesOk M e.1 e.2) ∨ e = (ascii "PAYLOAD-LENGTH", toDec n)

theorem fields_loop (M : Nat) (hM : 35 ≤ M) (n : Nat) (hn : n < 18446744073709551616) :
    ∀ (emitted : Fields) (payload : Bytes) (st : ClientState), (∀ e ∈ emitted, EntryOk M n e) →
    ∃ c, lineLoop M clientLine (emitted.flatMap fieldLine ++ 10 :: payload) [] 0 st =
      ({ st with fields := emitted.foldl (fun fs e => setField fs e.1 e.2) st.fields,
                 payloadLength := if emitted.any (·.1 == ascii "PAYLOAD-LENGTH") then some n else st.payloadLength,
                 cont := c }, .blank, payload)
  | [], payload, st, _ => ⟨st.cont, by simp [lineLoop]⟩
  | e :: emitted, payload, st, h => by
    have hrest : ∀ e' ∈ emitted, EntryOk M n e' := fun e' he' => h e' (List.mem_cons_of_mem _ he')
    rw [List.flatMap_cons, List.append_assoc]
    obtain ⟨k, v⟩ := e
    rcases h (k, v) List.mem_cons_self with ⟨(hk : KeyOk k), (hl : LinesOk M k v)⟩ | he
    · rw [field_lines M k v _ st hk hl]
      obtain ⟨c, hc⟩ := fields_loop M hM n hn emitted payload { st with fields := setField st.fields k v, cont := some k } hrest
      exact ⟨c, by rw [hc]; simp only [List.foldl_cons, List.any_cons, beq_false_of_ne hk.notPL, Bool.false_or]⟩
    · cases he
      rw [pl_line M n _ st hn hM]
      obtain ⟨c, hc⟩ := fields_loop M hM n hn emitted payload
        { st with fields := setField st.fields (ascii "PAYLOAD-LENGTH") (toDec n), payloadLength := some n, cont := none } hrest
      exact ⟨c, by rw [hc]; simp⟩

end EphVerif.Control

namespace EphVerif.C29
open EphVerif.Control

/-- a response `send_response` can be given -/
structure Emittable (limit : Nat) (r : Response) : Prop where
  keys : ∀ e ∈ r.fields, KeyOk e.1
  lines : ∀ e ∈ r.fields, LinesOk clientMaxLine e.1 e.2
  nodup : (r.fields.map (·.1)).Nodup
  payloadLimit : r.payload.length ≤ limit
  payloadU64 : r.payload.length < 18446744073709551616
  noPayload : r.hasPayload = false → r.payload = []

theorem Emittable.wireFields {limit : Nat} {r : Response} (he : Emittable limit r) :
    (∀ e ∈ r.wireFields, EntryOk clientMaxLine r.payload.length e) ∧ (r.wireFields.map (·.1)).Nodup ∧
    r.wireFields.any (·.1 == ascii "PAYLOAD-LENGTH") = r.hasPayload := by
  have hnot : ∀ e ∈ r.fields, e.1 ≠ ascii "PAYLOAD-LENGTH" := fun e h => (he.keys e h).notPL
  have hfields : ∀ e ∈ r.fields, EntryOk clientMaxLine r.payload.length e := fun e h => .inl ⟨he.keys e h, he.lines e h⟩
  have hany : r.fields.any (·.1 == ascii "PAYLOAD-LENGTH") = false :=
    List.any_eq_false.mpr fun e h => by simpa using hnot e h
  unfold Response.wireFields
  cases r.hasPayload
  · exact ⟨hfields, he.nodup, hany⟩
  · rw [if_pos rfl, setField_fresh hnot]
    refine ⟨fun e h => ?_, ?_, by rw [List.any_append, hany]; rfl⟩
    · exact (List.mem_append.mp h).elim (hfields e) fun h => .inr (List.mem_singleton.mp h)
    · rw [List.map_append, List.nodup_append]
      refine ⟨he.nodup, by simp, fun a ha b hb => ?_⟩
      obtain ⟨p, hp, rfl⟩ := List.mem_map.mp ha
      rw [List.mem_singleton.mp hb]
      exact hnot p hp

end EphVerif.C29
