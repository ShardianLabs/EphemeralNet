/-
C10: secrecy of the whole secret.  With the consumption pattern "a fresh set of t-1 draws for every secret
byte" the draws of one `split` are in one-to-one correspondence with the coefficient matrix (bytes × (t-1)),
and for any t-1 distinct non-zero indices the map coefficient matrix ↦ all share bytes is a bijection.
With the pattern "one set of draws shared by all bytes" a single share determines `secret[i] ^ secret[j]`.
-/
import EphVerif.Lemmas.C10Sharing
import EphVerif.Lemmas.C10Secrecy

namespace EphVerif.C10L
open EphVerif.Shamir EphVerif.Gen.C10

/-- (T) the source calls the random device inside the per-byte loop. -/
theorem kDrawPerByte_eq : kDrawPerByte = true := by decide

def streamOf (k : Nat) (css : List (List Nat)) : Nat → Nat :=
  fun j => (css.getD (j / k) []).getD (j % k) 0

theorem drawIndex_true_div_mod {t d : Nat} (b : Nat) (hd : d < t - 1) :
    drawIndex true t b d / (t - 1) = b ∧ drawIndex true t b d % (t - 1) = d := by
  simp only [drawIndex, kDegreeStart_eq, if_true]
  rw [Nat.mul_comm, Nat.mul_add_div (by omega), Nat.mul_add_mod, Nat.div_eq_of_lt hd, Nat.mod_eq_of_lt hd]
  exact ⟨rfl, rfl⟩

theorem drawIndex_perByte_injective {t b d b' d' : Nat} (hd : d < t - 1) (hd' : d' < t - 1)
    (h : drawIndex true t b d = drawIndex true t b' d') : b = b' ∧ d = d' := by
  have e := drawIndex_true_div_mod b hd
  have e' := drawIndex_true_div_mod b' hd'
  rw [h] at e
  exact ⟨e.1.symm.trans e'.1, e.2.symm.trans e'.2⟩

theorem drawIndex_shared (t b b' d : Nat) : drawIndex false t b d = drawIndex false t b' d := rfl

theorem coeffsForP_true_streamOf {t : Nat} {css : List (List Nat)} {b : Nat}
    (hrow : (css.getD b []).length = t - 1) (hbytes : Bytes (css.getD b [])) :
    coeffsForP true (streamOf (t - 1) css) t b = css.getD b [] := by
  refine ext_getD 0 (by rw [coeffsForP_length, hrow]) fun d hd => ?_
  rw [coeffsForP_length] at hd
  have e := drawIndex_true_div_mod b hd
  rw [coeffsForP, kDegreeStart_eq, getD_map_of_lt _ _ _ (by rwa [List.length_range]), List.getElem_range, streamOf,
    e.1, e.2]
  exact Nat.mod_eq_of_lt (getD_lt hbytes d)

theorem shares_eq_iff_columns {t : Nat} {xs secret : List Nat} (hx : Bytes xs) {rd : Nat → Nat} {pb : Bool}
    {obs : List (List Nat)} (hol : obs.length = xs.length) (hob : ∀ o ∈ obs, o.length = secret.length) :
    xs.map (fun x => (mkShareP pb rd secret t x).value) = obs ↔
      ∀ b, b < secret.length →
        xs.map (fun x => evalPoly x (secret.getD b 0) (coeffsForP pb rd t b)) = obs.map (·.getD b 0) := by
  constructor
  · intro h b hb
    rw [← h, List.map_map]
    exact List.map_congr_left fun x hxm => (mkShareP_value_getD pb rd secret t (hx x hxm) hb).symm
  · intro h
    refine ext_getD [] (by rw [List.length_map, hol]) fun i hi => ?_
    have hi : i < xs.length := by rwa [List.length_map] at hi
    have hio : i < obs.length := hol ▸ hi
    rw [getD_map_of_lt _ _ _ hi, getD_of_lt [] hio]
    refine ext_getD 0 (by rw [mkShareP_value_length, hob _ (List.getElem_mem hio)]) fun b hb => ?_
    rw [mkShareP_value_length] at hb
    have := congrArg (·.getD i 0) (h b hb)
    rw [getD_map_of_lt _ _ _ hi, getD_map_of_lt _ _ _ hio] at this
    rw [mkShareP_value_getD pb rd secret t (hx _ (List.getElem_mem hi)) hb, this]

theorem secrecy_joint_core {t : Nat} {xs : List Nat} (hk : xs.length = t - 1) (hx : ∀ x ∈ xs, 1 ≤ x ∧ x ≤ 255)
    (hnd : xs.Nodup) {secret : List Nat} (hsec : Bytes secret) {obs : List (List Nat)} (hol : obs.length = t - 1)
    (hob : ∀ o ∈ obs, o.length = secret.length ∧ Bytes o) :
    ∃! css : List (List Nat), css.length = secret.length ∧ (∀ cs ∈ css, cs.length = t - 1 ∧ Bytes cs) ∧
      xs.map (fun x => (mkShareP true (streamOf (t - 1) css) secret t x).value) = obs := by
  have hxb : Bytes xs := fun x hx' => by have := hx x hx'; omega
  have hol' : obs.length = xs.length := hol.trans hk.symm
  -- byte `b`: exactly one coefficient vector explains column `b` of the observation
  refine (existsUnique_congr fun css => and_congr_right fun hl => ?_).1 (existsUnique_list [] secret.length fun b =>
    secrecy_core hx hnd (getD_lt hsec b) (vs := obs.map (·.getD b 0)) (by rw [List.length_map, hol'])
      (List.forall_mem_map.2 fun o ho => getD_lt (hob o ho).2 b))
  -- a matrix of the right shape explains the observation iff each row explains its column
  rw [forall_mem_iff_getD [], hl, shares_eq_iff_columns hxb hol' fun o ho => (hob o ho).1, ← forall₂_and]
  refine forall₂_congr fun b hb => ?_
  rw [hk, ← and_assoc]
  exact and_congr_right fun r => by rw [coeffsForP_true_streamOf r.1 r.2]

theorem evalPolyLoop_affine (x : Nat) : ∀ (cs : List Nat) (p r : Nat),
    evalPolyLoop x cs p r = r ^^^ evalPolyLoop x cs p 0
  | [], _, r => by simp [evalPolyLoop]
  | c :: cs, p, r => by
    rw [evalPolyLoop, evalPolyLoop, evalPolyLoop_affine x cs _ (gfAdd r _), evalPolyLoop_affine x cs _ (gfAdd 0 _)]
    simp only [gfAdd, Nat.zero_xor, Nat.xor_assoc]

theorem evalPoly_affine (x s : Nat) (cs : List Nat) : evalPoly x s cs = s ^^^ evalPoly x 0 cs :=
  evalPolyLoop_affine x cs 1 s

theorem coeffsForP_false (rd : Nat → Nat) (t b b' : Nat) : coeffsForP false rd t b = coeffsForP false rd t b' := rfl

end EphVerif.C10L
