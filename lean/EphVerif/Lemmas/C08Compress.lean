/-
C08: the generated tables equal the specification's, and the model's
`transform` / `digestOf` are the specification's `compress` / `digestBytes`.
-/
import EphVerif.Model.Sha256
import EphVerif.Lemmas.C08Eval

namespace EphVerif.C08
open EphVerif.Model.Sha256
open EphVerif.Spec.Sha256

def toSpec (w : Words8) : Hash := ⟨w.s0, w.s1, w.s2, w.s3, w.s4, w.s5, w.s6, w.s7⟩

theorem gen_K : Gen.C08.kRoundConstants = K := by decide
theorem gen_H0 : toSpec (Words8.ofList Gen.C08.initState) = H0 := by decide
theorem gen_blockSize : Gen.C08.blockSize = 64 := rfl
theorem gen_spaceBase : Gen.C08.spaceBase = 64 := rfl
theorem gen_terminator : Gen.C08.terminator = 0x80 := rfl
theorem gen_padThreshold : Gen.C08.padThreshold = 56 := rfl
theorem gen_lengthOffset : Gen.C08.lengthOffset = 56 := rfl
theorem gen_lengthOffset2 : Gen.C08.lengthOffset2 = 56 := rfl
theorem gen_lengthTopByte : Gen.C08.lengthTopByte = 7 := rfl
theorem gen_bitsPerByte : Gen.C08.bitsPerByte = 8 := rfl
theorem gen_hmacBlockSize : Gen.C08.hmacBlockSize = 64 := rfl
theorem gen_hmacDigestSize : Gen.C08.hmacDigestSize = 32 := rfl
theorem gen_opad : Gen.C08.opad = 0x5c := rfl
theorem gen_ipad : Gen.C08.ipad = 0x36 := rfl

/-- the generated rotation / shift amounts are those of FIPS 180-4 (4.4)–(4.7) -/
theorem gen_sigma :
    Gen.C08.big_sigma0 = (2, 13, 22) ∧ Gen.C08.big_sigma1 = (6, 11, 25) ∧
    Gen.C08.small_sigma0 = (7, 18, 3) ∧ Gen.C08.small_sigma1 = (17, 19, 10) := by decide

theorem rotr_eq (x n : UInt32) : rotr x n = ROTR n x := rfl
theorem ch_eq (x y z : UInt32) : ch x y z = Ch x y z := rfl
theorem maj_eq (x y z : UInt32) : maj x y z = Maj x y z := rfl
theorem bigSigma0_eq (x : UInt32) : Model.Sha256.bigSigma0 x = Spec.Sha256.bigSigma0 x := rfl
theorem bigSigma1_eq (x : UInt32) : Model.Sha256.bigSigma1 x = Spec.Sha256.bigSigma1 x := rfl
theorem smallSigma0_eq (x : UInt32) : Model.Sha256.smallSigma0 x = Spec.Sha256.smallSigma0 x := rfl
theorem smallSigma1_eq (x : UInt32) : Model.Sha256.smallSigma1 x = Spec.Sha256.smallSigma1 x := rfl

theorem readWords_eq (b : List UInt8) : readWords b = words b := by
  fun_induction readWords b with
  | case1 d0 d1 d2 d3 rest ih => simp only [words, ih]; rfl
  | case2 b h =>
    unfold words
    split
    · exact absurd rfl (h _ _ _ _ _)
    · rfl

theorem fillSchedule_eq (n : Nat) (s : List UInt32) : fillSchedule n s = Nat.repeat scheduleStep n s := by
  induction n generalizing s with
  | zero => rfl
  | succ n ih =>
    rw [C08Eval.repeat_succ_comm, fillSchedule, ih]
    simp only [scheduleStep, smallSigma0_eq, smallSigma1_eq]

theorem roundStep_eq (v : Words8) (k w : UInt32) : toSpec (roundStep v k w) = round (toSpec v) k w := rfl

theorem roundsLoop_eq (v : Words8) (ks ws : List UInt32) :
    toSpec (roundsLoop v ks ws) = rounds (toSpec v) ks ws := by
  fun_induction roundsLoop v ks ws with
  | case1 v k ks w ws ih => rw [ih, roundStep_eq, rounds]
  | case2 v ks ws h =>
    unfold rounds
    split
    · exact (h _ _ _ _ rfl rfl).elim
    · rfl

/-- `Sha256::transform` is the FIPS 180-4 §6.2.2 block computation -/
theorem transform_eq (st : Words8) (block : List UInt8) :
    toSpec (transform st block) = compress (toSpec st) block := by
  have h := roundsLoop_eq st K (schedule (words block))
  simp only [transform, compress, gen_K, gen_blockSize, fillSchedule_eq, readWords_eq, schedule] at h ⊢
  rw [← h]
  simp only [toSpec, addHash, UInt32.add_comm]

theorem and_ff_toUInt8 (v : UInt32) : (v &&& 0xFF).toUInt8 = v.toUInt8 := by
  rw [UInt32.toUInt8_and]
  have : (0xFF : UInt32).toUInt8 = -1 := by decide
  rw [this, UInt8.and_neg_one]

theorem writeBe32_eq (v : UInt32) : writeBe32 v = bytes32 v := by
  simp only [writeBe32, bytes32, and_ff_toUInt8]

theorem digestOf_eq (st : Words8) : digestOf st = digestBytes (toSpec st) := by
  simp only [digestOf, digestBytes, Words8.toList, List.flatMap_cons, List.flatMap_nil, writeBe32_eq, toSpec,
    List.append_nil, List.append_assoc]

end EphVerif.C08
