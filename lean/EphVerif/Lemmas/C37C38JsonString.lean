/-
Unfolding lemmas for the RFC 8259 string decoder of Spec/JsonString.lean, one per production of
the `char` grammar.  Shared by the C37 and C38 proofs.
-/
import EphVerif.Spec.JsonString

namespace EphVerif.JsonSpec

theorem prepend_some (p : List Nat) (r : Option (List Nat × List Nat)) :
    prepend (some p) r = r.map fun x => (p ++ x.1, x.2) := by
  cases r with
  | none => rfl
  | some x => cases x; rfl

theorem prepend_eq_some {pre : Option (List Nat)} {r : Option (List Nat × List Nat)} {out rest : List Nat}
    (h : prepend pre r = some (out, rest)) :
    ∃ p s, pre = some p ∧ r = some (s, rest) ∧ out = p ++ s := by
  cases pre with
  | none => simp [prepend] at h
  | some p =>
    cases r with
    | none => simp [prepend] at h
    | some x =>
      obtain ⟨s, rest'⟩ := x
      simp only [prepend, Option.some.injEq, Prod.mk.injEq] at h
      exact ⟨p, s, rfl, by rw [h.2], h.1.symm⟩

theorem decodeStr_nil (strict : Bool) : decodeStr strict [] = none := by
  rw [decodeStr.eq_def]

theorem decodeStr_quote (strict : Bool) (rest : List Nat) : decodeStr strict (0x22 :: rest) = some ([], rest) := by
  rw [decodeStr.eq_def]; simp

theorem decodeStr_plain (strict : Bool) (b : Nat) (rest : List Nat) (h1 : b ≠ 0x22) (h2 : b ≠ 0x5C)
    (h3 : strict = true → 0x20 ≤ b) :
    decodeStr strict (b :: rest) = prepend (some [b]) (decodeStr strict rest) := by
  rw [decodeStr.eq_def]
  have : ¬ ((strict && decide (b < 32)) = true) := by
    cases strict with
    | false => simp
    | true => have := h3 rfl; simp; omega
  simp [h1, h2, this]

theorem decodeStr_simple (strict : Bool) (e v : Nat) (rest : List Nat) (h : simpleEscape e = some v) :
    decodeStr strict (0x5C :: e :: rest) = prepend (some [v]) (decodeStr strict rest) := by
  have hu : e ≠ 0x75 := by
    intro he; subst he; simp [simpleEscape] at h
  rw [decodeStr.eq_def]
  simp [hu, h]

theorem decodeStr_bmp (strict : Bool) (h1 h2 h3 h4 u : Nat) (rest : List Nat)
    (hx : hex4 h1 h2 h3 h4 = some u) (hh : isHighSurrogate u = false) (hl : isLowSurrogate u = false) :
    decodeStr strict (0x5C :: 0x75 :: h1 :: h2 :: h3 :: h4 :: rest) = prepend (utf8Encode u) (decodeStr strict rest) := by
  rw [decodeStr.eq_def]
  simp [hx, hh, hl]

theorem decodeStr_pair (strict : Bool) (h1 h2 h3 h4 l1 l2 l3 l4 u lo : Nat) (rest : List Nat)
    (hx : hex4 h1 h2 h3 h4 = some u) (hh : isHighSurrogate u = true)
    (lx : hex4 l1 l2 l3 l4 = some lo) (ll : isLowSurrogate lo = true) :
    decodeStr strict (0x5C :: 0x75 :: h1 :: h2 :: h3 :: h4 :: 0x5C :: 0x75 :: l1 :: l2 :: l3 :: l4 :: rest) =
      prepend (utf8Encode (combineSurrogates u lo)) (decodeStr strict rest) := by
  rw [decodeStr.eq_def]
  simp [hx, hh, lx, ll]

theorem bareFree_cons_plain (b : Nat) (rest : List Nat) (h1 : b ≠ 0x22) (h2 : b ≠ 0x5C) :
    bareFree (b :: rest) = bareFree rest := by
  rw [bareFree.eq_def]; simp [h1, h2]

theorem bareFree_escape (e : Nat) (rest : List Nat) : bareFree (0x5C :: e :: rest) = bareFree rest := by
  rw [bareFree.eq_def]; simp

end EphVerif.JsonSpec
