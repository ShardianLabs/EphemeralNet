/-
What one request does (C28): which of the two rate limiters a handler consults and how its reply
shows it, and what an OK_STORE reply implies (C28.admit).
-/
import EphVerif.Lemmas.C27Lines

namespace EphVerif.Control

/-- reply codes of a STORE that has consumed a slot of the STORE bucket -/
def storePassCode (code : String) : Bool :=
  code == "OK_STORE" || code == "ERR_STORE_POW_REQUIRED" || code == "ERR_STORE_POW_INVALID" || code == "ERR_STORE_POW_LOCKED"

/-- replies of a FETCH that has consumed a slot of the streamed-FETCH bucket -/
def fetchPassReply (r : Reply) : Bool :=
  (r.code == "OK_FETCH" && r.streamed.isSome) || r.code == "ERR_FETCH_PAYLOAD_TOO_LARGE"

def storePass (r : Option Reply) : Bool := match r with | some r => storePassCode r.code | none => false
def fetchPass (r : Option Reply) : Bool := match r with | some r => fetchPassReply r | none => false

def slotCode (code : String) : Bool :=
  storePassCode code || code == "OK_FETCH" || code == "ERR_FETCH_PAYLOAD_TOO_LARGE"

/-! The three predicates on reply codes as propositions about a variable code.  On a literal code `simp`
then decides each equation between literals from the first character that differs, where evaluating
`==` would compare the two strings as UTF-8 byte arrays in the kernel.  Every bare `by simp` argument of
`Handled.refuse` / `.guard` / `.same` below is such a goal: `slotCode "<the branch's error code>" = false`. -/

theorem storePassCode_iff {c : String} : storePassCode c = true ↔
    c = "OK_STORE" ∨ c = "ERR_STORE_POW_REQUIRED" ∨ c = "ERR_STORE_POW_INVALID" ∨ c = "ERR_STORE_POW_LOCKED" := by
  simp [storePassCode, or_assoc]

theorem storePassCode_eq_false_iff {c : String} : storePassCode c = false ↔
    c ≠ "OK_STORE" ∧ c ≠ "ERR_STORE_POW_REQUIRED" ∧ c ≠ "ERR_STORE_POW_INVALID" ∧ c ≠ "ERR_STORE_POW_LOCKED" := by
  simp [storePassCode, and_assoc]

theorem slotCode_eq_false_iff {c : String} : slotCode c = false ↔
    storePassCode c = false ∧ c ≠ "OK_FETCH" ∧ c ≠ "ERR_FETCH_PAYLOAD_TOO_LARGE" := by
  simp [slotCode, and_assoc]

theorem fetchPassReply_eq_false_iff {r : Reply} : fetchPassReply r = false ↔
    (r.code = "OK_FETCH" → r.streamed = none) ∧ r.code ≠ "ERR_FETCH_PAYLOAD_TOO_LARGE" := by
  simp [fetchPassReply]

theorem fetchPassReply_iff {r : Reply} : fetchPassReply r = true ↔
    (r.code = "OK_FETCH" ∧ r.streamed.isSome = true) ∨ r.code = "ERR_FETCH_PAYLOAD_TOO_LARGE" := by
  simp [fetchPassReply]

attribute [local simp] storePassCode_iff storePassCode_eq_false_iff slotCode_eq_false_iff fetchPassReply_iff
  fetchPassReply_eq_false_iff

theorem readOnlyCode_not_slot {command : Bytes} {code : String} (h : readOnlyCode command = some code) :
    slotCode code = false := by
  have step : ∀ {c : Prop} [Decidable c] {a : String} {r : Option String},
      (if c then some a else r) = some code → code = a ∨ r = some code := by
    intro c _ a r h
    by_cases hc : c
    · rw [if_pos hc] at h; exact .inl (Option.some.inj h).symm
    · rw [if_neg hc] at h; exact .inr h
  unfold readOnlyCode at h
  iterate 6 (rcases step h with rfl | h; · simp)
  cases h

theorem parseErrorCode_not_slot {code : String} (h : parseErrorCode code) : slotCode code = false := by
  rcases h with rfl | rfl | rfl | rfl <;> simp

/-- a limiter whose answer on the bucket of `i` would be `lim` was not consulted (bucket as it was,
    `pass = false`), or was consulted once with `pass` telling whether it let the request through -/
def Consulted (lim : Bool × List Int) (i : Identity) (h h' : Identity → List Int) (pass : Bool) : Prop :=
  (h' = h ∧ pass = false) ∨ (h' = setHist h i lim.2 ∧ pass = lim.1)

section
variable {ν : Type} (sha : Bytes → Bytes) (ops : NodeOps ν) (cfg : Config)

/-- what an OK_STORE reply `r` to `req` stands for: PAYLOAD-LENGTH present, payload within the cap, the TTL inside the
    window, `store_chunk` called with exactly this payload, TTL and hint, and (PoW enabled) a valid STORE-POW nonce -/
def Admitted (req : Request) (r : Reply) : Prop :=
  req.payloadHeaderPresent = true ∧ req.payload.length ≤ cfg.cap ∧
  ∃ ttl : Int, requestTtl cfg req = some ttl ∧ cfg.minTtl ≤ ttl ∧ ttl ≤ cfg.maxTtl ∧
    r.stored = some (req.payload, ttl, (getField req.fields (ascii "PATH")).bind Pow.sanitizeFilenameHint) ∧
    (cfg.powDifficulty > 0 → ∃ v nonce, getField req.fields (ascii "STORE-POW") = some v ∧ parseU64 v = some nonce ∧
      Pow.storePowValid sha
        { chunkId := sha req.payload, payloadSize := req.payload.length,
          filenameHint := ((getField req.fields (ascii "PATH")).bind Pow.sanitizeFilenameHint).getD [] }
        nonce cfg.powDifficulty = true)

/-- what one call of `handle_request` with result `r` does to the two rate-limit histories: each limiter is consulted at
    most once, on the bucket of `addr`, and the reply is a slot-consuming one exactly if it let the request through;
    an OK_STORE reply is `Admitted` -/
structure Handled (now : Int) (addr : Bytes) (st : ServerState ν) (req : Request) (r : ServerState ν × Reply) : Prop where
  store : Consulted (allowStore now (st.storeHist (rateIdentity cfg addr))) (rateIdentity cfg addr)
    st.storeHist r.1.storeHist (storePassCode r.2.code)
  fetch : Consulted (allowFetch now (st.fetchHist (rateIdentity cfg addr))) (rateIdentity cfg addr)
    st.fetchHist r.1.fetchHist (fetchPassReply r.2)
  admitted : r.2.code = "OK_STORE" → Admitted sha cfg req r.2

/-- a reply whose code is not a slot code counts for neither limiter -/
theorem not_pass_of_not_slot {rep : Reply} (hc : slotCode rep.code = false) :
    storePassCode rep.code = false ∧ fetchPassReply rep = false := by
  obtain ⟨hstore, hfetch, hlarge⟩ := slotCode_eq_false_iff.mp hc
  exact ⟨hstore, fetchPassReply_eq_false_iff.mpr ⟨fun h => absurd h hfetch, hlarge⟩⟩

variable {sha cfg} in
theorem Handled.same {now : Int} {addr : Bytes} {st st' : ServerState ν} {req : Request} {rep : Reply}
    (hs : st'.storeHist = st.storeHist) (hf : st'.fetchHist = st.fetchHist) (hc : slotCode rep.code = false) :
    Handled sha cfg now addr st req (st', rep) := by
  obtain ⟨hstore, hfetch⟩ := not_pass_of_not_slot hc
  exact ⟨.inl ⟨hs, hstore⟩, .inl ⟨hf, hfetch⟩, fun hok => absurd hok (storePassCode_eq_false_iff.mp hstore).1⟩

variable {sha cfg} in
theorem Handled.refuse {now : Int} {addr : Bytes} {st : ServerState ν} {req : Request} {code : String}
    (hc : slotCode code = false) : Handled sha cfg now addr st req (st, err code) :=
  .same rfl rfl hc

variable {sha cfg} in
theorem Handled.guard {now : Int} {addr : Bytes} {st : ServerState ν} {req : Request} {c : Prop} [Decidable c]
    {code : String} {rest : ServerState ν × Reply} (hc : slotCode code = false)
    (h : ¬c → Handled sha cfg now addr st req rest) :
    Handled sha cfg now addr st req (if c then (st, err code) else rest) :=
  iteInduction (fun _ => .refuse hc) h

/-- `handle_store` behind the limiter (`storeAdmitted`, TTL already `ttl`): the histories are not touched again, the
    reply counts as a STORE slot and not as a FETCH one, and OK_STORE carries the last two clauses of `Admitted` -/
structure PastLimiter (st : ServerState ν) (req : Request) (ttl : Int) (r : ServerState ν × Reply) : Prop where
  storeHist : r.1.storeHist = st.storeHist
  fetchHist : r.1.fetchHist = st.fetchHist
  pass : storePassCode r.2.code = true
  noFetch : fetchPassReply r.2 = false
  ok : r.2.code = "OK_STORE" →
    r.2.stored = some (req.payload, ttl, (getField req.fields (ascii "PATH")).bind Pow.sanitizeFilenameHint) ∧
    (cfg.powDifficulty > 0 → ∃ v nonce, getField req.fields (ascii "STORE-POW") = some v ∧ parseU64 v = some nonce ∧
      Pow.storePowValid sha
        { chunkId := sha req.payload, payloadSize := req.payload.length,
          filenameHint := ((getField req.fields (ascii "PATH")).bind Pow.sanitizeFilenameHint).getD [] }
        nonce cfg.powDifficulty = true)

variable {sha cfg} in
theorem PastLimiter.powFail {st st' : ServerState ν} {req : Request} {ttl : Int} {locked : Bool} {plain : String}
    (h : plain = "ERR_STORE_POW_REQUIRED" ∨ plain = "ERR_STORE_POW_INVALID")
    (hs : st'.storeHist = st.storeHist) (hf : st'.fetchHist = st.fetchHist) :
    PastLimiter sha cfg st req ttl (st', err (if locked then "ERR_STORE_POW_LOCKED" else plain)) := by
  have : ∀ code, code = "ERR_STORE_POW_LOCKED" ∨ code = "ERR_STORE_POW_REQUIRED" ∨ code = "ERR_STORE_POW_INVALID" →
      storePassCode code = true ∧ fetchPassReply (err code) = false ∧ code ≠ "OK_STORE" := by
    rintro _ (rfl | rfl | rfl) <;> simp [err]
  obtain ⟨h1, h2, h3⟩ := this (if locked then "ERR_STORE_POW_LOCKED" else plain) (by cases locked <;> simp [h])
  exact ⟨hs, hf, h1, h2, fun hok => absurd hok h3⟩

theorem storeAdmitted_pastLimiter (now : Int) (ident : Identity) (st : ServerState ν) (req : Request) (ttl : Int) :
    PastLimiter sha cfg st req ttl (storeAdmitted sha ops cfg now ident st req ttl) := by
  unfold storeAdmitted
  refine iteInduction (fun hd => ?_) fun hd => ⟨rfl, rfl, by simp, by simp, fun _ => ⟨rfl, fun h => absurd h hd⟩⟩
  cases hp : getField req.fields (ascii "STORE-POW") with
  | none => exact .powFail (.inl rfl) rfl rfl
  | some v =>
    dsimp only
    cases hn : parseU64 v with
    | none => exact .powFail (.inr rfl) rfl rfl
    | some nonce =>
      dsimp only
      exact iteInduction (fun hv => ⟨rfl, rfl, by simp, by simp, fun _ => ⟨rfl, fun _ => ⟨v, nonce, hp, hn, hv⟩⟩⟩)
        fun _ => .powFail (.inr rfl) rfl rfl

theorem handleStore_handled (now : Int) (addr : Bytes) (st : ServerState ν) (req : Request) :
    Handled sha cfg now addr st req (handleStore sha ops cfg now addr st req) := by
  unfold handleStore
  refine .guard (by simp) fun _ => .guard (by simp) fun hhdr => .guard (by simp) fun hcap => ?_
  cases httl : requestTtl cfg req with
  | none => exact .refuse (by simp)
  | some ttl =>
    refine .guard (by simp) fun hrange => ?_
    rw [ttlOutOfRange, Bool.or_eq_true, not_or, Bool.not_eq_true, Bool.not_eq_true] at hrange
    have h := storeAdmitted_pastLimiter sha ops cfg now (rateIdentity cfg addr)
      { st with storeHist := setHist st.storeHist (rateIdentity cfg addr)
                  (allowStore now (st.storeHist (rateIdentity cfg addr))).2 } req ttl
    refine iteInduction (fun hl => ?_) fun hl => ?_
    · have hl : (allowStore now (st.storeHist (rateIdentity cfg addr))).1 = false := by simpa using hl
      exact ⟨.inr ⟨rfl, by rw [hl]; simp [err]⟩, .inl ⟨rfl, rfl⟩, fun h => absurd h (by simp [err])⟩
    · refine ⟨.inr ⟨h.storeHist, by rw [h.pass]; simpa using hl⟩, .inl ⟨h.fetchHist, h.noFetch⟩, fun hok => ?_⟩
      exact ⟨by simpa using hhdr, by omega, ttl, httl, cmpGt_false hrange.1, cmpGt_false hrange.2, h.ok hok⟩

theorem fetchDeliver_handled (now : Int) (addr : Bytes) (st : ServerState ν) (req : Request) (stream : Bool)
    (out : Option Bytes) (data : Bytes) :
    Handled sha cfg now addr st req (fetchDeliver ops cfg now addr st stream out data) := by
  have consulted : ∀ {rep : Reply}, storePassCode rep.code = false →
      fetchPassReply rep = (allowFetch now (st.fetchHist (rateIdentity cfg addr))).1 →
      Handled sha cfg now addr st req
        ({ st with fetchHist := setHist st.fetchHist (rateIdentity cfg addr)
                     (allowFetch now (st.fetchHist (rateIdentity cfg addr))).2 }, rep) :=
    fun hs hf => ⟨.inl ⟨rfl, hs⟩, .inr ⟨rfl, hf⟩, fun h => absurd h (storePassCode_eq_false_iff.mp hs).1⟩
  unfold fetchDeliver
  refine iteInduction (fun _ => ?_) fun _ => ?_
  · refine iteInduction (fun hl => ?_) fun hl => ?_
    · rw [Bool.not_eq_true'] at hl
      exact consulted (by simp [err]) (by rw [hl]; simp [err])
    · rw [Bool.not_eq_true, Bool.not_eq_false'] at hl
      exact iteInduction (fun _ => consulted (by simp [err]) (by rw [hl]; simp [err]))
        fun _ => consulted (by simp) (by rw [hl]; simp)
  · cases out with
    | none => exact .refuse (by simp)
    | some path =>
      dsimp only
      cases ops.write st.node path data with
      | none => exact .refuse (by simp)
      | some node' => exact ⟨.inl ⟨rfl, rfl⟩, .inl ⟨rfl, by simp⟩, fun h => absurd h (by simp)⟩

theorem handleFetch_handled (now : Int) (addr : Bytes) (st : ServerState ν) (req : Request) :
    Handled sha cfg now addr st req (handleFetch ops cfg now addr st req) := by
  unfold handleFetch
  refine .guard (by simp) fun _ => ?_
  cases getField req.fields (ascii "MANIFEST") with
  | none => exact .refuse (by simp)
  | some uri =>
    dsimp only
    cases ops.decodeManifest uri with
    | none => exact .refuse (by simp)
    | some chunk =>
      refine .guard (by simp) fun _ => ?_
      cases ops.ingest st.node uri with
      | none => exact .refuse (by simp)
      | some node' =>
        dsimp only
        cases ops.fetch node' chunk with
        | none => exact .same rfl rfl (by simp [err])
        | some data =>
          -- the state handed on differs from `st` in the node only
          have h := fetchDeliver_handled sha ops cfg now addr { st with node := node' } req
            (streamToClient req.fields) (getField req.fields (ascii "OUT")) data
          exact ⟨h.store, h.fetch, h.admitted⟩

theorem handleStop_handled (now : Int) (addr : Bytes) (st : ServerState ν) (req : Request) :
    Handled sha cfg now addr st req (handleStop ops cfg st req) := by
  unfold handleStop
  exact .guard (by simp) fun _ => .same rfl rfl (by simp)

theorem handleRequest_handled (now : Int) (addr : Bytes) (st : ServerState ν) (req : Request) :
    Handled sha cfg now addr st req (handleRequest sha ops cfg now addr st req) := by
  unfold handleRequest
  cases getField req.fields (ascii "COMMAND") with
  | none => exact .refuse (by simp)
  | some c =>
    refine iteInduction (fun _ => handleStop_handled ..) fun _ => ?_
    refine iteInduction (fun _ => handleStore_handled ..) fun _ => ?_
    refine iteInduction (fun _ => handleFetch_handled ..) fun _ => ?_
    cases hro : readOnlyCode (toUpper c) with
    | none => exact .refuse (by simp)
    | some code => exact .same rfl rfl (readOnlyCode_not_slot hro)

theorem handleClient_consulted (now : Int) (addr : Bytes) (st : ServerState ν) (input : Bytes) :
    Consulted (allowStore now (st.storeHist (rateIdentity cfg addr))) (rateIdentity cfg addr)
      st.storeHist (handleClient sha ops cfg now addr st input).1.storeHist
      (storePass (handleClient sha ops cfg now addr st input).2) ∧
    Consulted (allowFetch now (st.fetchHist (rateIdentity cfg addr))) (rateIdentity cfg addr)
      st.fetchHist (handleClient sha ops cfg now addr st input).1.fetchHist
      (fetchPass (handleClient sha ops cfg now addr st input).2) := by
  have hp := parseRequest_sound cfg.cap input
  unfold handleClient
  cases hpr : parseRequest cfg.cap input with
  | closed => exact ⟨.inl ⟨rfl, rfl⟩, .inl ⟨rfl, rfl⟩⟩
  | error code u =>
    rw [hpr] at hp
    obtain ⟨hstore, hfetch⟩ := not_pass_of_not_slot (rep := err code) (parseErrorCode_not_slot hp)
    exact ⟨.inl ⟨rfl, hstore⟩, .inl ⟨rfl, hfetch⟩⟩
  | ok req u =>
    have h := handleRequest_handled sha ops cfg now addr st req
    exact ⟨h.store, h.fetch⟩

end

end EphVerif.Control
