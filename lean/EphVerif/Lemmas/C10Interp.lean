/-
C10: the model's `interpolateByte` (the two nested loops of `interpolate` in Shamir.cpp, with the
skip of zero-valued shares and the throwing division) computes the value at 0 of the Lagrange
interpolation polynomial, whenever the share indices are distinct.
-/
import EphVerif.Lemmas.C10Poly

namespace EphVerif.C10L
open EphVerif.Shamir Polynomial Finset

theorem foldl_range_succ {α : Type} (f : α → Nat → α) (a : α) (m : Nat) :
    (List.range (m + 1)).foldl f a = f ((List.range m).foldl f a) m := by
  rw [List.range_succ, List.foldl_append]; rfl

/-- numerator / denominator products of the `j` loop, as field elements -/
noncomputable def numF (X : Nat → GF256) (n i : Nat) : GF256 := ∏ j ∈ range n, (if i = j then 1 else X j)
noncomputable def denF (X : Nat → GF256) (n i : Nat) : GF256 := ∏ j ∈ range n, (if i = j then 1 else X j + X i)

section loops
variable (xs ys : List Nat)

local notation "X" => fun j => g (xs.getD j 0)
local notation "Y" => fun j => g (ys.getD j 0)

theorem numDen_spec (hxs : Bytes xs) (i : Nat) :
    ∃ nu de, numDen xs i (xs.getD i 0) = (nu, de) ∧ nu < 256 ∧ de < 256 ∧
      g nu = numF X xs.length i ∧ g de = denF X xs.length i := by
  unfold numDen
  generalize xs.length = m
  induction m with
  | zero => exact ⟨1, 1, rfl, by decide, by decide, by simp [numF, g_one], by simp [denF, g_one]⟩
  | succ m ih =>
    obtain ⟨nu, de, h0, h1, h2, h3, h4⟩ := ih
    rw [foldl_range_succ, h0, numF, denF, prod_range_succ, prod_range_succ]
    by_cases him : i = m
    · exact ⟨nu, de, by simp [him], h1, h2, by rw [if_pos him, mul_one]; exact h3, by rw [if_pos him, mul_one]; exact h4⟩
    · have hx := getD_lt hxs m
      have hxi := getD_lt hxs i
      refine ⟨_, _, if_neg him, gfMul_lt _ _, gfMul_lt _ _, ?_, ?_⟩
      · rw [if_neg him, g_mul h1 hx, h3]; rfl
      · rw [if_neg him, gfAdd, g_mul h2 (xor_lt hx hxi), g_xor hx hxi, h4]; rfl

theorem denF_ne_zero (hinj : Set.InjOn X (range xs.length : Finset ℕ)) {i : ℕ} (hi : i < xs.length) :
    denF X xs.length i ≠ 0 := by
  rw [denF, prod_ne_zero_iff]
  intro j hj
  split
  · exact one_ne_zero
  · next hne => exact fun h => hne (hinj (mem_coe.2 (mem_range.2 hi)) hj (gf_add_eq_zero.1 h).symm)

theorem interp_upto (hxs : Bytes xs) (hys : Bytes ys) (hinj : Set.InjOn X (range xs.length : Finset ℕ)) (m : Nat)
    (hm : m ≤ xs.length) :
    ∃ v, (List.range m).foldl (interpStep xs ys) (.ok 0) = .ok v ∧ v < 256 ∧
      g v = ∑ i ∈ range m, Y i * (numF X xs.length i / denF X xs.length i) := by
  induction m with
  | zero => exact ⟨0, rfl, by decide, by simp [g_zero]⟩
  | succ m ih =>
    obtain ⟨v, h0, h1, h2⟩ := ih (by omega)
    rw [foldl_range_succ, h0, sum_range_succ, ← h2]
    simp only [interpStep]
    by_cases hy : ys.getD m 0 = 0
    · refine ⟨v, if_pos hy, h1, ?_⟩
      rw [hy, g_zero, zero_mul, add_zero]
    · obtain ⟨nu, de, e0, e1, e2, e3, e4⟩ := numDen_spec xs hxs m
      have hde : de ≠ 0 := fun h => denF_ne_zero xs hinj (show m < xs.length by omega) (by rw [← e4, h, g_zero])
      refine ⟨v ^^^ gfMul (ys.getD m 0) (gfMul nu (gfInv de)), ?_, xor_lt h1 (gfMul_lt _ _), ?_⟩
      · simp only [if_neg hy, e0, gfDiv_eq e1 e2 hde, gfAdd]
      · rw [g_xor h1 (gfMul_lt _ _), g_mul (getD_lt hys m) (gfMul_lt _ _), g_mul e1 (gfInv_lt _), g_inv e2, e3, e4,
          div_eq_mul_inv]

end loops

theorem prod_ite_eq_prod_erase (s : Finset ℕ) (i : ℕ) (f : ℕ → GF256) :
    ∏ j ∈ s, (if i = j then 1 else f j) = ∏ j ∈ s.erase i, f j := by
  rw [← prod_erase s (a := i) (f := fun j => if i = j then 1 else f j) (if_pos rfl)]
  exact prod_congr rfl fun j hj => if_neg (ne_of_mem_erase hj).symm

theorem eval_zero_interpolate (X Y : ℕ → GF256) (n : ℕ) :
    (Lagrange.interpolate (range n) X Y).eval 0 = ∑ i ∈ range n, Y i * (numF X n i / denF X n i) := by
  rw [Lagrange.interpolate_apply, eval_finsetSum]
  apply sum_congr rfl
  intro i _
  rw [eval_mul, eval_C, Lagrange.basis, eval_prod, numF, denF, prod_ite_eq_prod_erase, prod_ite_eq_prod_erase,
    div_eq_mul_inv, ← prod_inv_distrib, ← prod_mul_distrib]
  congr 1
  apply prod_congr rfl
  intro j _
  simp only [Lagrange.basisDivisor, eval_mul, eval_C, eval_sub, eval_X, gf_sub, zero_add]
  rw [mul_comm, add_comm]

theorem injOn_of_nodup {xs : List Nat} (hxs : Bytes xs) (hnd : xs.Nodup) :
    Set.InjOn (fun j => g (xs.getD j 0)) (range xs.length : Finset ℕ) := by
  intro i hi j hj h
  have hi : i < xs.length := mem_range.1 (mem_coe.1 hi)
  have hj : j < xs.length := mem_range.1 (mem_coe.1 hj)
  have := g_inj (getD_lt hxs i) (getD_lt hxs j) h
  rw [getD_of_lt 0 hi, getD_of_lt 0 hj] at this
  exact hnd.getElem_inj_iff.1 this

theorem interpolateByte_lagrange {xs ys : List Nat} (hxs : Bytes xs) (hys : Bytes ys) (hnd : xs.Nodup) :
    ∃ v, interpolateByte xs ys = .ok v ∧ v < 256 ∧
      g v = (Lagrange.interpolate (range xs.length) (fun j => g (xs.getD j 0)) fun j => g (ys.getD j 0)).eval 0 := by
  obtain ⟨v, h0, h1, h2⟩ := interp_upto xs ys hxs hys (injOn_of_nodup hxs hnd) xs.length (Nat.le_refl _)
  exact ⟨v, h0, h1, h2.trans (eval_zero_interpolate ..).symm⟩

theorem interpolateByte_of_poly {xs ys : List Nat} (hxs : Bytes xs) (hys : Bytes ys) (hnd : xs.Nodup)
    (f : GF256[X]) (hdeg : f.degree < xs.length)
    (hev : ∀ i, i < xs.length → f.eval (g (xs.getD i 0)) = g (ys.getD i 0)) :
    ∃ v, interpolateByte xs ys = .ok v ∧ v < 256 ∧ g v = f.eval 0 := by
  rw [Lagrange.eq_interpolate_of_eval_eq (s := range xs.length) (fun j => g (ys.getD j 0)) (injOn_of_nodup hxs hnd)
    (by simpa using hdeg) (fun i hi => hev i (mem_range.1 hi))]
  exact interpolateByte_lagrange hxs hys hnd

end EphVerif.C10L
