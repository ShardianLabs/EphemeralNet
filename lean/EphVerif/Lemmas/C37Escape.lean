/-
Lemmas about `escape` (model of escape_control_characters) against the RFC 8259 decoder.
-/
import EphVerif.Model.LogEscape
import EphVerif.Lemmas.C37C38JsonString

namespace EphVerif.C37L
open EphVerif.LogEscape EphVerif.JsonSpec

theorem hex4_upper : ∀ ch, ch < 0x20 →
    hex4 0x30 0x30 (hexUpper (ch / 16)) (hexUpper (ch % 16)) = some ch := by decide

theorem hexUpper_range : ∀ n, n < 16 → 0x30 ≤ hexUpper n ∧ hexUpper n ≤ 0x46 := by decide

theorem escapeByte_cases (ch : Nat) :
    (∃ e, simpleEscape e = some ch ∧ (0x20 ≤ e ∧ e < 0x80 ∧ ch < 0x80) ∧ escapeByte ch = [0x5C, e]) ∨
    (ch < 0x20 ∧ escapeByte ch = [0x5C, 0x75, 0x30, 0x30, hexUpper (ch / 16), hexUpper (ch % 16)]) ∨
    (0x20 ≤ ch ∧ ch ≠ 0x22 ∧ ch ≠ 0x5C ∧ escapeByte ch = [ch]) := by
  by_cases h1 : ch = 0x22; · subst h1; exact .inl ⟨0x22, rfl, by decide, rfl⟩
  by_cases h2 : ch = 0x5C; · subst h2; exact .inl ⟨0x5C, rfl, by decide, rfl⟩
  by_cases h3 : ch = 0x08; · subst h3; exact .inl ⟨0x62, rfl, by decide, rfl⟩
  by_cases h4 : ch = 0x0C; · subst h4; exact .inl ⟨0x66, rfl, by decide, rfl⟩
  by_cases h5 : ch = 0x0A; · subst h5; exact .inl ⟨0x6E, rfl, by decide, rfl⟩
  by_cases h6 : ch = 0x0D; · subst h6; exact .inl ⟨0x72, rfl, by decide, rfl⟩
  by_cases h7 : ch = 0x09; · subst h7; exact .inl ⟨0x74, rfl, by decide, rfl⟩
  simp only [escapeByte, h1, h2, h3, h4, h5, h6, h7, if_false]
  by_cases h : ch < 0x20
  · exact .inr (.inl ⟨h, if_pos h⟩)
  · exact .inr (.inr ⟨Nat.le_of_not_lt h, h1, h2, if_neg h⟩)

theorem decodeStr_escapeByte (ch : Nat) (t : List Nat) :
    decodeStr true (escapeByte ch ++ t) = prepend (some [ch]) (decodeStr true t) := by
  rcases escapeByte_cases ch with ⟨e, he, _, h⟩ | ⟨hc, h⟩ | ⟨hc, h1, h2, h⟩ <;> rw [h]
  · exact decodeStr_simple true e ch t he
  · have hu : utf8Encode ch = some [ch] := if_pos (by omega)
    rw [← hu]
    exact decodeStr_bmp true _ _ _ _ ch t (hex4_upper ch hc) (by simp [isHighSurrogate]; omega)
      (by simp [isLowSurrogate]; omega)
  · exact decodeStr_plain true ch t h1 h2 fun _ => hc

/-- `unescape ∘ escape = id`, in the streaming form the record proof needs -/
theorem decodeStr_escape (s rest : List Nat) :
    decodeStr true (escape s ++ 0x22 :: rest) = some (s, rest) := by
  induction s with
  | nil => exact decodeStr_quote true rest
  | cons ch tl ih =>
    simp only [escape, List.append_assoc]
    rw [decodeStr_escapeByte, ih]
    rfl

theorem escapeByte_bytes (ch : Nat) : ∀ b ∈ escapeByte ch, 0x20 ≤ b ∧ (b < 0x80 ∨ b = ch) := by
  rcases escapeByte_cases ch with ⟨e, _, he, h⟩ | ⟨hc, h⟩ | ⟨hc, _, _, h⟩ <;> rw [h] <;> intro b hb <;>
    simp only [List.mem_cons, List.not_mem_nil, or_false] at hb
  · refine ⟨?_, .inl ?_⟩ <;> omega
  · have h1 := hexUpper_range (ch / 16) (by omega)
    have h2 := hexUpper_range (ch % 16) (by omega)
    refine ⟨?_, .inl ?_⟩ <;> omega
  · exact ⟨hb ▸ hc, .inr hb⟩

def NoCtl (l : List Nat) : Prop := ∀ b ∈ l, 0x20 ≤ b

theorem NoCtl.append {a b : List Nat} (ha : NoCtl a) (hb : NoCtl b) : NoCtl (a ++ b) :=
  List.forall_mem_append.mpr ⟨ha, hb⟩

theorem NoCtl.cons {x : Nat} {l : List Nat} (hx : 0x20 ≤ x) (hl : NoCtl l) : NoCtl (x :: l) :=
  List.forall_mem_cons.mpr ⟨hx, hl⟩

theorem NoCtl.nil : NoCtl [] := List.forall_mem_nil _

theorem escape_noControl (s : List Nat) : NoCtl (escape s) := by
  induction s with
  | nil => exact .nil
  | cons ch tl ih => exact .append (fun b hb => (escapeByte_bytes ch b hb).1) ih

theorem bareFree_escapeByte (ch : Nat) (t : List Nat) : bareFree (escapeByte ch ++ t) = bareFree t := by
  rcases escapeByte_cases ch with ⟨e, _, _, h⟩ | ⟨hc, h⟩ | ⟨_, h1, h2, h⟩ <;> rw [h]
  · exact bareFree_escape e t
  · have h1 := hexUpper_range (ch / 16) (by omega)
    have h2 := hexUpper_range (ch % 16) (by omega)
    simp only [List.cons_append, List.nil_append]
    rw [bareFree_escape, bareFree_cons_plain _ _ (by decide) (by decide), bareFree_cons_plain _ _ (by decide) (by decide),
      bareFree_cons_plain _ _ (by omega) (by omega), bareFree_cons_plain _ _ (by omega) (by omega)]
  · exact bareFree_cons_plain ch t h1 h2

theorem bareFree_escape_all (s : List Nat) : bareFree (escape s) = true := by
  induction s with
  | nil => rfl
  | cons ch tl ih => simp only [escape]; rw [bareFree_escapeByte]; exact ih

end EphVerif.C37L
