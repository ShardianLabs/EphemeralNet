/-
C14 helper lemmas: the length field round-trips, what `send` calls put on the wire, one well-formed
frame fed to an idle reader is one delivery, deliveries only grow and the body buffer never exceeds
the limit.
-/
import EphVerif.Lemmas.C14Reader
import EphVerif.Lemmas.C14Cipher

namespace EphVerif.Frames
open EphVerif.Gen

theorem lengthBytes_length (n : Nat) : (lengthBytes n).length = 4 := rfl

theorem lengthBytes_eq (n : Nat) (h : n < 4294967296) :
    lengthBytes n = [UInt8.ofNat (n / 16777216 % 256), UInt8.ofNat (n / 65536 % 256), UInt8.ofNat (n / 256 % 256), UInt8.ofNat (n % 256)] := by
  simp only [lengthBytes, C14.sendShifts, List.map_cons, List.map_nil, Nat.mod_eq_of_lt h]
  simp

theorem readLength_eq (a b c d : UInt8) :
    readLength [a, b, c, d] = a.toNat * 16777216 + b.toNat * 65536 + c.toNat * 256 + d.toNat := by
  simp [readLength, C14.recvShifts]

theorem readLength_lengthBytes (n : Nat) (h : n < 4294967296) : readLength (lengthBytes n) = n := by
  -- dividing by 256 three times keeps `omega` from meeting four unrelated divisors
  have h1 : n / 65536 = n / 256 / 256 := by rw [Nat.div_div_eq_div_mul]
  have h2 : n / 16777216 = n / 256 / 256 / 256 := by rw [Nat.div_div_eq_div_mul, Nat.div_div_eq_div_mul]
  rw [lengthBytes_eq n h, readLength_eq, h1, h2]
  simp only [UInt8.toNat_ofNat', Nat.mod_mod]
  omega

theorem recvRefuses_iff (n : Nat) : C14.recvRefuses n = true ↔ n > 1048576 := by
  simp [C14.recvRefuses, C14.kMaxPayloadSize]

theorem sendRefuses_iff (n : Nat) : C14.sendRefuses n = true ↔ n > 1048576 := by
  simp [C14.sendRefuses, C14.kMaxPayloadSize]

theorem counters_agree : C14.sendCounter = C14.recvCounter := rfl

theorem send_eq (key nonce payload : Bytes) :
    send key nonce payload = if payload.length ≤ 1048576 then some (encodeFrame key nonce payload) else none := by
  by_cases h : payload.length ≤ 1048576
  · rw [if_pos h]; exact if_neg (by rw [sendRefuses_iff]; omega)
  · rw [if_neg h]; exact if_pos (by rw [sendRefuses_iff]; omega)

theorem sends_wire (key : Bytes) (attempts : List (Bytes × Bytes)) :
    (attempts.filterMap fun f => send key f.1 f.2).flatten
      = (attempts.filter fun f => decide (f.2.length ≤ 1048576)).flatMap fun f => encodeFrame key f.1 f.2 := by
  induction attempts with
  | nil => rfl
  | cons f fs ih =>
    rw [List.filterMap_cons, send_eq, List.filter_cons]
    by_cases hf : f.2.length ≤ 1048576
    · simp only [hf, ↓reduceIte, decide_true, List.flatten_cons, List.flatMap_cons, ih]
    · simp only [hf, ↓reduceIte, decide_false, Bool.false_eq_true, ih]

theorem feed_frame {key nonce payload : Bytes} {d : List Bytes} {c m : Nat} (hk : key.length = 32) (hn : nonce.length = 12)
    (hp : payload.length ≤ 1048576) :
    feed key ⟨none, .nonce, 12, [], d, c, m⟩ (encodeFrame key nonce payload)
      = ⟨none, .nonce, 12, [], d ++ [payload], c + 16 + payload.length, max m payload.length⟩ := by
  have hlen : (cipher key nonce C14.sendCounter payload).length = payload.length :=
    Cipher.chacha20_length key nonce _ payload hk hn
  have hrt : readLength (lengthBytes payload.length) = payload.length := readLength_lengthBytes _ (by omega)
  have hok : C14.recvRefuses (readLength (lengthBytes payload.length)) = false := by
    rw [hrt, ← Bool.not_eq_true, recvRefuses_iff]; omega
  have hinv : cipher key nonce C14.recvCounter (cipher key nonce C14.sendCounter payload) = payload :=
    Cipher.chacha20_involution key nonce _ payload hk hn
  rw [encodeFrame, feed_whole hn (lengthBytes_length _) hok (hlen.trans hrt.symm), hinv, hlen]

theorem feed_frames_eq {key : Bytes} {frames : List (Bytes × Bytes)} {d : List Bytes} {c m : Nat} (hk : key.length = 32)
    (hn : ∀ f ∈ frames, f.1.length = 12) (hp : ∀ f ∈ frames, f.2.length ≤ 1048576) :
    feed key ⟨none, .nonce, 12, [], d, c, m⟩ (frames.flatMap fun f => encodeFrame key f.1 f.2)
      = ⟨none, .nonce, 12, [], d ++ frames.map (·.2), c + (frames.map fun f => 16 + f.2.length).sum,
          (frames.map (·.2.length)).foldl max m⟩ := by
  induction frames generalizing d c m with
  | nil => simp [feed_nil]
  | cons f fs ih =>
    rw [List.flatMap_cons, feed_append, feed_frame hk (hn f List.mem_cons_self) (hp f List.mem_cons_self),
      ih (fun g hg => hn g (List.mem_cons_of_mem _ hg)) (fun g hg => hp g (List.mem_cons_of_mem _ hg)),
      List.append_assoc, Nat.add_assoc c 16, Nat.add_assoc c]
    rfl

theorem feed_frames (key : Bytes) (frames : List (Bytes × Bytes)) (r : Reader) (h : Idle r) (hk : key.length = 32)
    (hn : ∀ f ∈ frames, f.1.length = 12) (hp : ∀ f ∈ frames, f.2.length ≤ 1048576) :
    let r' := feed key r (frames.flatMap fun f => encodeFrame key f.1 f.2)
    Idle r' ∧ r'.delivered = r.delivered ++ frames.map (·.2) ∧
      r'.consumed = r.consumed + (frames.map fun f => 16 + f.2.length).sum ∧
      r'.maxAlloc = (frames.map (·.2.length)).foldl max r.maxAlloc := by
  rw [h.eq_mk, feed_frames_eq hk hn hp]
  exact ⟨⟨rfl, rfl, rfl, rfl⟩, rfl, rfl, rfl⟩

theorem stepByte_grows (key : Bytes) (r : Reader) (b : UInt8) :
    r.delivered <+: (stepByte key r b).delivered ∧ (stepByte key r b).maxAlloc ≤ max r.maxAlloc 1048576 := by
  have same : r.delivered <+: r.delivered ∧ r.maxAlloc ≤ max r.maxAlloc 1048576 := ⟨List.prefix_refl _, Nat.le_max_left ..⟩
  have more (p : Bytes) : r.delivered <+: r.delivered ++ [p] ∧ r.maxAlloc ≤ max r.maxAlloc 1048576 :=
    ⟨List.prefix_append .., Nat.le_max_left ..⟩
  unfold stepByte
  split  -- on `r.ended`
  · exact same
  by_cases hneed : r.need ≤ 1
  · rw [if_pos hneed, complete]
    split  -- on `r.want`
    · exact same
    · rw [afterHeader]
      by_cases hbig : C14.recvRefuses (readLength (b :: r.acc).reverse) = true
      · rw [if_pos hbig]; exact same
      by_cases h0 : readLength (b :: r.acc).reverse = 0
      · rw [if_neg hbig, if_pos h0]; exact more _
      · rw [if_neg hbig, if_neg h0]
        rw [recvRefuses_iff] at hbig
        exact ⟨List.prefix_refl _, by simp only; omega⟩
    · exact more _
  · rw [if_neg hneed]; exact same

theorem feed_grows (key : Bytes) (r : Reader) (s : Bytes) :
    r.delivered <+: (feed key r s).delivered ∧ (feed key r s).maxAlloc ≤ max r.maxAlloc 1048576 := by
  induction s generalizing r with
  | nil => exact ⟨List.prefix_refl _, Nat.le_max_left ..⟩
  | cons b s ih =>
    have h1 := stepByte_grows key r b
    have h2 := ih (stepByte key r b)
    exact ⟨h1.1.trans h2.1, by rw [feed_cons]; omega⟩

end EphVerif.Frames
