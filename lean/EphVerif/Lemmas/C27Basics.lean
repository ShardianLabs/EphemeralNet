/-
Basic facts about the control-plane model used by the proofs of C27, C28 and C29:
`constant_time_equal` is equality, the extracted comparisons, field-map lookups after
`fields[key] = value`.
-/
import EphVerif.Model.Control

namespace EphVerif.Control

theorem xorFold_eq_zero_iff : ∀ (e p : Bytes) (d : UInt8), e.length = p.length →
    (xorFold e p d = 0 ↔ d = 0 ∧ e = p)
  | [], [], d, _ => by simp [xorFold]
  | [], _ :: _, _, h => by simp at h
  | _ :: _, [], _, h => by simp at h
  | e :: es, p :: ps, d, h => by
    rw [xorFold, xorFold_eq_zero_iff es ps _ (by simpa using h), UInt8.or_eq_zero_iff, UInt8.xor_eq_zero_iff,
      List.cons.injEq, and_assoc]

theorem constantTimeEqual_iff (e p : Bytes) : constantTimeEqual e p = true ↔ e = p := by
  unfold constantTimeEqual
  by_cases h : e.length = p.length
  · simp [h, xorFold_eq_zero_iff e p 0 h]
  · simpa [h] using fun he : e = p => h (by rw [he])

theorem cmpGt_false {s : Nat} {a b : Int} (h : cmpGt s a b = false) : a ≤ b := by
  unfold cmpGt at h
  split at h <;> simp at h <;> omega

theorem cmpGt_of_gt {s : Nat} {a b : Int} (h : a > b) : cmpGt s a b = true := by
  unfold cmpGt
  split <;> simp <;> omega

theorem getField_eq_some {fs : Fields} {k v : Bytes} (h : getField fs k = some v) : (k, v) ∈ fs := by
  unfold getField at h
  obtain ⟨p, hf, rfl⟩ := Option.map_eq_some_iff.mp h
  have hk : p.1 = k := by simpa using List.find?_some hf
  exact hk ▸ List.mem_of_find?_eq_some hf

theorem mem_setField {fs : Fields} {k v : Bytes} {q : Bytes × Bytes} (h : q ∈ setField fs k v) : q ∈ fs ∨ q = (k, v) := by
  unfold setField at h
  split at h
  · obtain ⟨p, hp, rfl⟩ := List.mem_map.mp h
    split
    · rename_i hk; exact .inr (by rw [eq_of_beq hk])
    · exact .inl hp
  · simpa using h

theorem hasKey_false_iff {fs : Fields} {k : Bytes} : hasKey fs k = false ↔ ∀ p ∈ fs, p.1 ≠ k :=
  List.any_eq_false.trans (forall_congr' fun _ => imp_congr_right fun _ => not_congr beq_iff_eq)

theorem setField_fresh {fs : Fields} {k v : Bytes} (h : ∀ p ∈ fs, p.1 ≠ k) : setField fs k v = fs ++ [(k, v)] := by
  unfold setField
  rw [hasKey_false_iff.mpr h]
  rfl

end EphVerif.Control
