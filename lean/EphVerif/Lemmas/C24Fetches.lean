/-
Helper lemmas for C24: bookkeeping of `pending_chunk_fetches_` / `active_peer_requests_` and
the scheduler invariant (`Inv`) preserved by every operation of `Model/Fetches.lean`.
-/
import EphVerif.Model.Fetches
import EphVerif.Lemmas.C23C24Count

namespace EphVerif.Fetches

def keys (l : List Entry) : List String := l.map (·.chunk)

def occ (p : String) (e : Entry) : Nat := if e.inFlight = true ∧ e.peer = p then 1 else 0

theorem occ_idle {e : Entry} (h : e.inFlight = false) (p : String) : occ p e = 0 := by simp [occ, h]

theorem cnt_nil (p : String) : cnt p [] = 0 := rfl

theorem cnt_cons (p : String) (e : Entry) (l : List Entry) : cnt p (e :: l) = occ p e + cnt p l := by
  simp only [cnt, occ, List.filter_cons, Bool.and_eq_true, beq_iff_eq]
  split <;> simp [Nat.add_comm]

theorem cnt_append (p : String) (l m : List Entry) : cnt p (l ++ m) = cnt p l + cnt p m := by
  simp [cnt, List.filter_append]

theorem find_cons (e : Entry) (l : List Entry) (c : String) :
    find (e :: l) c = if e.chunk = c then some e else find l c := by
  simp only [find, List.find?_cons]
  split <;> simp_all

theorem replace_cons (x : Entry) (l : List Entry) (e : Entry) :
    replace (x :: l) e = (if x.chunk = e.chunk then e else x) :: replace l e := by
  simp [replace]

theorem erase_cons (x : Entry) (l : List Entry) (c : String) :
    erase (x :: l) c = if x.chunk = c then erase l c else x :: erase l c := by
  simp only [erase, List.filter_cons, Bool.not_eq_true', beq_eq_false_iff_ne]
  split <;> simp_all

theorem find_some {l : List Entry} {c : String} {e : Entry} (h : find l c = some e) : e ∈ l ∧ e.chunk = c :=
  ⟨List.mem_of_find?_eq_some h, by simpa using List.find?_some h⟩

theorem find_none {l : List Entry} {c : String} (h : find l c = none) : c ∉ keys l := by
  simpa [find, keys] using h

theorem find_of_mem {l : List Entry} (hu : (keys l).Nodup) {e : Entry} (he : e ∈ l) : find l e.chunk = some e := by
  induction l with
  | nil => cases he
  | cons x xs ih =>
    rw [keys, List.map_cons, List.nodup_cons] at hu
    rw [find_cons]
    rcases List.mem_cons.1 he with rfl | hm
    · exact if_pos rfl
    · rw [if_neg fun heq => hu.1 (by rw [heq]; exact List.mem_map_of_mem hm)]
      exact ih hu.2 hm

theorem keys_replace (l : List Entry) (e : Entry) : keys (replace l e) = keys l := by
  induction l with
  | nil => rfl
  | cons x xs ih =>
    rw [replace_cons]
    show (if x.chunk = e.chunk then e else x).chunk :: keys (replace xs e) = x.chunk :: keys xs
    rw [ih]
    split
    · next h => rw [h]
    · rfl

theorem replace_of_not_mem {l : List Entry} {e : Entry} (h : e.chunk ∉ keys l) : replace l e = l := by
  induction l with
  | nil => rfl
  | cons x xs ih =>
    rw [keys, List.map_cons, List.mem_cons, not_or] at h
    rw [replace_cons, if_neg (Ne.symm h.1), ih h.2]

theorem erase_of_not_mem {l : List Entry} {c : String} (h : c ∉ keys l) : erase l c = l := by
  induction l with
  | nil => rfl
  | cons x xs ih =>
    rw [keys, List.map_cons, List.mem_cons, not_or] at h
    rw [erase_cons, if_neg (Ne.symm h.1), ih h.2]

theorem cnt_replace {l : List Entry} (hu : (keys l).Nodup) {old e : Entry} (hf : find l e.chunk = some old) (p : String) :
    cnt p (replace l e) + occ p old = cnt p l + occ p e := by
  induction l with
  | nil => cases hf
  | cons x xs ih =>
    rw [keys, List.map_cons, List.nodup_cons] at hu
    rw [find_cons] at hf
    rw [replace_cons, cnt_cons, cnt_cons]
    split at hf
    · next hx => cases hf; rw [if_pos hx, replace_of_not_mem (hx ▸ hu.1)]; omega
    · next hx => rw [if_neg hx]; have := ih hu.2 hf; omega

theorem cnt_erase {l : List Entry} (hu : (keys l).Nodup) {old : Entry} {c : String} (hf : find l c = some old) (p : String) :
    cnt p (erase l c) + occ p old = cnt p l := by
  induction l with
  | nil => cases hf
  | cons x xs ih =>
    rw [keys, List.map_cons, List.nodup_cons] at hu
    rw [find_cons] at hf
    rw [erase_cons, cnt_cons]
    split at hf
    · next hx => cases hf; rw [if_pos hx, erase_of_not_mem (hx ▸ hu.1)]; omega
    · next hx => rw [if_neg hx, cnt_cons]; have := ih hu.2 hf; omega

theorem find_replace_ne (l : List Entry) (e : Entry) {k : String} (h : k ≠ e.chunk) :
    find (replace l e) k = find l k := by
  induction l with
  | nil => rfl
  | cons x xs ih =>
    rw [replace_cons, find_cons, find_cons, ih]
    split
    · next hx => rw [if_neg (Ne.symm h), if_neg (hx ▸ Ne.symm h)]
    · rfl

theorem mem_replace {l : List Entry} {e x : Entry} (h : x ∈ replace l e) : x = e ∨ x ∈ l := by
  obtain ⟨y, hy, rfl⟩ := List.mem_map.1 h
  split
  · exact Or.inl rfl
  · exact Or.inr hy

theorem nodup_erase {l : List Entry} (hu : (keys l).Nodup) (c : String) : (keys (erase l c)).Nodup :=
  hu.sublist (List.filter_sublist.map _)

theorem drop_apply (a : String → Nat) (q p : String) : drop a q p = a p - if q = p then 1 else 0 :=
  Count.decr_apply a q p

theorem bump_apply (a : String → Nat) (q p : String) : bump a q p = a p + if q = p then 1 else 0 :=
  Count.incr_apply a q p

/-- a slot released (taken) under a condition, in the form in which `occ` counts it -/
theorem ite_drop_apply (a : String → Nat) (b : Bool) (q p : String) :
    (if b = true then drop a q else a) p = a p - if b = true ∧ q = p then 1 else 0 := by
  cases b <;> simp [drop_apply]

theorem ite_bump_apply (a : String → Nat) (b : Bool) (q p : String) :
    (if b = true then bump a q else a) p = a p + if b = true ∧ q = p then 1 else 0 := by
  cases b <;> simp [bump_apply]

structure Inv (cfg : Cfg) (s : State) : Prop where
  uniq : (keys s.pending).Nodup
  count : ∀ p, s.active p = cnt p s.pending
  limit : 0 < cfg.maxParallel → ∀ p, s.active p ≤ cfg.maxParallel

theorem inv_init (cfg : Cfg) : Inv cfg State.init :=
  ⟨List.nodup_nil, fun _ => rfl, fun _ _ => Nat.zero_le _⟩

theorem inv_replace {cfg : Cfg} {s : State} (h : Inv cfg s) {old e : Entry} (hf : find s.pending e.chunk = some old)
    {a : String → Nat} (hc : ∀ p, a p = s.active p + occ p e - occ p old)
    (hl : 0 < cfg.maxParallel → ∀ p, a p ≤ cfg.maxParallel) : Inv cfg ⟨replace s.pending e, a⟩ := by
  refine ⟨(keys_replace _ _).symm ▸ h.uniq, fun p => ?_, hl⟩
  have := cnt_replace h.uniq hf p
  have := h.count p
  have := hc p
  show a p = cnt p (replace s.pending e)
  omega

theorem clear_pending (st : State) (c : String) : (clear st c).pending = erase st.pending c := by
  unfold clear
  split
  · next hf => exact (erase_of_not_mem (find_none hf)).symm
  · rfl

theorem inv_clear {cfg : Cfg} {s : State} (h : Inv cfg s) (c : String) : Inv cfg (clear s c) := by
  unfold clear
  split
  · exact h
  · next e hf =>
    have ha : ∀ p, (if e.inFlight = true then drop s.active e.peer else s.active) p = s.active p - occ p e :=
      fun p => ite_drop_apply ..
    refine ⟨nodup_erase h.uniq c, fun p => (ha p).trans ?_, fun hL p => Nat.le_trans (Nat.le_of_eq (ha p)) ?_⟩
    · have := cnt_erase h.uniq hf p
      have := h.count p
      show _ = cnt p (erase s.pending c)
      omega
    · exact Nat.le_trans (Nat.sub_le ..) (h.limit hL p)

theorem inv_clearAll {cfg : Cfg} {ks : List String} : ∀ {s : State}, Inv cfg s → Inv cfg (clearAll s ks) := by
  induction ks with
  | nil => exact id
  | cons k rest ih => exact fun h => ih (inv_clear h k)

section
variable (cfg : Cfg) (env : Env) (now wall : Int) (f : Bool) (e : Entry)

theorem refreshProv_eq : refreshProv cfg env now f e =
    { e with provCount := (refreshProv cfg env now f e).provCount, lastCheck := (refreshProv cfg env now f e).lastCheck } := by
  unfold refreshProv
  split <;> rfl

@[simp] theorem refreshProv_chunk : (refreshProv cfg env now f e).chunk = e.chunk := by rw [refreshProv_eq]
@[simp] theorem refreshProv_peer : (refreshProv cfg env now f e).peer = e.peer := by rw [refreshProv_eq]
@[simp] theorem refreshProv_inFlight : (refreshProv cfg env now f e).inFlight = e.inFlight := by rw [refreshProv_eq]
@[simp] theorem refreshProv_expires : (refreshProv cfg env now f e).expires = e.expires := by rw [refreshProv_eq]
@[simp] theorem refreshProv_nextAttempt : (refreshProv cfg env now f e).nextAttempt = e.nextAttempt := by
  rw [refreshProv_eq]

theorem touch_eq : touch cfg env now wall e =
    { e with provCount := (touch cfg env now wall e).provCount, lastCheck := (touch cfg env now wall e).lastCheck,
             inFlight := (touch cfg env now wall e).inFlight } := by
  unfold touch
  split
  · rfl
  · dsimp only
    split <;> rw [refreshProv_eq]

@[simp] theorem touch_chunk : (touch cfg env now wall e).chunk = e.chunk := by rw [touch_eq]
@[simp] theorem touch_peer : (touch cfg env now wall e).peer = e.peer := by rw [touch_eq]
@[simp] theorem touch_expires : (touch cfg env now wall e).expires = e.expires := by rw [touch_eq]
@[simp] theorem touch_nextAttempt : (touch cfg env now wall e).nextAttempt = e.nextAttempt := by rw [touch_eq]

end

theorem completed_congr (env : Env) (wall : Int) {a b : Entry} (h1 : a.chunk = b.chunk) (h2 : a.expires = b.expires)
    (h3 : a.nextAttempt = b.nextAttempt) : completed env wall a = completed env wall b := by
  simp [completed, manifestExpired, h1, h2, h3]

theorem ends_flying {env : Env} {now wall : Int} {e : Entry} (h : ends env now wall e = true) : e.inFlight = true := by
  simp only [ends, Bool.and_eq_true] at h; exact h.1.2

/-- the first loop clears `in_flight` exactly where it gives the request up (never for a held chunk) -/
theorem touch_inFlight (cfg : Cfg) (env : Env) (now wall : Int) (e : Entry) :
    (touch cfg env now wall e).inFlight = (e.inFlight && !ends env now wall (refreshProv cfg env now false e)) := by
  unfold touch
  split
  · next hh => simp [ends, completed, hh]
  · dsimp only
    split <;> simp [*]

/-- `touch` gives up the slot of `e` exactly when the first loop releases it -/
theorem occ_touch (cfg : Cfg) (env : Env) (now wall : Int) (e : Entry) (p : String) :
    occ p (touch cfg env now wall e)
      + (if ends env now wall (refreshProv cfg env now false e) = true ∧ e.peer = p then 1 else 0) = occ p e := by
  rw [occ, occ, touch_inFlight, touch_peer]
  cases he : ends env now wall (refreshProv cfg env now false e)
  · simp
  · -- a request that is given up was in flight: its slot is the one released
    have hf : e.inFlight = true := (refreshProv_inFlight ..).symm.trans (ends_flying he)
    simp [hf]

theorem pass1_fst (cfg : Cfg) (env : Env) (now wall : Int) (l : List Entry) :
    ∀ a, (pass1 cfg env now wall l a).1 = l.map (touch cfg env now wall) := by
  induction l with
  | nil => intro a; rfl
  | cons e es ih => intro a; simp [pass1, ih]

theorem pass1_le (cfg : Cfg) (env : Env) (now wall : Int) (l : List Entry) :
    ∀ a p, (pass1 cfg env now wall l a).2 p ≤ a p := by
  induction l with
  | nil => exact fun a p => Nat.le_refl _
  | cons e es ih =>
    intro a p
    refine Nat.le_trans (ih _ p) ?_
    rw [ite_drop_apply]
    omega

/-- the first loop keeps counters and map in step: whatever slots `k` are accounted for outside `l` -/
theorem pass1_count {cfg : Cfg} {env : Env} {now wall : Int} {l : List Entry} :
    ∀ a k : String → Nat, (∀ p, a p = k p + cnt p l) →
      ∀ p, (pass1 cfg env now wall l a).2 p = k p + cnt p (l.map (touch cfg env now wall)) := by
  induction l with
  | nil => exact fun a k h => h
  | cons e es ih =>
    intro a k h p
    rw [List.map_cons, cnt_cons]
    refine (ih _ (fun q => k q + occ q (touch cfg env now wall e)) (fun q => ?_) p).trans (Nat.add_assoc _ _ _)
    have := h q
    rw [cnt_cons] at this
    have := occ_touch cfg env now wall e q
    rw [ite_drop_apply]
    omega

section
variable (cfg : Cfg) (env : Env) (now : Int) (e : Entry) (ok : Bool)

theorem scheduleNext_eq :
    scheduleNext cfg now e ok = { e with nextAttempt := (scheduleNext cfg now e ok).nextAttempt } := by
  unfold scheduleNext
  split
  · rfl
  · split <;> rfl

@[simp] theorem scheduleNext_chunk : (scheduleNext cfg now e ok).chunk = e.chunk := by rw [scheduleNext_eq]
@[simp] theorem scheduleNext_peer : (scheduleNext cfg now e ok).peer = e.peer := by rw [scheduleNext_eq]
@[simp] theorem scheduleNext_expires : (scheduleNext cfg now e ok).expires = e.expires := by rw [scheduleNext_eq]
@[simp] theorem scheduleNext_attempts : (scheduleNext cfg now e ok).attempts = e.attempts := by rw [scheduleNext_eq]

@[simp] theorem dispatchEntry_chunk : (dispatchEntry cfg env now e).1.chunk = e.chunk := by simp [dispatchEntry]
@[simp] theorem dispatchEntry_peer : (dispatchEntry cfg env now e).1.peer = e.peer := by simp [dispatchEntry]
@[simp] theorem dispatchEntry_expires : (dispatchEntry cfg env now e).1.expires = e.expires := by simp [dispatchEntry]
@[simp] theorem dispatchEntry_attempts : (dispatchEntry cfg env now e).1.attempts = e.attempts + 1 := by
  simp [dispatchEntry]
@[simp] theorem dispatchEntry_inFlight : (dispatchEntry cfg env now e).1.inFlight = env.sendOk e.peer := rfl
@[simp] theorem dispatchEntry_snd : (dispatchEntry cfg env now e).2 = env.sendOk e.peer := rfl

theorem dispatchEntry_nextAttempt : (dispatchEntry cfg env now e).1.nextAttempt =
    if env.sendOk e.peer = true then some (now + successSeconds cfg * second)
    else if exhausted cfg (e.attempts + 1) = true then none
    else some (now + backoffSeconds cfg (e.attempts + 1) * second) := by
  unfold dispatchEntry scheduleNext
  dsimp only
  split
  · rfl
  · split <;> rfl

end

theorem lt_of_canDispatch {cfg : Cfg} {st : State} {p : String} (h : canDispatch cfg st p = true)
    (hL : 0 < cfg.maxParallel) : st.active p < cfg.maxParallel := by
  simp only [canDispatch, Bool.or_eq_true, beq_iff_eq, decide_eq_true_eq] at h
  omega

def NotFlying (l : List Entry) (ks : List String) : Prop := ∀ k ∈ ks, ∀ e, find l k = some e → e.inFlight = false

theorem inv_dispatchLoop {cfg : Cfg} {env : Env} {now : Int} {ks : List String} {acc : LoopAcc} :
    Inv cfg acc.st → ks.Nodup → NotFlying acc.st.pending ks → Inv cfg (dispatchLoop cfg env now ks acc).st := by
  fun_induction dispatchLoop cfg env now ks acc with
  | case1 | case2 => exact fun h _ _ => h
  | case3 k ks acc _ _ ih | case4 k ks acc _ _ _ _ ih =>
    exact fun h hnd hnf => ih h (List.nodup_cons.1 hnd).2 fun k' hk' => hnf k' (List.mem_cons_of_mem _ hk')
  | case5 k ks acc _ e hf hcd r st' ih =>
    intro h hnd hnf
    obtain ⟨hk, hnd⟩ := List.nodup_cons.1 hnd
    have hr : r.1.chunk = k := (dispatchEntry_chunk ..).trans (find_some hf).2
    refine ih (inv_replace h (hr ▸ hf) (fun p => ?_) (fun hL p => ?_)) hnd ?_
    · -- the entry was idle; it takes a slot of its provider iff the request left
      show (if env.sendOk e.peer = true then bump acc.st.active e.peer else acc.st.active) p = _
      rw [ite_bump_apply, occ_idle (hnf k List.mem_cons_self e hf), occ, dispatchEntry_inFlight, dispatchEntry_peer]
      rfl
    · have := h.limit hL p
      have hlt := lt_of_canDispatch (by rwa [Bool.not_eq_true', Bool.not_eq_false] at hcd) hL
      rw [ite_bump_apply]
      split
      · next hp => have := hp.2 ▸ hlt; omega
      · omega
    · intro k' hk' x hx
      rw [find_replace_ne _ _ (hr ▸ fun heq => hk (heq ▸ hk'))] at hx
      exact hnf k' (List.mem_cons_of_mem _ hk') x hx

theorem insertBy_perm (le : Entry → Entry → Bool) (x : Entry) (l : List Entry) : (insertBy le x l).Perm (x :: l) := by
  induction l with
  | nil => exact .refl _
  | cons y ys ih =>
    unfold insertBy
    split
    · exact .refl _
    · exact (ih.cons y).trans (.swap x y ys)

theorem sortBy_perm (le : Entry → Entry → Bool) (l : List Entry) : (sortBy le l).Perm l := by
  induction l with
  | nil => exact List.Perm.refl _
  | cons x xs ih => exact (insertBy_perm le x _).trans (List.Perm.cons x ih)

/-- the keys handed to the second loop, in whatever order, are distinct and belong to idle entries -/
theorem ready_facts {l : List Entry} (hu : (keys l).Nodup) {env : Env} {now wall : Int} {r : List Entry}
    (hperm : r.Perm (l.filter (isReady env now wall))) :
    (r.map (·.chunk)).Nodup ∧ NotFlying l (r.map (·.chunk)) := by
  refine ⟨(hperm.map _).nodup_iff.2 (hu.sublist (List.filter_sublist.map _)), fun k hk x hx => ?_⟩
  obtain ⟨e, he, rfl⟩ := List.mem_map.1 hk
  obtain ⟨hel, hr⟩ := List.mem_filter.1 (hperm.mem_iff.1 he)
  cases (find_of_mem hu hel).symm.trans hx
  simp only [isReady, Bool.and_eq_true, Bool.not_eq_true'] at hr
  exact hr.1.2

theorem inv_process {cfg : Cfg} {s : State} (h : Inv cfg s) (env : Env) (now wall : Int) :
    Inv cfg (process cfg env now wall s).1 := by
  have h1 : Inv cfg ⟨(pass1 cfg env now wall s.pending s.active).1, (pass1 cfg env now wall s.pending s.active).2⟩ := by
    refine ⟨?_, fun p => ?_, fun hL p => Nat.le_trans (pass1_le ..) (h.limit hL p)⟩
    · show (keys (pass1 ..).1).Nodup
      rw [pass1_fst, keys, List.map_map]
      exact (List.map_congr_left fun e _ => touch_chunk ..).symm ▸ h.uniq
    · show (pass1 ..).2 p = cnt p (pass1 ..).1
      rw [pass1_fst, pass1_count _ (fun _ => 0) (fun q => (h.count q).trans (Nat.zero_add _).symm), Nat.zero_add]
  have hr := ready_facts h1.uniq (sortBy_perm (readyLe wall) (List.filter (isReady env now wall) _))
  exact inv_clearAll (inv_dispatchLoop h1 hr.1 hr.2)

theorem inv_upsert {cfg : Cfg} {s : State} (h : Inv cfg s) (env : Env) (now wall : Int) (c p : String) (x : Int) :
    Inv cfg (upsert cfg env now wall s c p x) := by
  unfold upsert
  split
  · next hf =>
    refine ⟨?_, fun q => ?_, h.limit⟩
    · show (keys (s.pending ++ [freshEntry cfg env now wall c p x])).Nodup
      rw [keys, List.map_append]
      refine List.nodup_append.2 ⟨h.uniq, List.pairwise_singleton _ _, fun a ha b hb heq => find_none hf ?_⟩
      rw [← show b = c from List.mem_singleton.1 hb, ← heq]
      exact ha
    · show s.active q = cnt q (s.pending ++ [freshEntry cfg env now wall c p x])
      rw [cnt_append, cnt_cons, occ_idle rfl, h.count q]
      rfl
  · next old hf =>
    have ha : ∀ q, (if (old.inFlight && !false) = true then drop s.active old.peer else s.active) q
        = s.active q - occ q old := fun q => by
      rw [Bool.not_false, Bool.and_true, ite_drop_apply]
      rfl
    refine inv_replace h (e := retarget cfg env now wall old p x) ((find_some hf).2.symm ▸ hf) (fun q => (ha q).trans ?_)
      (fun hL q => Nat.le_trans (Nat.le_of_eq (ha q)) (Nat.le_trans (Nat.sub_le ..) (h.limit hL q)))
    rw [occ_idle (e := retarget cfg env now wall old p x) rfl]
    rfl

theorem inv_step {cfg : Cfg} {s : State} (h : Inv cfg s) (e : Step) : Inv cfg (step cfg s e).1 := by
  unfold step
  cases e.op with
  | announce c p x =>
    simp only [announce]
    split
    · exact h
    · exact inv_process (inv_upsert h ..) ..
  | arrive c => exact inv_clear h c
  | tick => exact inv_process h ..

theorem inv_run {cfg : Cfg} (hist : List Step) : ∀ {s : State}, Inv cfg s → Inv cfg (run cfg s hist) := by
  induction hist with
  | nil => exact id
  | cons e rest ih => exact fun h => ih (inv_step h e)

theorem clearAll_pending (ks : List String) :
    ∀ st : State, (clearAll st ks).pending = st.pending.filter (fun e => !ks.contains e.chunk) := by
  induction ks with
  | nil => exact fun st => (List.filter_eq_self.2 fun _ _ => rfl).symm
  | cons k rest ih =>
    intro st
    rw [clearAll, ih, clear_pending, erase, List.filter_filter]
    exact List.filter_congr fun e _ => by rw [List.contains_cons, Bool.not_or, Bool.and_comm]

theorem completed_dispatchEntry {cfg : Cfg} {env : Env} {now wall : Int} {e : Entry}
    (h : completed env wall (dispatchEntry cfg env now e).1 = true) :
    completed env wall e = true ∨
      (dispatchEntry cfg env now e).2 = false ∧ exhausted cfg (dispatchEntry cfg env now e).1.attempts = true := by
  simp only [completed, manifestExpired, dispatchEntry_chunk, dispatchEntry_expires, dispatchEntry_nextAttempt,
    dispatchEntry_snd, dispatchEntry_attempts, Bool.or_eq_true] at h ⊢
  rcases h with h | h
  · exact Or.inl (Or.inl h)
  · right
    split at h
    · cases h
    · next hok =>
      refine ⟨Bool.not_eq_true _ ▸ hok, ?_⟩
      split at h
      · assumption
      · cases h

/-- every finished entry still in the map is scheduled for removal at the end of the pass -/
def Covered (env : Env) (wall : Int) (ck : List String) (acc : LoopAcc) : Prop :=
  ∀ e ∈ acc.st.pending, completed env wall e = true → e.chunk ∈ ck ∨ e.chunk ∈ acc.exhaustedKeys

theorem covered_loop {cfg : Cfg} {env : Env} {now wall : Int} {ck ks : List String} {acc : LoopAcc} :
    Covered env wall ck acc → Covered env wall ck (dispatchLoop cfg env now ks acc) := by
  fun_induction dispatchLoop cfg env now ks acc with
  | case1 | case2 => exact id
  | case3 _ _ _ _ _ ih | case4 _ _ _ _ _ _ _ ih => exact ih
  | case5 k ks acc _ e hf _ r st' ih =>
    refine fun h => ih fun x hx hcx => ?_
    have hmono : ∀ c ∈ acc.exhaustedKeys,
        c ∈ if (!r.2 && exhausted cfg r.1.attempts) = true then acc.exhaustedKeys ++ [k] else acc.exhaustedKeys := by
      intro c hc
      split
      · exact List.mem_append_left _ hc
      · exact hc
    have hk : r.1.chunk = e.chunk := dispatchEntry_chunk ..
    rcases mem_replace hx with rfl | hxl
    · rcases completed_dispatchEntry hcx with hc | ⟨h1, h2⟩
      · rw [hk]
        exact (h e (find_some hf).1 hc).imp_right (hmono _)
      · right
        show r.1.chunk ∈ if (!r.2 && exhausted cfg r.1.attempts) = true then _ else _
        rw [h1, h2, hk, (find_some hf).2]
        exact List.mem_append_right _ List.mem_cons_self
    · exact (h x hxl hcx).imp_right (hmono _)

/-- **what a pass leaves behind**: no entry whose chunk is held, whose manifest has expired, or whose
    attempts are exhausted survives `process_pending_fetches` -/
theorem process_drops {cfg : Cfg} {env : Env} {now wall : Int} {s : State} :
    ∀ e ∈ (process cfg env now wall s).1.pending, completed env wall e = false := by
  intro e he
  unfold process at he
  rw [clearAll_pending] at he
  obtain ⟨hmem, hnot⟩ := List.mem_filter.1 he
  rw [Bool.not_eq_true', ← Bool.not_eq_true, List.contains_iff_mem, List.mem_append] at hnot
  exact Bool.eq_false_iff.2 fun hc => hnot <|
    covered_loop (fun x hx hcx => Or.inl (List.mem_map.2 ⟨x, List.mem_filter.2 ⟨hx, hcx⟩, rfl⟩)) e hmem hc

/-! ### Expiries are only ever set by an announce -/

/-- every entry carries an expiry, none later than `B` -/
def Bounded (B : Int) (l : List Entry) : Prop := ∀ e ∈ l, e.expires ≠ 0 ∧ e.expires ≤ B

theorem bounded_nil (B : Int) : Bounded B [] := fun _ h => nomatch h

theorem bounded_mono {B B' : Int} (h : B ≤ B') {l : List Entry} (hb : Bounded B l) : Bounded B' l :=
  fun e he => ⟨(hb e he).1, Int.le_trans (hb e he).2 h⟩

theorem bounded_loop {cfg : Cfg} {env : Env} {now : Int} {B : Int} {ks : List String} {acc : LoopAcc} :
    Bounded B acc.st.pending → Bounded B (dispatchLoop cfg env now ks acc).st.pending := by
  fun_induction dispatchLoop cfg env now ks acc with
  | case1 | case2 => exact id
  | case3 _ _ _ _ _ ih | case4 _ _ _ _ _ _ _ ih => exact ih
  | case5 k ks acc _ e hf _ r st' ih =>
    refine fun h => ih fun x hx => ?_
    rcases mem_replace hx with rfl | hxl
    · exact (dispatchEntry_expires ..).symm ▸ h e (find_some hf).1
    · exact h x hxl

theorem bounded_process {cfg : Cfg} {env : Env} {now wall : Int} {B : Int} {s : State}
    (h : Bounded B s.pending) : Bounded B (process cfg env now wall s).1.pending := by
  intro e he
  unfold process at he
  rw [clearAll_pending] at he
  refine bounded_loop (fun x hx => ?_) e (List.mem_filter.1 he).1
  rw [pass1_fst] at hx
  obtain ⟨y, hy, rfl⟩ := List.mem_map.1 hx
  exact (touch_expires ..).symm ▸ h y hy

theorem bounded_upsert {cfg : Cfg} {env : Env} {now wall : Int} {B : Int} {s : State} {c p : String} {x : Int}
    (h : Bounded B s.pending) (hx : cappedExpiry cfg wall x ≠ 0 ∧ cappedExpiry cfg wall x ≤ B) :
    Bounded B (upsert cfg env now wall s c p x).pending := by
  unfold upsert
  split
  · intro e he
    rcases List.mem_append.1 he with h1 | h2
    · exact h e h1
    · cases List.mem_singleton.1 h2; exact hx
  · intro e he
    rcases mem_replace he with rfl | h1
    · exact hx
    · exact h e h1

/-- what `handle_announce` guarantees about an announce it passes on: the manifest has not expired
    (so its expiry, and the wall clock, are positive) -/
def Guarded (s : Step) : Prop :=
  match s.op with
  | .announce _ _ x => 0 < x ∧ 0 < s.wall
  | _ => True

def horizonFrom (cfg : Cfg) (B : Int) : List Step → Int
  | [] => B
  | s :: rest =>
    horizonFrom cfg (match s.op with
      | .announce _ _ _ => max B (s.wall + cfg.maxTtl * second)
      | _ => B) rest

def horizon (cfg : Cfg) (hist : List Step) : Int := horizonFrom cfg 0 hist

theorem bounded_step {cfg : Cfg} (hm : 0 ≤ cfg.maxTtl) {s : State} {B : Int} (hb : Bounded B s.pending) (t : Step)
    (hg : Guarded t) : Bounded (horizonFrom cfg B [t]) (step cfg s t).1.pending := by
  unfold step
  simp only [horizonFrom]
  cases hop : t.op with
  | announce c p x =>
    simp only [Guarded, hop] at hg
    have hb' := bounded_mono (Int.le_max_left B (t.wall + cfg.maxTtl * second)) hb
    simp only [announce]
    split
    · exact hb'
    · refine bounded_process (bounded_upsert hb' ?_)
      have : 0 ≤ cfg.maxTtl * second := Int.mul_nonneg hm (by decide)
      unfold cappedExpiry
      omega
  | arrive c => exact fun e he => hb e (List.mem_filter.1 (clear_pending s c ▸ he)).1
  | tick => exact bounded_process hb

theorem bounded_run {cfg : Cfg} (hm : 0 ≤ cfg.maxTtl) (hist : List Step) :
    ∀ {s : State} {B : Int}, Bounded B s.pending → (∀ t ∈ hist, Guarded t) →
      Bounded (horizonFrom cfg B hist) (run cfg s hist).pending := by
  induction hist with
  | nil => exact fun hb _ => hb
  | cons t rest ih =>
    exact fun hb hg => ih (bounded_step hm hb t (hg t List.mem_cons_self)) fun u hu => hg u (List.mem_cons_of_mem _ hu)

end EphVerif.Fetches
