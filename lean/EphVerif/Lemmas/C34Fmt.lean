import EphVerif.Lemmas.C34Text

/-! Helper lemmas for C34: the shape of `inet_ntop(AF_INET6)` text (`fmt6`) for the address classes of the property. -/
namespace EphVerif.C34L
open EphVerif.Adv EphVerif.Gen.C34

/-! ### the zero-run choice only depends on which groups are zero: finite checks -/

def runFrom (k : Nat) (r : Option (Nat × Nat)) : Bool :=
  match r with
  | none => true
  | some (b, _) => decide (k ≤ b)

theorem bestRun_from1 : ∀ z1 z2 z3 z4 z5 z6 z7 : Bool,
    runFrom 1 (bestRun [false, z1, z2, z3, z4, z5, z6, z7]) = true := by decide

theorem bestRun_from2 : ∀ z2 z3 z4 z5 z6 z7 : Bool,
    runFrom 2 (bestRun [false, false, z2, z3, z4, z5, z6, z7]) = true := by decide

theorem bestRun_mapped : ∀ z6 z7 : Bool,
    bestRun [true, true, true, true, true, false, z6, z7] = some (0, 5) := by decide

theorem joinColon_append : ∀ xs ys : List Str, joinColon xs <+: joinColon (xs ++ ys)
  | [], ys => List.nil_prefix
  | [x], [] => List.prefix_rfl
  | [x], y :: r => List.prefix_append _ _
  | x :: y :: r, ys => by
    obtain ⟨t, ht⟩ := joinColon_append (y :: r) ys
    exact ⟨t, by rw [List.cons_append, List.cons_append, joinColon, joinColon, ← List.cons_append, ← ht, List.append_assoc,
      List.cons_append]⟩

theorem fmt6_prefix (g : List Nat) (k : Nat) (h1 : 1 ≤ k) (hk : runFrom k (bestRun (g.map (· == 0))) = true) :
    joinColon ((g.take k).map hex16) <+: fmt6 g := by
  unfold fmt6
  generalize bestRun (g.map (· == 0)) = r at hk
  match r, hk with
  | none, _ =>
    have := joinColon_append ((g.take k).map hex16) ((g.drop k).map hex16)
    rwa [← List.map_append, List.take_append_drop] at this
  | some (b, l), hk =>
    have hb : k ≤ b := of_decide_eq_true hk
    have hz : (b == 0) = false := by rw [beq_eq_false_iff_ne]; omega
    have := joinColon_append (((g.take b).take k).map hex16) (((g.take b).drop k).map hex16)
    rw [← List.map_append, List.take_append_drop, List.take_take, Nat.min_eq_left hb] at this
    simp only [hz, Bool.false_and, Bool.false_eq_true, if_false]
    exact this.trans (List.prefix_append _ _)

theorem fmt6_head (g0 g1 g2 g3 g4 g5 g6 g7 : Nat) (h0 : g0 ≠ 0) :
    hex16 g0 <+: fmt6 [g0, g1, g2, g3, g4, g5, g6, g7] :=
  fmt6_prefix [g0, g1, g2, g3, g4, g5, g6, g7] 1 (Nat.le_refl 1) (by
    simp only [List.map_cons, List.map_nil, beq_eq_false_iff_ne.mpr h0]; exact bestRun_from1 _ _ _ _ _ _ _)

theorem fmt6_head2 (g0 g1 g2 g3 g4 g5 g6 g7 : Nat) (h0 : g0 ≠ 0) (h1 : g1 ≠ 0) :
    hex16 g0 ++ ':' :: hex16 g1 <+: fmt6 [g0, g1, g2, g3, g4, g5, g6, g7] :=
  fmt6_prefix [g0, g1, g2, g3, g4, g5, g6, g7] 2 (by decide) (by
    simp only [List.map_cons, List.map_nil, beq_eq_false_iff_ne.mpr h0, beq_eq_false_iff_ne.mpr h1]
    exact bestRun_from2 _ _ _ _ _ _)

theorem fmt6_mapped (g6 g7 : Nat) :
    fmt6 [0, 0, 0, 0, 0, 0xffff, g6, g7] =
      [':', ':', 'f', 'f', 'f', 'f', ':'] ++ fmt4 (g6 / 256) (g6 % 256) (g7 / 256) (g7 % 256) := by
  have h := bestRun_mapped (g6 == 0) (g7 == 0)
  unfold fmt6
  rw [show List.map (· == 0) [0, 0, 0, 0, 0, 0xffff, g6, g7] = [true, true, true, true, true, false, g6 == 0, g7 == 0] from rfl, h]
  rfl

theorem fmt6_colon (g0 g1 g2 g3 g4 g5 g6 g7 : Nat) : ':' ∈ fmt6 [g0, g1, g2, g3, g4, g5, g6, g7] := by
  unfold fmt6
  generalize bestRun (List.map (· == 0) [g0, g1, g2, g3, g4, g5, g6, g7]) = r
  match r with
  | none => exact List.mem_append_right _ List.mem_cons_self
  | some (b, l) =>
    simp only
    split
    · exact List.mem_cons_self
    · exact List.mem_append_right _ List.mem_cons_self

theorem hex16_hi (g : Nat) (h : 4096 ≤ g) :
    hex16 g = [hexChar (g / 4096 % 16), hexChar (g / 256 % 16), hexChar (g / 16 % 16), hexChar (g % 16)] := by
  unfold hex16
  rw [if_neg (by omega), if_neg (by omega), if_neg (by omega)]

end EphVerif.C34L
