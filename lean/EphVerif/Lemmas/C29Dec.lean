/-
Decimal rendering and parsing (`std::to_string` / `from_chars`) are inverse on `uint64`, and a
rendered number is a short string of digits (C29).
-/
import EphVerif.Model.ControlWire

namespace EphVerif.Control

theorem digit_toNat (d : Nat) : (digit d).toNat = 48 + d % 10 := by
  unfold digit
  rw [UInt8.toNat_ofNat']
  omega

theorem isDigit_digit (d : Nat) : isDigit (digit d) = true := by
  unfold isDigit
  rw [digit_toNat, Bool.and_eq_true, decide_eq_true_eq, decide_eq_true_eq]
  omega

theorem toDec_digits (n : Nat) : ∀ c ∈ toDec n, isDigit c = true := by
  induction n using Nat.strongRecOn with
  | _ n ih =>
    intro c hc
    rw [toDec] at hc
    split at hc
    · rw [List.mem_singleton.mp hc]; exact isDigit_digit n
    · rcases List.mem_append.mp hc with hc | hc
      · exact ih (n / 10) (by omega) c hc
      · rw [List.mem_singleton.mp hc]; exact isDigit_digit _

/-- a rendered number contains none of the bytes the framing and the LIST format care about -/
theorem toDec_clean (n : Nat) : ∀ c ∈ toDec n, c ≠ 10 ∧ c ≠ 13 ∧ c ≠ 92 ∧ c ≠ 44 := by
  intro c hc
  have h := toDec_digits n c hc
  simp only [isDigit, Bool.and_eq_true, decide_eq_true_eq] at h
  refine ⟨?_, ?_, ?_, ?_⟩ <;> (rintro rfl; simp at h)

theorem toDec_ne_nil (n : Nat) : toDec n ≠ [] := by
  rw [toDec]
  split <;> simp

theorem toDec_length_le : ∀ (k n : Nat), n < 10 ^ k → (toDec n).length ≤ max k 1
  | 0, n, h => by
    have : n = 0 := by simpa using h
    subst this; rw [toDec]; simp
  | k + 1, n, h => by
    rw [toDec]
    split
    · simp
    · have : n / 10 < 10 ^ k := Nat.div_lt_of_lt_mul (by rw [Nat.pow_succ] at h; omega)
      have ih := toDec_length_le k (n / 10) this
      have hk : k ≠ 0 := by rintro rfl; simp at this; omega
      simp only [List.length_append, List.length_cons, List.length_nil]
      omega

theorem toDec_len20 {n : Nat} (h : n < 18446744073709551616) : (toDec n).length ≤ 20 :=
  toDec_length_le 20 n (by omega)

theorem ofDecAux_append : ∀ (l m : Bytes) (acc : Nat), ofDecAux (l ++ m) acc = (ofDecAux l acc).bind (ofDecAux m)
  | [], _, _ => rfl
  | c :: l, m, acc => by
    rw [List.cons_append, ofDecAux, ofDecAux]
    split
    · dsimp only
      split
      · exact ofDecAux_append l m _
      · rfl
    · rfl

theorem ofDecAux_digit {d acc : Nat} (hd : d < 10) (h : acc * 10 + d < 18446744073709551616) :
    ofDecAux [digit d] acc = some (acc * 10 + d) := by
  rw [ofDecAux, if_pos (isDigit_digit d), digit_toNat, Nat.mod_eq_of_lt hd, Nat.add_sub_cancel_left]
  exact if_pos h

theorem ofDecAux_toDec (n : Nat) : n < 18446744073709551616 → ofDecAux (toDec n) 0 = some n := by
  induction n using Nat.strongRecOn with
  | _ n ih =>
    intro hn
    rw [toDec]
    split
    · exact (ofDecAux_digit ‹_› (by omega)).trans (by rw [Nat.zero_mul, Nat.zero_add])
    · rw [ofDecAux_append, ih (n / 10) (by omega) (by omega), Option.bind_some,
        ofDecAux_digit (Nat.mod_lt n (by decide)) (by omega), Nat.div_add_mod']

theorem parseU64_toDec (n : Nat) (hn : n < 18446744073709551616) : parseU64 (toDec n) = some n := by
  unfold parseU64
  rw [if_neg (by simpa using toDec_ne_nil n)]
  exact ofDecAux_toDec n hn

end EphVerif.Control
