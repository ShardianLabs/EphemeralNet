import EphVerif.Model.Routing
import EphVerif.Spec.Routing

/-!
Bit-level lemmas for C07: big-endian value of byte strings, XOR across the high byte, `Nat.log2`
of a value with a known top byte, the byte-wise `countl_zero` loop of `bucket_index_for`, and
byte-lexicographic order = numeric order.
-/
namespace EphVerif.C07L
open EphVerif.Routing EphVerif.C07Spec

def Bytes (l : List Nat) : Prop := ∀ b ∈ l, b < 256

theorem Bytes.tail {b : Nat} {l : List Nat} (h : Bytes (b :: l)) : Bytes l :=
  fun x hx => h x (List.mem_cons_of_mem _ hx)

theorem Bytes.head {b : Nat} {l : List Nat} (h : Bytes (b :: l)) : b < 256 :=
  h b (List.mem_cons_self)

@[elab_as_elim]
theorem Bytes.rec₂ {motive : List Nat → List Nat → Prop} (nil : motive [] [])
    (cons : ∀ x y as bs, x < 256 → y < 256 → as.length = bs.length → Bytes as → Bytes bs →
      motive as bs → motive (x :: as) (y :: bs)) :
    ∀ a b, a.length = b.length → Bytes a → Bytes b → motive a b
  | [], [], _, _, _ => nil
  | x :: as, y :: bs, hl, ha, hb =>
    have hl := Nat.succ.inj hl
    cons x y as bs ha.head hb.head hl ha.tail hb.tail (Bytes.rec₂ nil cons as bs hl ha.tail hb.tail)

theorem pow256 (n : Nat) : 256 ^ n = 2 ^ (8 * n) := by
  rw [Nat.pow_mul]

theorem hi_lt {x y A B P : Nat} (h : x < y) (hA : A < P) : x * P + A < y * P + B := by
  have h1 : (x + 1) * P ≤ y * P := Nat.mul_le_mul_right _ h
  rw [Nat.add_mul, Nat.one_mul] at h1
  omega

theorem hi_lo_inj {x y A B P : Nat} (hA : A < P) (hB : B < P) (h : x * P + A = y * P + B) : x = y ∧ A = B := by
  rcases Nat.lt_trichotomy x y with hlt | heq | hgt
  · have := hi_lt (B := B) hlt hA; omega
  · subst heq; omega
  · have := hi_lt (B := A) hgt hB; omega

theorem toNat_lt : ∀ (l : List Nat), Bytes l → toNat l < 256 ^ l.length
  | [], _ => Nat.one_pos
  | b :: bs, h => by
    have := hi_lt (B := 0) h.head (toNat_lt bs h.tail)
    rwa [Nat.add_zero, ← Nat.pow_succ'] at this

theorem toNat_inj {a b : List Nat} (hl : a.length = b.length) (ha : Bytes a) (hb : Bytes b)
    (h : toNat a = toNat b) : a = b := by
  revert h
  refine Bytes.rec₂ (fun _ => rfl) (fun x y as bs _ _ hl ha hb ih h => ?_) a b hl ha hb
  simp only [toNat, hl] at h
  obtain ⟨h1, h2⟩ := hi_lo_inj (hl ▸ toNat_lt as ha) (toNat_lt bs hb) h
  rw [h1, ih h2]

theorem xor_right_cancel {a b t : Nat} (h : a ^^^ t = b ^^^ t) : a = b := by
  have : (a ^^^ t) ^^^ t = (b ^^^ t) ^^^ t := by rw [h]
  rwa [Nat.xor_assoc, Nat.xor_assoc, Nat.xor_self, Nat.xor_zero, Nat.xor_zero] at this

theorem xor_eq_zero_iff {a b : Nat} : a ^^^ b = 0 ↔ a = b :=
  ⟨fun h => xor_right_cancel (t := b) (by rw [h, Nat.xor_self]), fun h => by rw [h, Nat.xor_self]⟩

theorem xor_split {k a b A B : Nat} (hA : A < 2 ^ k) (hB : B < 2 ^ k) :
    (a * 2 ^ k + A) ^^^ (b * 2 ^ k + B) = (a ^^^ b) * 2 ^ k + (A ^^^ B) := by
  have hAB : A ^^^ B < 2 ^ k := Nat.xor_lt_two_pow hA hB
  apply Nat.eq_of_testBit_eq
  intro j
  rw [Nat.mul_comm a, Nat.mul_comm b, Nat.mul_comm (a ^^^ b)]
  rw [Nat.testBit_xor, Nat.testBit_two_pow_mul_add _ hA, Nat.testBit_two_pow_mul_add _ hB,
    Nat.testBit_two_pow_mul_add _ hAB]
  split <;> simp [Nat.testBit_xor]

theorem log2_hi {k d r : Nat} (hd : d ≠ 0) (hr : r < 2 ^ k) : Nat.log2 (d * 2 ^ k + r) = k + Nat.log2 d := by
  have h1 := Nat.mul_le_mul_right (2 ^ k) (Nat.log2_self_le hd)
  have h2 := hi_lt (B := 0) (@Nat.lt_log2_self d) hr
  have hne : d * 2 ^ k + r ≠ 0 := by
    have := Nat.mul_pos (Nat.pos_of_ne_zero hd) (Nat.two_pow_pos k)
    omega
  rw [Nat.log2_eq_iff hne, Nat.add_comm k, Nat.add_right_comm, Nat.pow_add, Nat.pow_add]
  omega

theorem clz8_add_log2 {d : Nat} (h0 : d ≠ 0) (h : d < 256) : clz8 d + Nat.log2 d = 7 := by
  have hn : Nat.log2 d < 8 := (Nat.log2_lt h0).2 h
  -- each test `d ≥ 2^k` of `clz8` asks whether `k ≤ log2 d`; what is left is a table over `log2 d < 8`
  have e : ∀ k, 2 ^ k ≤ d ↔ k ≤ Nat.log2 d := fun k => (Nat.le_log2 h0).symm
  simp only [clz8, ge_iff_le, e 7, e 6, e 5, e 4, e 3, e 2, e 1, e 0]
  generalize Nat.log2 d = n at hn ⊢
  revert n
  decide

theorem toNat_lt_two_pow (l : List Nat) (h : Bytes l) : toNat l < 2 ^ (8 * l.length) :=
  pow256 _ ▸ toNat_lt l h

theorem toNat_xor_lt {a b : List Nat} (hl : a.length = b.length) (ha : Bytes a) (hb : Bytes b) :
    toNat a ^^^ toNat b < 2 ^ (8 * a.length) :=
  Nat.xor_lt_two_pow (toNat_lt_two_pow a ha) (hl ▸ toNat_lt_two_pow b hb)

theorem toNat_cons_xor (x y : Nat) {as bs : List Nat} (hl : as.length = bs.length) (ha : Bytes as) (hb : Bytes bs) :
    toNat (x :: as) ^^^ toNat (y :: bs) = (x ^^^ y) * 2 ^ (8 * as.length) + (toNat as ^^^ toNat bs) := by
  simp only [toNat, ← hl, pow256]
  exact xor_split (toNat_lt_two_pow as ha) (hl ▸ toNat_lt_two_pow bs hb)

theorem scan_self (a : List Nat) (lz : Nat) : (scan a a lz).2 = true := by
  induction a generalizing lz with
  | nil => rfl
  | cons x xs ih => rw [scan, Nat.xor_self]; exact ih _

theorem bucketIndexFor_self (a : List Nat) : bucketIndexFor a a = none := by
  simp only [bucketIndexFor, scan_self, Bool.true_or, if_true]

theorem bucketIndexFor_lt {self peer : List Nat} {i : Nat} (h : bucketIndexFor self peer = some i) : i < kIdBits := by
  unfold bucketIndexFor at h
  dsimp only at h
  split at h
  · cases h
  · rename_i hc
    simp only [Bool.or_eq_true, decide_eq_true_eq, not_or] at hc
    cases h; omega

/-- the `for` loop of `bucket_index_for` counts the leading zero bits of `self xor peer`: together
    with the position of the highest set bit they make up all the bits -/
theorem scan_of_ne {a b : List Nat} (hl : a.length = b.length) (ha : Bytes a) (hb : Bytes b) : a ≠ b → ∀ lz,
    (scan a b lz).2 = false ∧ (scan a b lz).1 + Nat.log2 (toNat a ^^^ toNat b) + 1 = lz + 8 * a.length := by
  refine Bytes.rec₂ (fun h => absurd rfl h) (fun x y as bs hx hy hl ha hb ih hne lz => ?_) a b hl ha hb
  have hxor := toNat_cons_xor x y hl ha hb
  by_cases hd : x ^^^ y = 0
  · obtain rfl := xor_eq_zero_iff.1 hd
    have := ih (fun h => hne (h ▸ rfl)) (lz + 8)
    simp only [scan, hd, if_true, List.length_cons, hxor, Nat.zero_mul, Nat.zero_add]
    exact ⟨this.1, by omega⟩
  · have := clz8_add_log2 hd (Nat.xor_lt_two_pow (n := 8) hx hy)
    simp only [scan, hd, if_false, true_and, List.length_cons, hxor, log2_hi hd (toNat_xor_lt hl ha hb)]
    omega

/-- `bucket_index_for` returns the position of the highest set bit of `self xor peer`
    (`kIdBits` being 8 bits per id byte), and nothing for the local id itself -/
theorem bucketIndexFor_eq {self peer : List Nat} (hl : self.length = peer.length) (hk : kIdBits = 8 * self.length)
    (hs : Bytes self) (hp : Bytes peer) :
    bucketIndexFor self peer = if self = peer then none else some (Nat.log2 (toNat self ^^^ toNat peer)) := by
  by_cases he : self = peer
  · rw [if_pos he, he, bucketIndexFor_self]
  · have h := scan_of_ne hl hs hp he 0
    have hlt : ¬ (scan self peer 0).1 ≥ kIdBits := by omega
    simp only [bucketIndexFor, h.1, Bool.false_or, decide_eq_true_eq, if_neg hlt, if_neg he]
    congr 1; omega

theorem highest_bit_iff {n i : Nat} :
    (n.testBit i = true ∧ ∀ j, i < j → n.testBit j = false) ↔ n ≠ 0 ∧ i = Nat.log2 n := by
  constructor
  · rintro ⟨h1, h2⟩
    have hge := Nat.ge_two_pow_of_testBit h1
    have hne : n ≠ 0 := by have := Nat.two_pow_pos i; omega
    exact ⟨hne, ((Nat.log2_eq_iff hne).2 ⟨hge, Nat.lt_pow_two_of_testBit _ h2⟩).symm⟩
  · rintro ⟨hne, rfl⟩
    exact ⟨Nat.testBit_log2 hne, fun j hj => Nat.testBit_lt_two_pow
      (Nat.lt_of_lt_of_le Nat.lt_log2_self (Nat.pow_le_pow_right (by omega) hj))⟩

theorem highestDiff_iff {a b i : Nat} : HighestDiff a b i ↔ a ≠ b ∧ i = bucketOf a b := by
  have hne : a ≠ b ↔ a ^^^ b ≠ 0 := not_congr xor_eq_zero_iff.symm
  rw [bucketOf, hne, ← highest_bit_iff]
  simp only [HighestDiff, Nat.testBit_xor, bne_iff_ne, bne_eq_false_iff_eq, ne_eq]

theorem length_xorDistance (a b : List Nat) : (xorDistance a b).length = min a.length b.length :=
  List.length_zipWith

theorem bytes_xorDistance {a b : List Nat} (hl : a.length = b.length) (ha : Bytes a) (hb : Bytes b) :
    Bytes (xorDistance a b) :=
  Bytes.rec₂ (fun _ h => nomatch h)
    (fun _ _ _ _ hx hy _ _ _ ih => List.forall_mem_cons.2 ⟨Nat.xor_lt_two_pow (n := 8) hx hy, ih⟩) a b hl ha hb

theorem toNat_xorDistance {a b : List Nat} (hl : a.length = b.length) (ha : Bytes a) (hb : Bytes b) :
    toNat (xorDistance a b) = toNat a ^^^ toNat b := by
  refine Bytes.rec₂ rfl (fun x y as bs _ _ hl ha hb ih => ?_) a b hl ha hb
  rw [toNat_cons_xor x y hl ha hb, ← ih, ← pow256]
  simp only [xorDistance, List.zipWith_cons_cons, toNat, List.length_zipWith, hl, Nat.min_self]

theorem lexLt_iff {a b : List Nat} (hl : a.length = b.length) (ha : Bytes a) (hb : Bytes b) :
    lexLt a b = true ↔ toNat a < toNat b := by
  refine Bytes.rec₂ (by simp [lexLt, toNat]) (fun x y as bs _ _ hl ha hb ih => ?_) a b hl ha hb
  have hA := toNat_lt as ha
  have hB := toNat_lt bs hb
  rw [hl] at hA
  simp only [lexLt, toNat, hl]
  by_cases h1 : x < y
  · simp only [h1, if_true, true_iff]; exact hi_lt h1 hA
  · by_cases h2 : y < x
    · have := hi_lt (B := toNat as) h2 hB
      simp only [h1, h2, if_false, if_true, Bool.false_eq_true, false_iff]; omega
    · obtain rfl : x = y := by omega
      simp only [Nat.lt_irrefl, if_false, ih]
      omega

theorem lexLt_xorDistance {a b t : List Nat} (hat : a.length = t.length) (hbt : b.length = t.length)
    (ha : Bytes a) (hb : Bytes b) (ht : Bytes t) :
    lexLt (xorDistance a t) (xorDistance b t) = true ↔ toNat a ^^^ toNat t < toNat b ^^^ toNat t := by
  rw [lexLt_iff (by rw [length_xorDistance, length_xorDistance, hat, hbt])
    (bytes_xorDistance hat ha ht) (bytes_xorDistance hbt hb ht),
    toNat_xorDistance hat ha ht, toNat_xorDistance hbt hb ht]

end EphVerif.C07L
