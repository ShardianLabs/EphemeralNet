/-
The invariant that every history of connections and clock advances keeps (C28.rate): per peer
address, each bucket is in step with the log of slot-consuming replies, and those are within the limit.
-/
import EphVerif.Lemmas.C28Window
import EphVerif.Lemmas.C28Admit

namespace EphVerif.Control

def passTimesS (log : List LogEntry) (a : Bytes) : List Int :=
  (log.filter fun e => e.addr == a && storePass e.reply).map (·.time)

def passTimesF (log : List LogEntry) (a : Bytes) : List Int :=
  (log.filter fun e => e.addr == a && fetchPass e.reply).map (·.time)

structure SysInv {ν : Type} (now : Int) (st : ServerState ν) (log : List LogEntry) : Prop where
  store : ∀ a, BucketInv (Gen.C28.kStoreRateWindow * nsPerSecond) now (st.storeHist (.addr a)) (passTimesS log a) ∧
    Bounded (Gen.C28.kStoreRateWindow * nsPerSecond) Gen.C28.kStoreRateBurstLimit (passTimesS log a)
  fetch : ∀ a, BucketInv (Gen.C28.kFetchStreamRateWindow * nsPerSecond) now (st.fetchHist (.addr a)) (passTimesF log a) ∧
    Bounded (Gen.C28.kFetchStreamRateWindow * nsPerSecond) Gen.C28.kFetchStreamBurstLimit (passTimesF log a)

theorem SysInv.init {ν : Type} (now : Int) (node : ν) : SysInv now (ServerState.init node) [] :=
  ⟨fun _ => ⟨BucketInv.init _ _, Bounded.nil _ _⟩, fun _ => ⟨BucketInv.init _ _, Bounded.nil _ _⟩⟩

theorem SysInv.advance {ν : Type} {now : Int} {st : ServerState ν} {log : List LogEntry} (d : Nat) (h : SysInv now st log) :
    SysInv (now + d) st log :=
  ⟨fun a => ⟨(h.store a).1.mono (by omega), (h.store a).2⟩, fun a => ⟨(h.fetch a).1.mono (by omega), (h.fetch a).2⟩⟩

theorem Consulted.bucket {Ws L : Nat} {now : Int} {addr a : Bytes} {hist hist' : Identity → List Int} {acc : List Int}
    {pass : Bool} (hc : Consulted (allow 1 1 Ws L now (hist (.addr addr))) (.addr addr) hist hist' pass)
    (hinv : BucketInv (Ws * nsPerSecond) now (hist (.addr a)) acc) (hb : Bounded (Ws * nsPerSecond) L acc) :
    BucketInv (Ws * nsPerSecond) now (hist' (.addr a)) (acc ++ if addr == a && pass then [now] else []) ∧
    Bounded (Ws * nsPerSecond) L (acc ++ if addr == a && pass then [now] else []) := by
  rcases hc with ⟨rfl, rfl⟩ | ⟨rfl, rfl⟩
  · simpa using ⟨hinv, hb⟩
  · by_cases hab : addr = a
    · subst hab
      simpa [setHist] using allow_inv hinv hb
    · have hne : Identity.addr a ≠ .addr addr := fun h => hab (Identity.addr.inj h).symm
      simpa [setHist, hne, hab] using ⟨hinv, hb⟩

theorem map_filter_append_singleton {α β : Type} (f : α → β) (p : α → Bool) (l : List α) (e : α) :
    ((l ++ [e]).filter p).map f = (l.filter p).map f ++ if p e then [f e] else [] := by
  rw [List.filter_append, List.map_append]
  cases h : p e <;> simp [h]

section
variable {ν : Type} (sha : Bytes → Bytes) (ops : NodeOps ν) (cfg : Config)

theorem SysInv.connect (htok : cfg.token = none) {now : Int} {st : ServerState ν} {log : List LogEntry} (addr input : Bytes)
    (h : SysInv now st log) :
    SysInv now (handleClient sha ops cfg now addr st input).1
      (log ++ [{ time := now, addr := addr, reply := (handleClient sha ops cfg now addr st input).2 }]) := by
  have hs := handleClient_consulted sha ops cfg now addr st input
  -- with no token configured the bucket is the peer address's
  have hid : rateIdentity cfg addr = .addr addr := by rw [rateIdentity, htok]
  rw [hid] at hs
  constructor <;> intro a
  · rw [passTimesS, map_filter_append_singleton]
    exact hs.1.bucket (h.store a).1 (h.store a).2
  · rw [passTimesF, map_filter_append_singleton]
    exact hs.2.bucket (h.fetch a).1 (h.fetch a).2

theorem runEvents_inv (htok : cfg.token = none) :
    ∀ (evs : List Event) (now : Int) (st : ServerState ν) (log : List LogEntry), SysInv now st log →
      SysInv (runEvents sha ops cfg now st log evs).1 (runEvents sha ops cfg now st log evs).2.1
        (runEvents sha ops cfg now st log evs).2.2
  | [], _, _, _, h => h
  | .advance d :: es, now, st, log, h => by
    rw [runEvents]; exact runEvents_inv htok es _ _ _ (h.advance d)
  | .connect addr input :: es, now, st, log, h => by
    rw [runEvents]; exact runEvents_inv htok es _ _ _ (h.connect sha ops cfg htok addr input)

end

theorem map_filter_sublist_of_imp {α β : Type} (f : α → β) {p q : α → Bool} (himp : ∀ a, p a = true → q a = true)
    (l : List α) : ((l.filter p).map f).Sublist ((l.filter q).map f) := by
  have : l.filter p = (l.filter q).filter p := by
    rw [List.filter_filter]
    exact List.filter_congr fun a _ => by cases hp : p a <;> simp [himp a, hp]
  exact this ▸ List.filter_sublist.map f

/-- `timesOf`, `streamTimesOf`, `passTimesS` and `passTimesF` are this filter-map with four tests on the reply -/
theorem times_sublist {p q : Option Reply → Bool} (himp : ∀ r, p r = true → q r = true) (log : List LogEntry) (a : Bytes) :
    ((log.filter fun e => e.addr == a && p e.reply).map (·.time)).Sublist
      ((log.filter fun e => e.addr == a && q e.reply).map (·.time)) :=
  map_filter_sublist_of_imp _ (l := log) fun e he => by
    rw [Bool.and_eq_true] at he ⊢
    exact ⟨he.1, himp _ he.2⟩

theorem timesOf_sublist_S (log : List LogEntry) (a : Bytes) : (timesOf log a "OK_STORE").Sublist (passTimesS log a) :=
  times_sublist (p := replyHasCode "OK_STORE") (q := storePass) (log := log) (a := a) fun
    | none, hr => hr
    | some _, hr => storePassCode_iff.mpr (.inl (eq_of_beq hr))

theorem streamTimesOf_sublist_F (log : List LogEntry) (a : Bytes) : (streamTimesOf log a).Sublist (passTimesF log a) :=
  times_sublist (p := replyStreamed) (q := fetchPass) (log := log) (a := a) fun
    | none, hr => hr
    | some _, hr => Bool.or_eq_true_iff.mpr (.inl hr)

/-- what the invariant says of the replies C28.rate counts: the OK_STORE and the streamed OK_FETCH replies
    are among the slot-consuming ones, so they are within the limits too -/
theorem SysInv.rate {ν : Type} {now : Int} {st : ServerState ν} {log : List LogEntry} (h : SysInv now st log) (a : Bytes) :
    Bounded (Gen.C28.kStoreRateWindow * nsPerSecond) Gen.C28.kStoreRateBurstLimit (timesOf log a "OK_STORE") ∧
    Bounded (Gen.C28.kFetchStreamRateWindow * nsPerSecond) Gen.C28.kFetchStreamBurstLimit (streamTimesOf log a) :=
  ⟨(h.store a).2.sublist (timesOf_sublist_S log a), (h.fetch a).2.sublist (streamTimesOf_sublist_F log a)⟩

end EphVerif.Control
