/-
File-system effect of `sweep_expired` and of the start-up purge, with I/O errors (C04).
-/
import EphVerif.Lemmas.C04FS

namespace EphVerif.ChunkStore

/-- persistence and wipe-on-expiry are enabled (the premise of property C04) -/
def PersistCfg (cfg : Cfg) : Prop := cfg.persistent = true ∧ cfg.wipeOnExpiry = true

theorem applyOps_notChunk {ops : List FsOp} (h : ∀ o ∈ ops, o.path.isChunk = true) (fs : FS) (n : String) :
    aget (applyOps fs ops) (.other n) = aget fs (.other n) :=
  applyOps_other fun o ho hh => nomatch hh ▸ h o ho

theorem wipeAllF_chunks {cfg : Cfg} {φ : Faults} {names : List Name} {fs : FS} {n : Nat}
    (hc : ∀ q ∈ names, q.isChunk = true) : ∀ o ∈ (wipeAllF cfg φ names fs n).1, o.path.isChunk = true :=
  fun o ho => hc _ (wipeAllF_ops o ho).1

theorem purgeNames_chunk {cfg : Cfg} {fs : FS} : ∀ q ∈ purgeNames cfg fs, q.isChunk = true := by
  unfold purgeNames
  split
  · exact fun q hq => (List.mem_filter.mp hq).2
  · exact List.forall_mem_nil _

theorem sweepNames_chunk {cfg : Cfg} {now : Int} {s : Recs} {pend : List Name} (hp : ∀ q ∈ pend, q.isChunk = true) :
    ∀ q ∈ sweepNames cfg now s pend, q.isChunk = true := by
  intro q hq
  simp only [sweepNames, List.mem_append, List.mem_map] at hq
  rcases hq with hq | ⟨e, _, rfl⟩
  · exact hp q hq
  · rfl

theorem mem_sweepNames {cfg : Cfg} {now : Int} {s : Recs} (hu : Uniq s) {pend : List Name} {id : String} :
    Name.chunk id ∈ sweepNames cfg now s pend ↔
      Name.chunk id ∈ pend ∨ ∃ r, aget s id = some r ∧ wiped cfg now r = true := by
  simp only [sweepNames, List.mem_append, List.mem_map, List.mem_filter]
  refine or_congr_right ⟨?_, fun ⟨r, hr, hw⟩ => ⟨(id, r), ⟨mem_of_aget hr, hw⟩, rfl⟩⟩
  rintro ⟨e, ⟨he, hw⟩, heq⟩
  cases heq
  exact ⟨e.2, aget_of_mem hu he, hw⟩

theorem bootF_chunk {cfg : Cfg} (hc : PersistCfg cfg) {φ : Faults} {fs : FS} {id : String} {c : Bytes}
    (h : aget (bootF cfg φ fs).fs (.chunk id) = some c) : Name.chunk id ∈ (bootF cfg φ fs).pending := by
  simp only [bootF] at h ⊢
  by_cases hm : Name.chunk id ∈ purgeNames cfg fs
  · refine Decidable.by_contra fun hf => ?_
    rw [wipeAllF_gone hm hf] at h; cases h
  · -- the purge covers every chunk file of the directory
    rw [wipeAllF_keep hm] at h
    refine absurd ?_ hm
    simp only [purgeNames, hc.1, hc.2, Bool.and_self, if_true]
    exact List.mem_filter.mpr ⟨List.mem_map.mpr ⟨_, mem_of_aget h, rfl⟩, rfl⟩

theorem boot_no_chunk {cfg : Cfg} (hc : PersistCfg cfg) (fs : FS) (id : String) : aget (boot cfg fs).fs (.chunk id) = none := by
  have hpend : (bootF cfg [] fs).pending = [] := wipeAllF_nofault
  cases hg : aget (boot cfg fs).fs (.chunk id) with
  | none => rfl
  | some c => exact nomatch hpend ▸ bootF_chunk hc hg

theorem bootF_other {cfg : Cfg} {φ : Faults} {fs : FS} {n : String} : aget (bootF cfg φ fs).fs (.other n) = aget fs (.other n) :=
  applyOps_notChunk (wipeAllF_chunks purgeNames_chunk) fs n

theorem bootF_pending_chunk {cfg : Cfg} {φ : Faults} {fs : FS} : ∀ q ∈ (bootF cfg φ fs).pending, q.isChunk = true :=
  fun q hq => purgeNames_chunk q (wipeAllF_failed_sub q hq)

end EphVerif.ChunkStore
