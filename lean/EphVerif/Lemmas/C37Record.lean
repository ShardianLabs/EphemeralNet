/-
Lemmas for C37: UTF-8 validity of escaped text, decoding of the record framing, one-line-ness.
-/
import EphVerif.Lemmas.C37Escape

namespace EphVerif.C37L
open EphVerif.LogEscape EphVerif.JsonSpec

theorem validUtf8_ascii_cons (b : Nat) (t : List Nat) (h : b < 0x80) : validUtf8 (b :: t) = validUtf8 t := by
  rw [validUtf8.eq_def]; simp [h]

theorem validUtf8_append_ascii (a t : List Nat) (h : ∀ b ∈ a, b < 0x80) : validUtf8 (a ++ t) = validUtf8 t := by
  induction a with
  | nil => rfl
  | cons x xs ih =>
    simp only [List.cons_append]
    rw [validUtf8_ascii_cons _ _ (h x (by simp))]
    exact ih (fun b hb => h b (by simp [hb]))

theorem escapeByte_ascii (ch : Nat) (h : ch < 0x80) : ∀ b ∈ escapeByte ch, b < 0x80 := fun b hb =>
  (escapeByte_bytes ch b hb).2.elim id (· ▸ h)

theorem escapeByte_high (ch : Nat) (h : 0x80 ≤ ch) : escapeByte ch = [ch] := by
  rcases escapeByte_cases ch with ⟨_, _, hc, _⟩ | ⟨hc, _⟩ | ⟨_, _, _, h'⟩
  · omega
  · omega
  · exact h'

theorem escape_cons_high {b : Nat} (r : List Nat) (h : 0x80 ≤ b) : escape (b :: r) = b :: escape r := by
  rw [escape, escapeByte_high b h]; rfl

theorem escape_cons_cont {b : Nat} (r : List Nat) (h : isCont b = true) : escape (b :: r) = b :: escape r :=
  escape_cons_high r (of_decide_eq_true h).1

theorem validUtf8_escape_append (s t : List Nat) (hs : validUtf8 s = true) (ht : validUtf8 t = true) :
    validUtf8 (escape s ++ t) = true := by
  fun_induction validUtf8 s
  case case1 => exact ht
  case case2 b0 rest h ih =>
    simp only [escape, List.append_assoc]
    rw [validUtf8_append_ascii _ _ (escapeByte_ascii b0 h)]
    exact ih hs
  case case3 b0 h0 h b1 r ih =>
    simp only [Bool.and_eq_true] at hs
    simp only [escape_cons_high _ (Nat.le_of_not_lt h0), escape_cons_cont _ hs.1, List.cons_append]
    rw [validUtf8.eq_def]
    simp only [h0, h, hs.1, ih hs.2, and_self, reduceIte, Bool.and_self]
  case case5 b0 h0 h1 h b1 b2 r ih =>
    simp only [Bool.and_eq_true] at hs
    obtain ⟨⟨⟨⟨c1, c2⟩, c3⟩, c4⟩, c5⟩ := hs
    simp only [escape_cons_high _ (Nat.le_of_not_lt h0), escape_cons_cont _ c1, escape_cons_cont _ c2, List.cons_append]
    rw [validUtf8.eq_def]
    simp only [h0, h1, h, c1, c2, c3, c4, ih c5, and_self, reduceIte, Bool.and_self]
  case case7 b0 h0 h1 h2 h b1 b2 b3 r ih =>
    simp only [Bool.and_eq_true] at hs
    obtain ⟨⟨⟨⟨⟨c1, c2⟩, c3⟩, c4⟩, c5⟩, c6⟩ := hs
    simp only [escape_cons_high _ (Nat.le_of_not_lt h0), escape_cons_cont _ c1, escape_cons_cont _ c2,
      escape_cons_cont _ c3, List.cons_append]
    rw [validUtf8.eq_def]
    simp only [h0, h1, h2, h, c1, c2, c3, c4, c5, ih c6, and_self, reduceIte, Bool.and_self]
  all_goals simp at hs

theorem quoted_append (s t : List Nat) : quoted s ++ t = 0x22 :: (escape s ++ 0x22 :: t) := by
  simp only [quoted, List.cons_append, List.append_assoc, List.nil_append]

theorem strMember_append (k v t : List Nat) :
    (quoted k ++ 0x3A :: quoted v) ++ t = 0x22 :: (escape k ++ 0x22 :: 0x3A :: 0x22 :: (escape v ++ 0x22 :: t)) := by
  rw [List.append_assoc, quoted_append, List.cons_append, quoted_append]

theorem decodeFlatMembers_field (fuel : Nat) (k v : List Nat) (sep : Nat) (t3 : List Nat) :
    decodeFlatMembers (fuel + 1) (renderField (k, v) ++ sep :: t3) =
      if sep = 0x7D then some ([(k, v)], t3)
      else if sep = 0x2C then
        match decodeFlatMembers fuel t3 with
        | some (ms, t4) => some ((k, v) :: ms, t4)
        | none => none
      else none := by
  rw [show renderField (k, v) = quoted k ++ 0x3A :: quoted v from rfl, strMember_append, decodeFlatMembers.eq_def]
  simp only [if_true, decodeStr_escape, and_self]
  rfl

theorem decodeFlatMembers_render (fs : List (List Nat × List Nat)) (hne : fs ≠ []) (t : List Nat) (fuel : Nat)
    (hf : fs.length ≤ fuel) : decodeFlatMembers fuel (renderFields fs ++ 0x7D :: t) = some (fs, t) := by
  induction fs generalizing fuel with
  | nil => exact absurd rfl hne
  | cons f rest ih =>
    obtain ⟨k, v⟩ := f
    cases fuel with
    | zero => simp at hf
    | succ fuel =>
      cases rest with
      | nil =>
        simp only [renderFields]
        rw [decodeFlatMembers_field]; simp
      | cons g rest' =>
        simp only [renderFields, List.append_assoc, List.cons_append]
        rw [decodeFlatMembers_field]
        have := ih (by simp) fuel (by simp at hf ⊢; omega)
        simp [this]

theorem decodeTop_strMember (fuel : Nat) (k v : List Nat) (sep : Nat) (t3 : List Nat) :
    decodeTopMembers (fuel + 1) ((quoted k ++ 0x3A :: quoted v) ++ sep :: t3) =
      if sep = 0x7D then some ([(k, Val.s v)], t3)
      else if sep = 0x2C then
        match decodeTopMembers fuel t3 with
        | some (ms, t4) => some ((k, Val.s v) :: ms, t4)
        | none => none
      else none := by
  rw [strMember_append, decodeTopMembers.eq_def]
  simp only [if_true, decodeStr_escape, Option.map]
  rfl

theorem renderFields_head (fs : List (List Nat × List Nat)) (hne : fs ≠ []) : ∃ tl, renderFields fs = 0x22 :: tl := by
  match fs with
  | [] => exact absurd rfl hne
  | [f] => exact ⟨_, rfl⟩
  | f :: g :: rest => exact ⟨_, rfl⟩

theorem length_renderFields (fs : List (List Nat × List Nat)) : fs.length ≤ (renderFields fs).length := by
  match fs with
  | [] => exact Nat.le_refl _
  | [f] => simp only [renderFields, renderField, List.length_append, List.length_cons, List.length_nil]; omega
  | f :: g :: rest =>
    have := length_renderFields (g :: rest)
    simp only [renderFields, List.length_append, List.length_cons] at this ⊢; omega

theorem decodeFlatObj_render (fs : List (List Nat × List Nat)) (hne : fs ≠ []) (t : List Nat) :
    decodeFlatObj (0x7B :: (renderFields fs ++ 0x7D :: t)) = some (fs, t) := by
  obtain ⟨tl, htl⟩ := renderFields_head fs hne
  have hlen := length_renderFields fs
  have key := decodeFlatMembers_render fs hne t ((tl ++ 0x7D :: t).length + 1) (by
    rw [htl] at hlen; simp at hlen ⊢; omega)
  rw [htl] at key ⊢
  simp only [List.cons_append] at key ⊢
  rw [decodeFlatObj.eq_def]
  simpa using key

theorem decodeTop_objMember (fuel : Nat) (k : List Nat) (fs : List (List Nat × List Nat)) (hne : fs ≠ []) (t3 : List Nat) :
    decodeTopMembers (fuel + 1) (quoted k ++ 0x3A :: 0x7B :: (renderFields fs ++ 0x7D :: 0x7D :: t3)) =
      some ([(k, Val.o fs)], t3) := by
  rw [quoted_append, decodeTopMembers.eq_def]
  simp only [if_true, decodeStr_escape, decodeFlatObj_render fs hne, Option.map]
  simp

/-- the record with its appends nested to the right, the shape in which a reader of the line meets it -/
theorem logRecord_eq (ts level event : List Nat) (fields : List (List Nat × List Nat)) :
    logRecord ts level event fields =
      0x7B :: ((quoted keyTs ++ 0x3A :: quoted ts) ++ 0x2C :: ((quoted keyLevel ++ 0x3A :: quoted level) ++
        0x2C :: ((quoted keyEvent ++ 0x3A :: quoted event) ++
          if fields.isEmpty then [0x7D, 0x0A]
          else 0x2C :: (quoted keyFields ++ 0x3A :: 0x7B :: (renderFields fields ++ [0x7D, 0x7D, 0x0A]))))) := by
  unfold logRecord
  split <;> simp [List.append_assoc]

theorem decodeLine_logRecord (ts level event : List Nat) (fields : List (List Nat × List Nat)) :
    decodeLine (logRecord ts level event fields) =
      some ([(keyTs, Val.s ts), (keyLevel, Val.s level), (keyEvent, Val.s event)] ++
        (if fields.isEmpty then [] else [(keyFields, Val.o fields)])) := by
  rw [logRecord_eq, decodeLine.eq_def]
  simp only [if_true]
  generalize hfuel : (List.length _ + 1) = fuel
  -- four members at most, and the separators alone make the line longer than that
  obtain ⟨n, rfl⟩ : ∃ n, fuel = n + 4 := ⟨fuel - 4, by
    subst hfuel; simp only [List.length_append, List.length_cons]; omega⟩
  rw [decodeTop_strMember, decodeTop_strMember]
  simp only [show (0x2C : Nat) ≠ 0x7D by decide, if_false, if_true]
  cases hf : fields with
  | nil =>
    simp only [List.isEmpty_nil, if_true]
    rw [decodeTop_strMember]
    simp
  | cons f fs =>
    simp only [List.isEmpty_cons, Bool.false_eq_true, if_false]
    rw [decodeTop_strMember]
    simp only [show (0x2C : Nat) ≠ 0x7D by decide, if_false, if_true]
    rw [decodeTop_objMember _ _ _ (by simp)]
    simp

theorem noCtl_quoted (s : List Nat) : NoCtl (quoted s) :=
  .cons (by decide) (.append (escape_noControl s) (.cons (by decide) .nil))

theorem noCtl_member (k v : List Nat) : NoCtl (quoted k ++ 0x3A :: quoted v) :=
  .append (noCtl_quoted k) (.cons (by decide) (noCtl_quoted v))

theorem noCtl_renderFields (fs : List (List Nat × List Nat)) : NoCtl (renderFields fs) := by
  match fs with
  | [] => exact .nil
  | [f] => exact noCtl_member f.1 f.2
  | f :: g :: rest => exact .append (noCtl_member f.1 f.2) (.cons (by decide) (noCtl_renderFields (g :: rest)))

theorem oneLine_nl : oneLine [0x0A] := ⟨[], rfl, NoCtl.nil⟩

theorem oneLine_cons {b : Nat} {t : List Nat} (hb : 0x20 ≤ b) (h : oneLine t) : oneLine (b :: t) :=
  let ⟨body, e, hbody⟩ := h
  ⟨b :: body, by rw [e]; rfl, NoCtl.cons hb hbody⟩

theorem oneLine_append {a t : List Nat} (ha : NoCtl a) (h : oneLine t) : oneLine (a ++ t) :=
  let ⟨body, e, hbody⟩ := h
  ⟨a ++ body, by rw [e, List.append_assoc], ha.append hbody⟩

theorem oneLine_logRecord (ts level event : List Nat) (fields : List (List Nat × List Nat)) :
    oneLine (logRecord ts level event fields) := by
  rw [logRecord_eq]
  refine oneLine_cons (by decide) (oneLine_append (noCtl_member _ _) (oneLine_cons (by decide)
    (oneLine_append (noCtl_member _ _) (oneLine_cons (by decide) (oneLine_append (noCtl_member _ _) ?_)))))
  split
  · exact oneLine_cons (by decide) oneLine_nl
  · exact oneLine_cons (by decide) (oneLine_append (noCtl_quoted _) (oneLine_cons (by decide) (oneLine_cons (by decide)
      (oneLine_append (noCtl_renderFields _) (oneLine_cons (by decide) (oneLine_cons (by decide) oneLine_nl))))))

theorem validUtf8_cons_ascii {b : Nat} {t : List Nat} (hb : b < 0x80) (ht : validUtf8 t = true) :
    validUtf8 (b :: t) = true :=
  (validUtf8_ascii_cons b t hb).trans ht

theorem validUtf8_quoted_append {s t : List Nat} (hs : validUtf8 s = true) (ht : validUtf8 t = true) :
    validUtf8 (quoted s ++ t) = true := by
  rw [quoted_append]
  exact validUtf8_cons_ascii (by decide) (validUtf8_escape_append s _ hs (validUtf8_cons_ascii (by decide) ht))

theorem validUtf8_member_append {k v t : List Nat} (hk : validUtf8 k = true) (hv : validUtf8 v = true)
    (ht : validUtf8 t = true) : validUtf8 ((quoted k ++ 0x3A :: quoted v) ++ t) = true := by
  rw [List.append_assoc, List.cons_append]
  exact validUtf8_quoted_append hk (validUtf8_cons_ascii (by decide) (validUtf8_quoted_append hv ht))

theorem validUtf8_renderFields_append {fs : List (List Nat × List Nat)} {t : List Nat}
    (hfs : ∀ f ∈ fs, validUtf8 f.1 = true ∧ validUtf8 f.2 = true) (ht : validUtf8 t = true) :
    validUtf8 (renderFields fs ++ t) = true := by
  match fs with
  | [] => exact ht
  | [f] =>
    have := hfs f (by simp)
    exact validUtf8_member_append this.1 this.2 ht
  | f :: g :: rest =>
    have hf := hfs f (by simp)
    rw [renderFields, List.append_assoc, List.cons_append]
    exact validUtf8_member_append hf.1 hf.2 (validUtf8_cons_ascii (by decide)
      (validUtf8_renderFields_append (fun x hx => hfs x (by simp [hx])) ht))

theorem validUtf8_logRecord (ts level event : List Nat) (fields : List (List Nat × List Nat))
    (hts : validUtf8 ts = true) (hlv : validUtf8 level = true) (hev : validUtf8 event = true)
    (hfs : ∀ f ∈ fields, validUtf8 f.1 = true ∧ validUtf8 f.2 = true) :
    validUtf8 (logRecord ts level event fields) = true := by
  rw [logRecord_eq]
  refine validUtf8_cons_ascii (by decide) (validUtf8_member_append (by decide) hts (validUtf8_cons_ascii (by decide)
    (validUtf8_member_append (by decide) hlv (validUtf8_cons_ascii (by decide)
      (validUtf8_member_append (by decide) hev ?_)))))
  split
  · decide
  · exact validUtf8_cons_ascii (by decide) (validUtf8_quoted_append (by decide) (validUtf8_cons_ascii (by decide)
      (validUtf8_cons_ascii (by decide) (validUtf8_renderFields_append hfs (by decide)))))

end EphVerif.C37L
