/-
Association-list facts used by the C01/C04 proofs (record table and file system).
-/
import EphVerif.Model.ChunkStore

namespace EphVerif.ChunkStore
section Assoc
variable {κ : Type} {ν : Type} [DecidableEq κ]

theorem aget_filter_key (p : κ → Bool) (l : List (κ × ν)) (x : κ) :
    aget (l.filter (fun e => p e.1)) x = if p x then aget l x else none := by
  induction l with
  | nil => simp [aget]
  | cons e l ih =>
    by_cases hx : e.1 = x
    · subst hx; cases hp : p e.1 <;> simp [aget, hp, ih]
    · cases hp : p e.1 <;> simp [aget, hp, hx, ih]

theorem aget_adel_self (l : List (κ × ν)) (x : κ) : aget (adel l x) x = none := by
  simp [adel, aget_filter_key (fun k => !decide (k = x))]

theorem aget_adel_ne (l : List (κ × ν)) {x y : κ} (h : x ≠ y) : aget (adel l x) y = aget l y := by
  simp [adel, aget_filter_key (fun k => !decide (k = x)), Ne.symm h]

theorem aget_aset_self (l : List (κ × ν)) (x : κ) (v : ν) : aget (aset l x v) x = some v :=
  if_pos rfl

theorem aget_aset_ne (l : List (κ × ν)) {x y : κ} (v : ν) (h : x ≠ y) : aget (aset l x v) y = aget l y :=
  (if_neg h).trans (aget_adel_ne l h)

theorem mem_of_aget {l : List (κ × ν)} {x : κ} {v : ν} (h : aget l x = some v) : (x, v) ∈ l := by
  induction l with
  | nil => cases h
  | cons e l ih =>
    rw [aget] at h
    split at h
    · next hk => cases h; cases hk; exact List.mem_cons_self
    · exact List.mem_cons_of_mem _ (ih h)

theorem aget_none_of_not_mem {l : List (κ × ν)} {x : κ} (h : ∀ v, (x, v) ∉ l) : aget l x = none := by
  cases hg : aget l x with
  | none => rfl
  | some v => exact absurd (mem_of_aget hg) (h v)

theorem aget_of_mem {l : List (κ × ν)} (hu : Uniq l) {x : κ} {v : ν} (h : (x, v) ∈ l) : aget l x = some v := by
  induction l with
  | nil => cases h
  | cons e l ih =>
    have hu' := List.pairwise_cons.mp hu
    rcases List.mem_cons.mp h with rfl | h
    · exact if_pos rfl
    · exact (if_neg (hu'.1 _ h)).trans (ih hu'.2 h)

theorem aget_eq_some_iff {l : List (κ × ν)} (hu : Uniq l) {x : κ} {v : ν} : aget l x = some v ↔ (x, v) ∈ l :=
  ⟨mem_of_aget, aget_of_mem hu⟩

theorem uniq_adel {l : List (κ × ν)} (hu : Uniq l) (x : κ) : Uniq (adel l x) :=
  List.Pairwise.filter _ hu

omit [DecidableEq κ] in
theorem uniq_filter {l : List (κ × ν)} (hu : Uniq l) (p : κ × ν → Bool) : Uniq (l.filter p) :=
  List.Pairwise.filter _ hu

theorem uniq_aset {l : List (κ × ν)} (hu : Uniq l) (x : κ) (v : ν) : Uniq (aset l x v) :=
  List.pairwise_cons.mpr ⟨fun e he h => by simpa [h.symm] using (List.mem_filter.mp he).2, uniq_adel hu x⟩

theorem aget_filter_eq_some {l : List (κ × ν)} (hu : Uniq l) (p : κ × ν → Bool) {x : κ} {v : ν} :
    aget (l.filter p) x = some v ↔ aget l x = some v ∧ p (x, v) = true := by
  rw [aget_eq_some_iff (uniq_filter hu p), List.mem_filter, aget_eq_some_iff hu]

theorem aget_filter {l : List (κ × ν)} (hu : Uniq l) (p : κ × ν → Bool) (x : κ) :
    aget (l.filter p) x = match aget l x with
      | some v => if p (x, v) then some v else none
      | none => none := by
  apply Option.ext
  intro v
  rw [aget_filter_eq_some hu]
  cases aget l x with
  | none => simp
  | some w =>
    simp only [Option.some.injEq, Option.ite_none_right_eq_some]
    exact ⟨fun ⟨h, hp⟩ => ⟨h ▸ hp, h⟩, fun ⟨hp, h⟩ => ⟨h, h ▸ hp⟩⟩

end Assoc
end EphVerif.ChunkStore
