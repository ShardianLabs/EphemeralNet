/-
Bridging lemmas for `Proofs/SystemHandshake.lean`: C20's admission model (peers named by strings,
abstract `powValid`, its own copy of `validate_public`) instantiated with C12's key validator and
C19's handshake proof-of-work predicate; then the initiator's side of the statements.
-/
import EphVerif.Proofs.C12
import EphVerif.Proofs.C19
import EphVerif.Proofs.C20
import EphVerif.Spec.Hmac

namespace EphVerif.SysHs
open EphVerif.Kex EphVerif.Pow EphVerif.Spec.Pow

/-- a node in the role of responder: its id bytes, its configured handshake difficulty and cooldown,
    and the bytes of the peer ids that C20's model names by strings (`peer_id_to_string`) -/
structure Responder where
  self : List UInt8
  bits : Nat
  cooldown : Int
  idOf : String → List UInt8

section
variable (sha : List UInt8 → List UInt8)

/-- C19's acceptance predicate of `Node::perform_handshake` as C20's `powValid` fact:
    claimed peer, offered key, nonce ↦ `handshake_pow_valid(peer, this node, key, nonce, configured bits)` -/
def powFact (R : Responder) : String → Nat → Nat → Bool :=
  fun p pub nonce => nodeVerifyHandshake sha R.bits ⟨R.idOf p, R.self, pub⟩ nonce

def env (R : Responder) : Handshake.Env := { cooldown := R.cooldown, powValid := powFact sha R }

def preimage (R : Responder) (p : String) (pub nonce : Nat) : List UInt8 :=
  encHandshake ⟨R.idOf p, R.self, pub⟩ nonce

theorem keyValid_eq (c : Nat) : Handshake.keyValid c = validatePublic c := by
  unfold Handshake.keyValid validatePublic
  have h1 : Gen.C20.kPrime = 2147483647 := by decide
  have h2 : Gen.C12.kPrime = 2147483647 := by decide
  rw [h1, h2]

theorem keyValid_iff (c : Nat) : Handshake.keyValid c = true ↔ Spec.Kex.acceptable c := by
  rw [keyValid_eq, C12.validate]

theorem powFact_iff (R : Responder) (p : String) (pub nonce : Nat) :
    powFact sha R p pub nonce = true ↔ meets sha (preimage R p pub nonce) (capped R.bits) :=
  C19.accept_node_handshake sha R.bits ⟨R.idOf p, R.self, pub⟩ nonce

theorem nodeHandshakeDifficulty_eq (bits : Nat) : nodeHandshakeDifficulty bits = capped bits := by
  unfold nodeHandshakeDifficulty
  have : Gen.C19.kMaxHandshakePowDifficulty = 24 := by decide
  rw [this, C19L.capTo_eq_min]

/-- work solved by an initiator configured with `bitsI` passes the check of a responder configured
    with `bitsR` whenever the responder does not demand more (after the cap of 24) -/
theorem solved_work_valid (startOf : Nat → Nat) (x : HandshakeFields) (bitsI bitsR n : Nat)
    (hs : computeHandshakePow sha startOf x (nodeHandshakeDifficulty bitsI) = some n)
    (hb : capped bitsR ≤ capped bitsI) : nodeVerifyHandshake sha bitsR x n = true := by
  have h1 := C19.solver_handshake sha startOf x _ n hs
  rw [C19.accept_handshake, nodeHandshakeDifficulty_eq] at h1
  exact (C19.accept_node_handshake sha bitsR x n).mpr (Nat.le_trans hb h1)

theorem perform_ok_iff (e : Handshake.Env) (s : Handshake.State) (p : String) (pub nonce : Nat) :
    (Handshake.perform e s p pub nonce).2 = true ↔
      Handshake.shortcut e s.now (s.peers p) pub nonce = true ∨
      (Handshake.keyValid pub = true ∧ e.powValid p pub nonce = true) := by
  by_cases hs : Handshake.shortcut e s.now (s.peers p) pub nonce = true <;>
    by_cases hk : Handshake.keyValid pub = true <;> by_cases hp : e.powValid p pub nonce = true <;>
    simp [Handshake.perform, hs, hk, hp]

theorem perform_accepts (e : Handshake.Env) (s : Handshake.State) (p : String) (pub nonce : Nat)
    (hk : Handshake.keyValid pub = true) (hp : e.powValid p pub nonce = true) :
    (Handshake.perform e s p pub nonce).2 = true :=
  (perform_ok_iff e s p pub nonce).mpr (Or.inr ⟨hk, hp⟩)

/-- afterwards the node holds the key derived from that public value: freshly registered, or,
    when the exact-repeat short-circuit fired, left as `h` says the earlier handshake registered it -/
theorem perform_registers (e : Handshake.Env) (s : Handshake.State) (p : String) (pub nonce : Nat)
    (hk : Handshake.keyValid pub = true) (hp : e.powValid p pub nonce = true)
    (h : Handshake.shortcut e s.now (s.peers p) pub nonce = true →
      (s.peers p).sess = some pub ∧ (s.peers p).smKey = some pub) :
    ((Handshake.perform e s p pub nonce).1.peers p).sess = some pub ∧
    ((Handshake.perform e s p pub nonce).1.peers p).smKey = some pub := by
  unfold Handshake.perform
  cases hsc : Handshake.shortcut e s.now (s.peers p) pub nonce
  · simp [hsc, hk, hp, Handshake.setPeer]
  · simpa [hsc] using h hsc

theorem perform_fresh_eq (hmac : List UInt8 → List UInt8 → List UInt8) (R : Responder) (scalar : Nat)
    (s : Handshake.State) (p : String) (pub nonce : Nat) (hf : (s.peers p).hrec = none) :
    (Handshake.perform (env sha R) s p pub nonce).2 =
      (performHandshake sha hmac ⟨R.self, scalar⟩ R.bits (R.idOf p) pub nonce).isSome := by
  have hs : Handshake.shortcut (env sha R) s.now (s.peers p) pub nonce = false := by rw [Handshake.shortcut, hf]
  rw [Bool.eq_iff_iff, perform_ok_iff, hs, keyValid_eq, Option.isSome_iff_exists]
  simp only [C12.performHandshake_eq_some, exists_eq_right', Bool.false_eq_true, false_or]
  -- `(env sha R).powValid` is the `nodeVerifyHandshake` call of `performHandshake`
  exact Iff.rfl

end

end EphVerif.SysHs

namespace EphVerif.SystemHandshake
open EphVerif.Kex EphVerif.Pow EphVerif.Spec.Pow EphVerif.SysHs

abbrev sha256 : List UInt8 → List UInt8 := EphVerif.Spec.sha256
abbrev hmac : List UInt8 → List UInt8 → List UInt8 := EphVerif.Spec.hmacSha256

structure Initiator where
  id : Identity
  bits : Nat
  startOf : Nat → Nat

/-- `Node::generate_handshake_work(peer)` of the initiator, any candidate stream -/
def Initiator.work (I : Initiator) (peer : List UInt8) : Option Nat :=
  computeHandshakePow sha256 I.startOf ⟨I.id.peerId, peer, I.id.pub⟩ (nodeHandshakeDifficulty I.bits)

/-- "honest": scalar in the identity range and not one of the ten excluded values -/
def GoodScalar (s : Nat) : Prop := 2 ≤ s ∧ s ≤ 2147483647 - 2 ∧ ¬ 195225786 ∣ s

end EphVerif.SystemHandshake
