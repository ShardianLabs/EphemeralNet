/-
The generator 5 of `KeyExchange` has multiplicative order 195225786 = (p − 1)/11 modulo p = 2^31 − 1: it is not a
primitive root.  So `compute_public s = 5^s mod p` is never 0 and is 1 exactly for the multiples of 195225786; in the range
[2, p − 2] from which `generate_identity_scalar` draws these are the ten scalars k · 195225786, k = 1 … 10, whose public key 1
`validate_public` refuses.  The modular powers are evaluated by the kernel through C12's model of `KeyExchange::modexp`
(`C12.modexp_spec`); the order argument uses Mathlib's `orderOf` in `ZMod p`.
-/
import Mathlib.GroupTheory.OrderOfElement
import Mathlib.Data.ZMod.Basic
import Mathlib.Tactic.NormNum.Prime
import EphVerif.Proofs.C12

namespace EphVerif.SysHsL
open EphVerif.Kex

def ord5 : Nat := 195225786

theorem ord5_eq : ord5 = 2 * 3 * 3 * 7 * 31 * 151 * 331 := by decide
theorem ord5_index : ord5 * 11 = Spec.Kex.p - 1 := by decide

private abbrev P : Nat := 2147483647

theorem pow5_mod (e : Nat) (he : e < 2 ^ 32) : 5 ^ e % P = modexp 5 e P :=
  (C12.modexp_spec 5 e P (by decide) (by decide) he).symm

theorem pow5_ord : 5 ^ ord5 % P = 1 := by
  rw [pow5_mod _ (by decide)]; decide +kernel

theorem pow5_ord_div : ∀ q ∈ [2, 3, 7, 31, 151, 331], 5 ^ (ord5 / q) % P ≠ 1 := by
  intro q hq
  simp only [List.mem_cons, List.not_mem_nil, or_false] at hq
  rcases hq with rfl | rfl | rfl | rfl | rfl | rfl <;>
    (rw [pow5_mod _ (by decide)]; decide +kernel)

theorem prime_factor_ord5 (q : Nat) (hq : q.Prime) (hd : q ∣ ord5) : q ∈ [2, 3, 7, 31, 151, 331] := by
  rw [ord5_eq] at hd
  have p2 : Nat.Prime 2 := by norm_num
  have p3 : Nat.Prime 3 := by norm_num
  have p7 : Nat.Prime 7 := by norm_num
  have p31 : Nat.Prime 31 := by norm_num
  have p151 : Nat.Prime 151 := by norm_num
  have p331 : Nat.Prime 331 := by norm_num
  simp only [hq.dvd_mul, Nat.prime_dvd_prime_iff_eq hq p2, Nat.prime_dvd_prime_iff_eq hq p3,
    Nat.prime_dvd_prime_iff_eq hq p7, Nat.prime_dvd_prime_iff_eq hq p31, Nat.prime_dvd_prime_iff_eq hq p151,
    Nat.prime_dvd_prime_iff_eq hq p331] at hd
  simp only [List.mem_cons, List.not_mem_nil, or_false]
  omega

private theorem cast_pow_eq_one (e : Nat) : ((5 : ℕ) : ZMod P) ^ e = 1 ↔ 5 ^ e % P = 1 := by
  rw [← Nat.cast_pow, ← Nat.cast_one (R := ZMod P), ZMod.natCast_eq_natCast_iff']
  have : 1 % P = 1 := by decide
  rw [this]

theorem orderOf_five : orderOf ((5 : ℕ) : ZMod P) = ord5 := by
  apply orderOf_eq_of_pow_and_pow_div_prime (by decide)
  · exact (cast_pow_eq_one _).mpr pow5_ord
  · intro q hq hd h
    exact pow5_ord_div q (prime_factor_ord5 q hq hd) ((cast_pow_eq_one _).mp h)

theorem pow5_eq_one_iff (s : Nat) : 5 ^ s % P = 1 ↔ ord5 ∣ s := by
  rw [← cast_pow_eq_one, ← orderOf_five, orderOf_dvd_iff_pow_eq_one]

/-- `5^s` is never divisible by `p`: 5 is coprime to `p`, hence so is every power -/
theorem pow5_ne_zero (s : Nat) : 5 ^ s % P ≠ 0 := by
  intro h
  have hc : Nat.Coprime (5 ^ s) P := Nat.Coprime.pow_left s (by decide)
  rw [Nat.Coprime, Nat.gcd_comm, Nat.gcd_eq_left (Nat.dvd_of_mod_eq_zero h)] at hc
  exact absurd hc (by decide)

theorem validate_computePublic_iff (s : Nat) (hs : s < 2 ^ 32) :
    validatePublic (computePublic s) = true ↔ ¬ ord5 ∣ s := by
  rw [C12.validate, C12.computePublic_spec s hs]
  unfold Spec.Kex.acceptable Spec.Kex.pub Spec.Kex.powMod
  show (1 < 5 ^ s % P ∧ 5 ^ s % P < P) ↔ _
  rw [← pow5_eq_one_iff]
  have h0 := pow5_ne_zero s
  have hlt : 5 ^ s % P < P := Nat.mod_lt _ (by decide)
  omega

theorem excluded_scalars (s : Nat) (h2 : 2 ≤ s) (hp : s ≤ Spec.Kex.p - 2) :
    validatePublic (computePublic s) = false ↔ ∃ k, 1 ≤ k ∧ k ≤ 10 ∧ s = k * ord5 := by
  have hp' : Spec.Kex.p = 2147483647 := rfl
  rw [← Bool.not_eq_true, validate_computePublic_iff s (by omega), Decidable.not_not]
  constructor
  · rintro ⟨k, rfl⟩
    refine ⟨k, ?_, ?_, Nat.mul_comm _ _⟩ <;> (unfold ord5 at *; omega)
  · rintro ⟨k, _, _, rfl⟩
    exact Dvd.intro_left k rfl

end EphVerif.SysHsL
