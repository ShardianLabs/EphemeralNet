/-
`handle_list`'s ENTRIES value and the CLI's splitting of it (C29.list).
-/
import EphVerif.Lemmas.C29Client

namespace EphVerif.Control

/-- a snapshot entry as `handle_list` formats it: 64 hex digits, `size_t` size, non-negative `int64` TTL -/
structure EntryValid (e : ChunkEntry) : Prop where
  idLen : e.idHex.length = 64
  idClean : ∀ c ∈ e.idHex, c ≠ 10 ∧ c ≠ 13 ∧ c ≠ 92 ∧ c ≠ 44
  size : e.size < 18446744073709551616
  ttl : e.ttl < 18446744073709551616

def stateWord (e : ChunkEntry) : Bytes := if e.encrypted then ascii "encrypted" else ascii "plain"

theorem stateWord_clean (e : ChunkEntry) : ∀ c ∈ stateWord e, c ≠ 10 ∧ c ≠ 13 ∧ c ≠ 92 ∧ c ≠ 44 := by
  unfold stateWord
  split <;> decide

theorem stateWord_length (e : ChunkEntry) : (stateWord e).length ≤ 9 := by
  unfold stateWord
  split <;> decide

theorem entryText_eq (e : ChunkEntry) :
    entryText e = e.idHex ++ 44 :: (toDec e.size ++ 44 :: (stateWord e ++ 44 :: toDec e.ttl)) := rfl

theorem entryText_clean {e : ChunkEntry} (hv : EntryValid e) : ∀ c ∈ entryText e, c ≠ 10 ∧ c ≠ 13 ∧ c ≠ 92 := by
  have drop : ∀ {c : UInt8}, c ≠ 10 ∧ c ≠ 13 ∧ c ≠ 92 ∧ c ≠ 44 → c ≠ 10 ∧ c ≠ 13 ∧ c ≠ 92 := fun h => ⟨h.1, h.2.1, h.2.2.1⟩
  intro c hc
  rw [entryText_eq] at hc
  simp only [List.mem_append, List.mem_cons] at hc
  rcases hc with h | rfl | h | rfl | h | rfl | h
  · exact drop (hv.idClean c h)
  · decide
  · exact drop (toDec_clean e.size c h)
  · decide
  · exact drop (stateWord_clean e c h)
  · decide
  · exact drop (toDec_clean e.ttl c h)

theorem entryText_length {e : ChunkEntry} (hv : EntryValid e) : (entryText e).length ≤ 116 := by
  rw [entryText_eq]
  simp only [List.length_append, List.length_cons]
  have h1 := hv.idLen
  have h2 := toDec_len20 hv.size
  have h3 := toDec_len20 hv.ttl
  have h4 := stateWord_length e
  omega

theorem entryText_ne_nil (e : ChunkEntry) : entryText e ≠ [] := by
  rw [entryText_eq]; cases e.idHex <;> simp

theorem splitBy_entryText {e : ChunkEntry} (hv : EntryValid e) :
    splitBy 44 (entryText e) [] = [e.idHex, toDec e.size, stateWord e, toDec e.ttl] := by
  rw [entryText_eq, splitBy_append 44 _ _ [] fun c h => (hv.idClean c h).2.2.2,
    splitBy_append 44 _ _ [] fun c h => (toDec_clean _ c h).2.2.2,
    splitBy_append 44 _ _ [] fun c h => (stateWord_clean e c h).2.2.2,
    splitBy_noSep 44 _ [] fun c h => (toDec_clean _ c h).2.2.2]
  rfl

def entriesValue (snapshot : List ChunkEntry) : Bytes := snapshot.flatMap fun e => entryText e ++ [10]

theorem entriesValue_cons (e : ChunkEntry) (es : List ChunkEntry) :
    entriesValue (e :: es) = entryText e ++ 10 :: entriesValue es := by
  simp [entriesValue]

/-- every physical line of the ENTRIES field is short, however many chunks there are (`pre` is what
    precedes the value on its first line: the key with its colon, later the TAB) -/
theorem entries_lines_short : ∀ (snapshot : List ChunkEntry) (pre : Bytes), (∀ e ∈ snapshot, EntryValid e) →
    NoLF pre → pre.length ≤ 9 → ShortLines 125 pre (entriesValue snapshot)
  | [], pre, _, hpre, hlen => (shortLines_noLF (s := []) hpre nofun).mpr (by
      rw [show escSeg [] = [] from rfl, List.append_nil]
      exact Nat.le_trans hlen (by decide))
  | e :: es, pre, h, hpre, hlen => by
    have he := entryText_clean (h e List.mem_cons_self)
    have hlong := entryText_length (h e List.mem_cons_self)
    rw [entriesValue_cons, shortLines_lf _ hpre fun c hc => (he c hc).1,
      escSeg_id fun c hc => ⟨(he c hc).2.2, (he c hc).2.1⟩, List.length_append]
    exact ⟨by omega, entries_lines_short es [9] (fun x hx => h x (List.mem_cons_of_mem _ hx)) (by decide) (by decide)⟩

/-- the line the CLI prints for a chunk -/
def cliLine (e : ChunkEntry) : Bytes :=
  ascii "  ID=" ++ e.idHex ++ ascii " size=" ++ toDec e.size ++ ascii " bytes, state=" ++
    stateWord e ++ ascii ", ttl=" ++ toDec e.ttl ++ ascii "s"

theorem entryLine_entryText {e : ChunkEntry} (he : EntryValid e) :
    entryLine (splitBy 44 (entryText e) []) = some (cliLine e) := by
  rw [splitBy_entryText he]; rfl

/-- what the CLI makes of the ENTRIES value: the piece of each chunk is not empty and has four tokens;
    the empty piece after the last LF is dropped -/
theorem cli_entries : ∀ (snapshot : List ChunkEntry), (∀ e ∈ snapshot, EntryValid e) →
    (((splitBy 10 (entriesValue snapshot) []).filter fun l => !l.isEmpty).filterMap fun l => entryLine (splitBy 44 l [])) =
      snapshot.map cliLine
  | [], _ => rfl
  | e :: es, h => by
    have he := h e List.mem_cons_self
    have hne : (!(entryText e).isEmpty) = true := by simpa using entryText_ne_nil e
    rw [entriesValue_cons, splitBy_append 10 _ _ [] fun c hc => (entryText_clean he c hc).1, List.reverse_nil,
      List.nil_append, List.filter_cons, if_pos hne, List.filterMap_cons, entryLine_entryText he,
      cli_entries es fun x hx => h x (List.mem_cons_of_mem _ hx)]
    rfl

end EphVerif.Control
