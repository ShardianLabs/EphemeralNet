/-
The directory invariant of the ChunkStore model and its preservation along histories with
restarts, crashes and I/O errors (C04).
-/
import EphVerif.Lemmas.C04Sweep
import EphVerif.Lemmas.C01Run

namespace EphVerif.ChunkStore
open EphVerif.StoreSpec (Op)

/-- Directory invariant of a running instance.  A record stored as persisted has its file with
    exactly its bytes; a chunk file that is present either is such a file or is owed a wipe
    (`pending`: a wipe of it failed with an I/O error and every sweep retries it); every record was
    still live at the most recent sweep/start-up (`cleaned`). -/
structure SInv (y : Sys) (cleaned now : Int) : Prop where
  uniq : Uniq y.recs
  files_ok : ∀ id r, aget y.recs id = some r → r.persisted = true →
    aget y.fs (.chunk id) = some r.data ∧ Name.chunk id ∉ y.pending
  files_only : ∀ id c, aget y.fs (.chunk id) = some c → Name.chunk id ∉ y.pending →
    ∃ r, aget y.recs id = some r ∧ r.persisted = true ∧ r.data = c
  live : ∀ id r, aget y.recs id = some r → cleaned < r.expires
  cleaned_le : cleaned ≤ now

theorem wiped_iff {cfg : Cfg} {now : Int} {r : Rec} :
    wiped cfg now r = true ↔ r.expires ≤ now ∧ r.persisted = true ∧ cfg.wipeOnExpiry = true := by
  simp only [wiped, Bool.and_eq_true, expiredSweep_iff, and_assoc]

theorem sinv_put {cfg : Cfg} (hc : PersistCfg cfg) (φ : Faults) {y : Sys} {c now : Int} (h : SInv y c now)
    (id : String) (data plain : Bytes) (ttl : Int) (nonce : Bytes) (enc : Bool) :
    SInv (sysPutF cfg φ y now id data plain ttl nonce enc) c now := by
  have hne : ∀ {id'}, id ≠ id' → Name.chunk id ≠ Name.chunk id' := fun hid hh => hid (Name.chunk.inj hh)
  refine ⟨uniq_aset h.uniq _ _, fun id' r hr hper => ?_, fun id' c' hfile hnp => ?_, fun id' r hr => ?_, h.cleaned_le⟩
  · by_cases hid : id = id'
    · subst hid
      cases (aget_aset_self _ _ _).symm.trans hr
      exact putF_ok hc.1 hper
    · simp only [sysPutF, putF_other (hne hid), putF_pending_other (hne hid)]
      exact h.files_ok id' r ((aget_aset_ne _ _ hid).symm.trans hr) hper
  · by_cases hid : id = id'
    · subst hid
      refine ⟨_, aget_aset_self _ _ _, ?_⟩
      cases hper : (putF cfg φ y.recs y.fs y.pending id data).persisted with
      | true => exact ⟨rfl, Option.some.inj ((putF_ok hc.1 hper).1.symm.trans hfile)⟩
      | false => cases (putF_failed hc.1 hper hnp).symm.trans hfile
    · simp only [sysPutF, putF_other (hne hid)] at hfile
      simp only [sysPutF, putF_pending_other (hne hid)] at hnp
      obtain ⟨r, hr, hx⟩ := h.files_only id' c' hfile hnp
      exact ⟨r, (aget_aset_ne _ _ hid).trans hr, hx⟩
  · by_cases hid : id = id'
    · subst hid
      cases (aget_aset_self _ _ _).symm.trans hr
      -- the new deadline lies at least a second after `now ≥ c`
      have := effTtl_pos cfg ttl
      have := h.cleaned_le
      simp only [mkRecP, mkRec, nsPerSec]
      omega
    · exact h.live id' r ((aget_aset_ne _ _ hid).symm.trans hr)

theorem sinv_sweep {cfg : Cfg} (hc : PersistCfg cfg) (φ : Faults) {y : Sys} {c now : Int} (h : SInv y c now) :
    SInv (sysSweepF cfg φ y now).1 now now := by
  refine ⟨uniq_filter h.uniq _, fun id r hr hper => ?_, fun id c' hfile hnp => ?_,
    fun id r hr => ((aget_sweep h.uniq).mp hr).2, Int.le_refl _⟩
  · -- a record that survives the sweep is not expired, so its file is not among those wiped
    obtain ⟨hg, hl⟩ := (aget_sweep h.uniq).mp hr
    obtain ⟨hfile, hnp⟩ := h.files_ok id r hg hper
    have hnm : Name.chunk id ∉ sweepNames cfg now y.recs y.pending := by
      rw [mem_sweepNames h.uniq]
      rintro (hp | ⟨r', hr', hw⟩)
      · exact hnp hp
      · cases hg.symm.trans hr'
        have := (wiped_iff.mp hw).1
        omega
    exact ⟨(wipeAllF_keep hnm).trans hfile, fun hm => hnm (wipeAllF_failed_sub _ hm)⟩
  · simp only [sysSweepF] at hfile hnp
    by_cases hm : Name.chunk id ∈ sweepNames cfg now y.recs y.pending
    · cases (wipeAllF_gone hm hnp).symm.trans hfile
    · -- the file was not to be wiped: it belongs to a persisted record that is not expired
      rw [wipeAllF_keep hm] at hfile
      rw [mem_sweepNames h.uniq, not_or] at hm
      obtain ⟨r, hr, hper, hd⟩ := h.files_only id c' hfile hm.1
      refine ⟨r, (aget_sweep h.uniq).mpr ⟨hr, Int.not_le.mp fun hx => hm.2 ⟨r, hr, ?_⟩⟩, hper, hd⟩
      exact wiped_iff.mpr ⟨hx, hper, hc.2⟩

theorem sinv_boot {cfg : Cfg} (hc : PersistCfg cfg) (φ : Faults) (fs : FS) (now : Int) : SInv (bootF cfg φ fs) now now :=
  ⟨List.Pairwise.nil, nofun, fun _ _ hfile hnp => absurd (bootF_chunk hc hfile) hnp, nofun, Int.le_refl _⟩

theorem sinv_mono {y : Sys} {c now now' : Int} (h : SInv y c now) (hle : now ≤ now') : SInv y c now' :=
  ⟨h.uniq, h.files_ok, h.files_only, h.live, Int.le_trans h.cleaned_le hle⟩

def HInv (h : HWorld) : Prop := h.up = true → SInv h.w.sys h.cleaned h.w.now

theorem hstepOp_up (nc : NodeCfg) (φ : Faults) (h : HWorld) (o : Op) : (hstepOp nc φ h o).up = h.up := by
  unfold hstepOp
  split
  · rfl
  · split <;> rfl

theorem hinv_stepOp {nc : NodeCfg} (hc : PersistCfg nc.store) (φ : Faults) {h : HWorld} (hi : HInv h) (o : Op) :
    HInv (hstepOp nc φ h o) := by
  intro hup
  rw [hstepOp_up] at hup
  have hs := hi hup
  simp only [hstepOp, hup, if_true]
  cases o with
  | store id data ttl nonce enc => exact sinv_put hc φ hs id data data ttl nonce enc
  | nstore id plain cipher nonce ttl => exact sinv_put hc φ hs id cipher plain _ nonce true
  | sweep => exact sinv_sweep hc φ hs
  | tick =>
    simp only [stepF, sweeps, nodeTickF]
    split
    · simp only [*, decide_true, if_true]; exact sinv_sweep hc φ hs
    · simp only [*, decide_false]; exact hs
  | advance d => exact sinv_mono hs (Int.le_add_of_nonneg_right (Int.natCast_nonneg d))
  | _ => exact hs

theorem hinv_step {nc : NodeCfg} (hc : PersistCfg nc.store) {h : HWorld} (hi : HInv h) (o : HOp) :
    HInv (hstep nc h o) := by
  cases o with
  | op o => exact hinv_stepOp hc [] hi o
  | fail o φ => exact hinv_stepOp hc φ hi o
  | restart => exact fun _ => sinv_boot hc [] _ _
  | restartF φ => exact fun _ => sinv_boot hc φ _ _
  | crash o k =>
    -- a crash leaves nobody running
    intro hup
    simp only [hstep] at hup
    split at hup
    · cases hup
    · contradiction
  | crashBoot k => nofun

theorem hinv_run {nc : NodeCfg} (hc : PersistCfg nc.store) (ops : List HOp) {h : HWorld} (hi : HInv h) :
    HInv (hrun nc h ops) := by
  induction ops generalizing h with
  | nil => exact hi
  | cons o r ih => exact ih (hinv_step hc hi o)

def PendChunk (h : HWorld) : Prop := ∀ q ∈ h.w.sys.pending, q.isChunk = true

theorem stepF_fs (nc : NodeCfg) (φ : Faults) (w : World) (o : Op) :
    (stepF nc φ w o).1.sys.fs = applyOps w.sys.fs (fsOpsOfF nc φ w o) := by
  cases o with
  | tick => simp only [stepF, nodeTickF, fsOpsOfF]; split <;> rfl
  | _ => rfl

theorem fsOpsOfF_chunk (nc : NodeCfg) (φ : Faults) {w : World} (hp : ∀ q ∈ w.sys.pending, q.isChunk = true) (o : Op) :
    ∀ o' ∈ fsOpsOfF nc φ w o, o'.path.isChunk = true := by
  cases o with
  | store | nstore => exact fun o' ho' => putF_path o' ho' ▸ rfl
  | sweep => exact wipeAllF_chunks (sweepNames_chunk hp)
  | tick =>
    simp only [fsOpsOfF]
    split
    · exact wipeAllF_chunks (sweepNames_chunk hp)
    · exact List.forall_mem_nil _
  | _ => exact List.forall_mem_nil _

theorem stepF_pending_chunk (nc : NodeCfg) (φ : Faults) {w : World} (hp : ∀ q ∈ w.sys.pending, q.isChunk = true) (o : Op) :
    ∀ q ∈ (stepF nc φ w o).1.sys.pending, q.isChunk = true := by
  have hsw : ∀ q ∈ (sysSweepF nc.store φ w.sys w.now).1.pending, q.isChunk = true := fun q hq =>
    sweepNames_chunk hp q (wipeAllF_failed_sub q hq)
  have hput : ∀ id data, ∀ q ∈ (putF nc.store φ w.sys.recs w.sys.fs w.sys.pending id data).pending, q.isChunk = true := by
    intro id data q hq
    by_cases hqq : Name.chunk id = q
    · exact hqq ▸ rfl
    · exact hp q ((putF_pending_other hqq).mp hq)
  cases o with
  | store | nstore => exact hput _ _
  | sweep => exact hsw
  | tick =>
    simp only [stepF, nodeTickF]
    split
    · exact hsw
    · exact hp
  | _ => exact hp

theorem other_stepOp (nc : NodeCfg) (φ : Faults) (h : HWorld) (hp : PendChunk h) (o : Op) (n : String) :
    aget (hstepOp nc φ h o).w.sys.fs (.other n) = aget h.w.sys.fs (.other n) ∧ PendChunk (hstepOp nc φ h o) := by
  unfold hstepOp
  split
  · exact ⟨(congrArg (aget · _) (stepF_fs nc φ h.w o)).trans (applyOps_notChunk (fsOpsOfF_chunk nc φ hp o) _ n),
      stepF_pending_chunk nc φ hp o⟩
  · split <;> exact ⟨rfl, hp⟩

theorem other_step (nc : NodeCfg) (h : HWorld) (hp : PendChunk h) (o : HOp) (n : String) :
    aget (hstep nc h o).w.sys.fs (.other n) = aget h.w.sys.fs (.other n) ∧ PendChunk (hstep nc h o) := by
  cases o with
  | op o => exact other_stepOp nc [] h hp o n
  | fail o φ => exact other_stepOp nc φ h hp o n
  | restart => exact ⟨bootF_other, bootF_pending_chunk⟩
  | restartF φ => exact ⟨bootF_other, bootF_pending_chunk⟩
  | crash o k =>
    simp only [hstep]
    split
    · exact ⟨applyOps_notChunk (fun o' ho' => fsOpsOfF_chunk nc [] hp o o' (List.mem_of_mem_take ho')) _ n, List.forall_mem_nil _⟩
    · exact ⟨rfl, hp⟩
  | crashBoot k =>
    exact ⟨applyOps_notChunk (fun o ho => wipeAllF_chunks purgeNames_chunk o (List.mem_of_mem_take ho)) _ n,
      List.forall_mem_nil _⟩

theorem other_run (nc : NodeCfg) (ops : List HOp) (h : HWorld) (hp : PendChunk h) (n : String) :
    aget (hrun nc h ops).w.sys.fs (.other n) = aget h.w.sys.fs (.other n) := by
  induction ops generalizing h with
  | nil => rfl
  | cons o r ih => exact (ih _ (other_step nc h hp o n).2).trans (other_step nc h hp o n).1

open EphVerif.StoreSpec (Op Params W last)

/-- The abstract store along a history with restarts: the chunks of an instance die with it.
    I/O errors are invisible at this level: a store whose file write failed is still a store. -/
def hspecStep (p : Params) (up : Bool) (a : W) : HOp → W
  | .op o | .fail o _ => if up then StoreSpec.step p a o else
      match o with
      | .advance d => { a with now := a.now + d }
      | _ => a
  | .restart | .restartF _ => { a with s := [] }
  | .crash _ _ => if up then { a with s := [] } else a
  | .crashBoot _ => { a with s := [] }

def hrun2 (nc : NodeCfg) (p : Params) : HWorld × W → List HOp → HWorld × W
  | x, [] => x
  | x, o :: r => hrun2 nc p (hstep nc x.1 o, hspecStep p x.1.up x.2 o) r

theorem hrun2_fst (nc : NodeCfg) (p : Params) (x : HWorld × W) (ops : List HOp) :
    (hrun2 nc p x ops).1 = hrun nc x.1 ops := by
  induction ops generalizing x with
  | nil => rfl
  | cons o r ih => exact ih _

theorem hrel_stepOp {nc : NodeCfg} (hs : SaneCfg nc) (φ : Faults) {h : HWorld} {a : W} (hr : Rel h.w a) (o : Op) :
    Rel (hstepOp nc φ h o).w (hspecStep (paramsOf nc) h.up a (.fail o φ)) := by
  by_cases hup : h.up = true
  · simp only [hstepOp, hspecStep, hup, if_true]
    exact rel_stepF hs φ hr o
  · simp only [Bool.not_eq_true] at hup
    cases o with
    | advance d => simp only [hstepOp, hspecStep, hup]; exact rel_advance hr d
    | _ => simp only [hstepOp, hspecStep, hup]; exact hr

/-- an instance that goes away takes its table with it, and the abstract store forgets its chunks
    at the same step -/
theorem hrel_step {nc : NodeCfg} (hs : SaneCfg nc) {h : HWorld} {a : W} (hr : Rel h.w a) (o : HOp) :
    Rel (hstep nc h o).w (hspecStep (paramsOf nc) h.up a o) := by
  cases o with
  | op o => exact hrel_stepOp hs [] hr o
  | fail o φ => exact hrel_stepOp hs φ hr o
  | restart | restartF | crashBoot => exact rel_empty hr.now_eq rfl rfl
  | crash o k =>
    simp only [hstep, hspecStep]
    split
    · exact rel_empty hr.now_eq rfl rfl
    · exact hr

theorem hrel_run {nc : NodeCfg} (hs : SaneCfg nc) (ops : List HOp) {x : HWorld × W} (hr : Rel x.1.w x.2) :
    Rel (hrun2 nc (paramsOf nc) x ops).1.w (hrun2 nc (paramsOf nc) x ops).2 := by
  induction ops generalizing x with
  | nil => exact hr
  | cons o r ih => exact ih (hrel_step hs hr o)

theorem sweep_cleaned (nc : NodeCfg) (φ : Faults) (h : HWorld) (hup : (hstepOp nc φ h .sweep).up = true) :
    (hstepOp nc φ h .sweep).cleaned = (hstepOp nc φ h .sweep).w.now := by
  rw [hstepOp_up] at hup
  simp only [hstepOp, hup, if_true, sweeps, stepF]

theorem file_allowed {h : HWorld} {a : W} (hi : SInv h.w.sys h.cleaned h.w.now) (hr : Rel h.w a) {id : String}
    {content : Bytes} (hfile : aget h.w.sys.fs (.chunk id) = some content) (hnp : Name.chunk id ∉ h.w.sys.pending) :
    StoreSpec.fileAllowed a.s h.cleaned id content = true := by
  obtain ⟨r, hg, _, hd⟩ := hi.files_only id content hfile hnp
  obtain ⟨e, he, h1, _, h3⟩ := hr.sound id r hg
  have hl : h.cleaned < e.deadline := h3 ▸ hi.live id r hg
  simp only [StoreSpec.fileAllowed, he, h1, hd, hl, decide_true, Bool.and_self]

theorem stale_pending {h : HWorld} {a : W} (hi : SInv h.w.sys h.cleaned h.w.now) (hr : Rel h.w a) {id : String}
    (hcl : h.cleaned = h.w.now) (hdead : ∀ e, last a.s id = some e → e.deadline ≤ h.w.now)
    (hpresent : aget h.w.sys.fs (.chunk id) ≠ none) : Name.chunk id ∈ h.w.sys.pending := by
  refine Decidable.by_contra fun hm => ?_
  cases hf : aget h.w.sys.fs (.chunk id) with
  | none => exact hpresent hf
  | some content =>
    obtain ⟨r, hg, _, _⟩ := hi.files_only id content hf hm
    obtain ⟨e, he, _, _, h3⟩ := hr.sound id r hg
    have := hi.live id r hg
    have := hdead e he
    omega

def offState (t0 : Int) (fs : FS) : HWorld :=
  { w := { now := t0, sys := { recs := [], fs := fs }, lastCleanup := t0 }, up := false, cleaned := t0 }

theorem hinv_off (t0 : Int) (fs : FS) : HInv (offState t0 fs) := nofun

theorem pendChunk_off (t0 : Int) (fs : FS) : PendChunk (offState t0 fs) := List.forall_mem_nil _

theorem hrun2_inv {nc : NodeCfg} (hs : SaneCfg nc) (hc : PersistCfg nc.store) (t0 : Int) (fs0 : FS) (ops : List HOp) :
    let x := hrun2 nc (paramsOf nc) (offState t0 fs0, freshSpec t0) ops
    x.1.up = true → SInv x.1.w.sys x.1.cleaned x.1.w.now ∧ Rel x.1.w x.2 := by
  intro x hup
  have hi := hinv_run hc ops (hinv_off t0 fs0)
  rw [← hrun2_fst nc (paramsOf nc) (offState t0 fs0, freshSpec t0)] at hi
  exact ⟨hi hup, hrel_run hs ops (rel_fresh t0 fs0)⟩

end EphVerif.ChunkStore

namespace EphVerif.C04
open EphVerif.ChunkStore
open EphVerif.StoreSpec (W)

/-- the last step of a history -/
theorem hrun2_snoc (nc : NodeCfg) (p : StoreSpec.Params) (x : HWorld × W) (ops : List HOp) (ev : HOp) :
    hrun2 nc p x (ops ++ [ev]) =
      (hstep nc (hrun2 nc p x ops).1 ev, hspecStep p (hrun2 nc p x ops).1.up (hrun2 nc p x ops).2 ev) := by
  induction ops generalizing x with
  | nil => rfl
  | cons o r ih => exact ih _

end EphVerif.C04
