/-
Lemmas for C38: one statement per function of the parser model, of the form `Safe P (f …)`: the
call ends in `ok a` with `P a` or in an error message, never in an out-of-range read (`oob`) and
never with a loop still running (`outOfFuel`).  `P` says where the cursor is afterwards (inside the
document, not moved back) and, where C38_strings needs it, what was read.  The loops' fuel
argument: `inp.size - pos < fuel` is invariant because every iteration advances the cursor by at
least one byte.
-/
import EphVerif.Model.UpdateJson
namespace EphVerif.C38L
open EphVerif.UpdateJson

def Safe {α : Type} (P : α → Prop) (r : Res α) : Prop :=
  match r with
  | .ok a => P a
  | .err _ => True
  | .oob => False
  | .outOfFuel => False

@[simp] theorem safe_ok {α : Type} {P : α → Prop} {a : α} : Safe P (Res.ok a) = P a := rfl
@[simp] theorem safe_pure {α : Type} {P : α → Prop} {a : α} : Safe P (pure a : Res α) = P a := rfl
@[simp] theorem safe_err {α : Type} {P : α → Prop} {m : String} : Safe P (Res.err m : Res α) = True := rfl

@[simp] theorem ok_bind {α β : Type} (a : α) (f : α → Res β) : (Res.ok a >>= f) = f a := rfl
@[simp] theorem pure_bind' {α β : Type} (a : α) (f : α → Res β) : ((pure a : Res α) >>= f) = f a := rfl

theorem Safe.bind {α β : Type} {P : α → Prop} {Q : β → Prop} {r : Res α} {f : α → Res β}
    (h : Safe P r) (hf : ∀ a, P a → Safe Q (f a)) : Safe Q (r >>= f) := by
  cases r with
  | ok a => exact hf a h
  | err m => trivial
  | oob => exact h.elim
  | outOfFuel => exact h.elim

theorem Safe.mono {α : Type} {P Q : α → Prop} {r : Res α} (h : Safe P r) (hpq : ∀ a, P a → Q a) : Safe Q r := by
  cases r with
  | ok a => exact hpq a h
  | err m => trivial
  | oob => exact h.elim
  | outOfFuel => exact h.elim

theorem Safe.ite {α : Type} {P : α → Prop} {c : Prop} [Decidable c] {a b : Res α}
    (ha : c → Safe P a) (hb : ¬c → Safe P b) : Safe P (if c then a else b) := by
  split
  · exact ha ‹_›
  · exact hb ‹_›

theorem Safe.of_ok {α : Type} {P : α → Prop} {r : Res α} {a : α} (h : Safe P r) (hr : r = .ok a) : P a := by
  rw [hr] at h; exact h

theorem Safe.ok_or_err {α : Type} {P : α → Prop} {r : Res α} (h : Safe P r) :
    (∃ a, r = .ok a ∧ P a) ∨ ∃ msg, r = .err msg := by
  cases r with
  | ok a => exact .inl ⟨a, rfl, h⟩
  | err m => exact .inr ⟨m, rfl⟩
  | oob => exact h.elim
  | outOfFuel => exact h.elim

theorem getElem?_of_lt {inp : Input} {pos : Nat} (h : pos < inp.size) : ∃ b, inp[pos]? = some b :=
  ⟨inp[pos], Array.getElem?_eq_getElem h⟩

theorem lt_of_getElem? {inp : Input} {pos b : Nat} (h : inp[pos]? = some b) : pos < inp.size :=
  (Array.getElem?_eq_some_iff.mp h).1

theorem rawAt_some {inp : Input} {pos b : Nat} (h : inp[pos]? = some b) : rawAt inp pos = .ok b := by
  unfold rawAt; rw [h]

theorem eof_of_lt {inp : Input} {pos : Nat} (h : pos < inp.size) : eof inp pos = false :=
  decide_eq_false (Nat.not_le.mpr h)

theorem eof_of_le {inp : Input} {pos : Nat} (h : inp.size ≤ pos) : eof inp pos = true :=
  decide_eq_true h

theorem get_some {inp : Input} {pos b : Nat} (h : inp[pos]? = some b) :
    UpdateJson.get inp pos = .ok (b, pos + 1) := by
  unfold UpdateJson.get; rw [rawAt_some h]; rfl

theorem safe_rawAt (inp : Input) (pos : Nat) (h : pos < inp.size) : Safe (fun _ => True) (rawAt inp pos) := by
  obtain ⟨b, hb⟩ := getElem?_of_lt h
  rw [rawAt_some hb]; trivial

/-- the guard `if (eof()) …`: what follows it runs with the cursor before the end -/
theorem safe_eofGuard {α : Type} {P : α → Prop} {inp : Input} {pos : Nat} {a b : Res α}
    (ha : Safe P a) (hb : pos < inp.size → Safe P b) : Safe P (if eof inp pos then a else b) :=
  Safe.ite (fun _ => ha) fun h => hb (Nat.lt_of_not_le fun hle => h (decide_eq_true hle))

theorem safe_peek (inp : Input) (pos : Nat) : Safe (fun _ => pos < inp.size) (peek inp pos) :=
  safe_eofGuard trivial fun h => (safe_rawAt inp pos h).mono fun _ _ => h

theorem safe_expect (inp : Input) (pos c : Nat) :
    Safe (fun p' => p' = pos + 1 ∧ pos < inp.size ∧ inp[pos]? = some c) (expect inp pos c) := by
  refine safe_eofGuard trivial fun h => ?_
  obtain ⟨b, hb⟩ := getElem?_of_lt h
  simp only [rawAt_some hb, ok_bind]
  split
  · next hbc => exact ⟨rfl, h, hbc ▸ hb⟩
  · trivial

theorem safe_matchCh (inp : Input) (pos c : Nat) (hpos : pos ≤ inp.size) :
    Safe (fun r => pos ≤ r.2 ∧ r.2 ≤ inp.size) (matchCh inp pos c) := by
  refine safe_eofGuard ⟨Nat.le_refl _, hpos⟩ fun h => ?_
  obtain ⟨b, hb⟩ := getElem?_of_lt h
  simp only [rawAt_some hb, ok_bind]
  split
  · exact ⟨Nat.le_succ _, h⟩
  · exact ⟨Nat.le_refl _, hpos⟩

theorem safe_matchLiteral (inp : Input) (pos : Nat) (lit : Bytes) (hpos : pos ≤ inp.size) :
    Safe (fun r => pos ≤ r.2 ∧ r.2 ≤ inp.size) (matchLiteral inp pos lit) := by
  unfold matchLiteral
  split
  · trivial
  · split
    · next h =>
      have hl := congrArg List.length h
      simp at hl
      exact ⟨Nat.le_add_right _ _, by show pos + lit.length ≤ inp.size; omega⟩
    · exact ⟨Nat.le_refl _, hpos⟩

theorem safe_skipWs (inp : Input) (fuel pos : Nat) (hpos : pos ≤ inp.size) (hf : inp.size - pos < fuel) :
    Safe (fun p' => pos ≤ p' ∧ p' ≤ inp.size) (skipWs inp fuel pos) := by
  induction fuel generalizing pos with
  | zero => omega
  | succ fuel ih =>
    show Safe _ (if eof inp pos then _ else _)
    refine safe_eofGuard ⟨Nat.le_refl _, hpos⟩ fun h => ?_
    obtain ⟨b, hb⟩ := getElem?_of_lt h
    simp only [rawAt_some hb]
    split
    · exact (ih (pos + 1) h (by omega)).mono fun a ha => by omega
    · exact ⟨Nat.le_refl _, hpos⟩

theorem safe_skipWs' (inp : Input) (pos : Nat) (hpos : pos ≤ inp.size) :
    Safe (fun p' => pos ≤ p' ∧ p' ≤ inp.size) (skipWs inp (fuelFor inp) pos) :=
  safe_skipWs inp _ pos hpos (by unfold fuelFor; omega)

abbrev Adv (inp : Input) (pos : Nat) (Q : JV → Prop) : JV × Nat → Prop :=
  fun r => pos ≤ r.2 ∧ r.2 ≤ inp.size ∧ Q r.1

theorem safe_parseBoolean (inp : Input) (pos : Nat) (hpos : pos ≤ inp.size) :
    Safe (Adv inp pos fun v => ∃ b, v = .bool b) (parseBoolean inp pos) := by
  unfold parseBoolean
  refine Safe.bind (safe_matchLiteral inp pos _ hpos) fun ⟨t, p⟩ hr => ?_
  refine Safe.ite (fun _ => ⟨hr.1, hr.2, true, rfl⟩) fun _ => ?_
  refine Safe.bind (safe_matchLiteral inp pos _ hpos) fun ⟨f, p2⟩ hr2 => ?_
  exact Safe.ite (fun _ => ⟨hr2.1, hr2.2, false, rfl⟩) fun _ => trivial

theorem safe_parseNull (inp : Input) (pos : Nat) (hpos : pos ≤ inp.size) :
    Safe (Adv inp pos fun v => v = .null) (parseNull inp pos) := by
  unfold parseNull
  refine Safe.bind (safe_matchLiteral inp pos _ hpos) fun ⟨n, p⟩ hr => ?_
  exact Safe.ite (fun _ => ⟨hr.1, hr.2, rfl⟩) fun _ => trivial

theorem safe_digitsLoop (inp : Input) (fuel pos : Nat) (hpos : pos ≤ inp.size) (hf : inp.size - pos < fuel) :
    Safe (fun p' => pos ≤ p' ∧ p' ≤ inp.size) (digitsLoop inp fuel pos) := by
  induction fuel generalizing pos with
  | zero => omega
  | succ fuel ih =>
    show Safe _ (if eof inp pos then _ else _)
    refine safe_eofGuard ⟨Nat.le_refl _, hpos⟩ fun h => ?_
    obtain ⟨b, hb⟩ := getElem?_of_lt h
    simp only [peek, eof_of_lt h, rawAt_some hb, Bool.false_eq_true, if_false]
    split
    · exact (ih (pos + 1) h (by omega)).mono fun a ha => by omega
    · exact ⟨Nat.le_refl _, hpos⟩

/-- a digit run after its first digit has been seen (`parse_number` tests `isdigit(peek())`
    before each of its three loops) -/
theorem safe_digits (inp : Input) (pos : Nat) (hpos : pos ≤ inp.size) (e : String) :
    Safe (fun p' => pos ≤ p' ∧ p' ≤ inp.size)
      (peek inp pos >>= fun ch => if isDigit ch then digitsLoop inp (fuelFor inp) pos else .err e) := by
  refine Safe.bind (safe_peek inp pos) fun ch _ => ?_
  split
  · exact safe_digitsLoop inp _ pos hpos (by unfold fuelFor; omega)
  · trivial

theorem safe_numInt (inp : Input) (pos : Nat) (hpos : pos ≤ inp.size) :
    Safe (fun p' => pos ≤ p' ∧ p' ≤ inp.size) (numInt inp pos) := by
  unfold numInt
  refine Safe.bind (safe_matchCh inp pos 0x30 hpos) fun ⟨z, p⟩ hp => ?_
  exact Safe.ite (fun _ => hp) fun _ => (safe_digits inp p hp.2 _).mono fun a ha => by omega

theorem safe_numFrac (inp : Input) (pos : Nat) (hpos : pos ≤ inp.size) :
    Safe (fun p' => pos ≤ p' ∧ p' ≤ inp.size) (numFrac inp pos) := by
  unfold numFrac
  refine Safe.bind (safe_matchCh inp pos 0x2E hpos) fun ⟨dot, p⟩ hp => ?_
  refine Safe.ite (fun _ => ?_) fun _ => hp
  exact safe_eofGuard trivial fun _ => (safe_digits inp p hp.2 _).mono fun a ha => by omega

theorem safe_numExpSign (inp : Input) (pos : Nat) (hpos : pos ≤ inp.size) :
    Safe (fun p' => pos ≤ p' ∧ p' ≤ inp.size) (numExpSign inp pos) := by
  refine safe_eofGuard ⟨Nat.le_refl _, hpos⟩ fun h => ?_
  refine Safe.bind (safe_peek inp pos) fun s _ => ?_
  split
  · exact ⟨Nat.le_succ _, h⟩
  · exact ⟨Nat.le_refl _, hpos⟩

theorem safe_numExp (inp : Input) (pos : Nat) (hpos : pos ≤ inp.size) :
    Safe (fun p' => pos ≤ p' ∧ p' ≤ inp.size) (numExp inp pos) := by
  refine safe_eofGuard ⟨Nat.le_refl _, hpos⟩ fun h => ?_
  refine Safe.bind (safe_peek inp pos) fun ch _ => ?_
  split
  · refine Safe.bind (safe_numExpSign inp (pos + 1) h) fun p hp => ?_
    exact safe_eofGuard trivial fun _ => (safe_digits inp p hp.2 _).mono fun a ha => by omega
  · exact ⟨Nat.le_refl _, hpos⟩

theorem safe_parseNumber (inp : Input) (pos : Nat) (hpos : pos ≤ inp.size) :
    Safe (Adv inp pos fun v => ∃ t, v = .num t) (parseNumber inp pos) := by
  unfold parseNumber
  refine Safe.bind (safe_matchCh inp pos 0x2D hpos) fun ⟨m, p1⟩ hp1 => ?_
  refine Safe.bind (safe_numInt inp p1 hp1.2) fun p2 hp2 => ?_
  refine Safe.bind (safe_numFrac inp p2 hp2.2) fun p3 hp3 => ?_
  refine Safe.bind (safe_numExp inp p3 hp3.2) fun p4 hp4 => ?_
  exact ⟨by show pos ≤ p4; omega, hp4.2, _, rfl⟩

end EphVerif.C38L
