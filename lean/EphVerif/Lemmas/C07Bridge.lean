import EphVerif.Lemmas.C07Inv

/-!
C07: from the model-level invariant to the specification's predicates (ids read as 256-bit
numbers), the registration log ("newest address and expiry"), sweeps, and what a registration
leaves in place (`Retained`); last, `reach`: the state a history leads to from the empty table.
-/
namespace EphVerif.C07L
open EphVerif.Routing EphVerif.C07Spec

/-- a `PeerId`: 32 bytes -/
def WfId (x : Id) : Prop := x.length = 32 ∧ Bytes x

def OpWf : Op → Prop
  | .reg id _ _ => WfId id
  | .add id _ _ => WfId id
  | .closest tg _ => WfId tg
  | _ => True

def OpsWf (ops : List Op) : Prop := ∀ op ∈ ops, OpWf op

def abs (c : Contact) : Entry := ⟨toNat c.id, c.addr, c.exp⟩

def dumpOf (t : Table) : Dump := (List.range kIdBits).map fun i => (i, (t.buckets i).map abs)

theorem entries_dumpOf (t : Table) : entries (dumpOf t) = (allContacts t).map abs := by
  simp [entries, dumpOf, allContacts, List.flatMap_map, List.map_flatMap]

theorem mem_entries_dumpOf {t : Table} (h : Inv t) {e : Entry} :
    e ∈ entries (dumpOf t) ↔ ∃ i, ∃ c ∈ t.buckets i, abs c = e := by
  rw [entries_dumpOf, List.mem_map]
  constructor
  · rintro ⟨c, hc, rfl⟩
    obtain ⟨i, hi⟩ := (mem_allContacts h).1 hc
    exact ⟨i, c, hi, rfl⟩
  · rintro ⟨i, c, hi, rfl⟩
    exact ⟨c, (mem_allContacts h).2 ⟨i, hi⟩, rfl⟩

theorem WfId.inj {a b : Id} (ha : WfId a) (hb : WfId b) (h : toNat a = toNat b) : a = b :=
  toNat_inj (by rw [ha.1, hb.1]) ha.2 hb.2 h

structure WfT (t : Table) : Prop where
  own : WfId t.self
  held : ∀ i, ∀ c ∈ t.buckets i, WfId c.id

theorem WfT.empty {self : Id} (h : WfId self) : WfT (Table.empty self) :=
  ⟨h, fun _ _ hc => nomatch hc⟩

theorem WfT.of_allContacts {t : Table} (w : WfT t) : ∀ c ∈ allContacts t, WfId c.id := fun c hc => by
  obtain ⟨i, _, hi⟩ := List.mem_flatMap.1 hc
  exact w.held i c hi

theorem WfT.upsertBucket {t : Table} (h : Inv t) (w : WfT t) (now : Int) (c : Contact) (hc : WfId c.id) :
    WfT (upsertBucket t now c) := by
  refine ⟨by rw [upsertBucket_self]; exact w.own, fun j x hx => ?_⟩
  rcases mem_upsertBucket h hx with rfl | ⟨hb, _⟩
  · exact hc
  · exact w.held j x hb

theorem WfT.sweep {t : Table} (w : WfT t) (now : Int) : WfT (sweepBuckets t now) :=
  ⟨w.own, fun i c hc => w.held i c (List.mem_filter.1 hc).1⟩

theorem WfT.step {s : State} (h : Inv s.table) (w : WfT s.table) {op : Op} (ho : OpWf op) : WfT (step s op).table := by
  cases op with
  | adv d => exact w
  | reg id addr exp => rw [step_reg]; exact WfT.upsertBucket h w _ _ ho
  | add id addr ttl => exact WfT.upsertBucket h w _ _ ho
  | sweep => exact w.sweep _
  | closest tg k => exact w

theorem WfT.run {s : State} (h : Inv s.table) (w : WfT s.table) {ops : List Op} (ho : OpsWf ops) :
    WfT (run s ops).table := by
  induction ops generalizing s with
  | nil => exact w
  | cons op ops ih =>
    obtain ⟨ho1, ho⟩ := List.forall_mem_cons.1 ho
    exact ih (h.step op) (w.step h ho1) ho

theorem bucketIndexFor_wf {self peer : Id} (hs : WfId self) (hp : WfId peer) (hk : kIdBits = 256) :
    bucketIndexFor self peer = if self = peer then none else some (Nat.log2 (toNat self ^^^ toNat peer)) :=
  bucketIndexFor_eq (by rw [hs.1, hp.1]) (by rw [hk, hs.1]) hs.2 hp.2

theorem bucketIndexFor_eq_some {self peer : Id} (hs : WfId self) (hp : WfId peer) (hk : kIdBits = 256) {i : Nat} :
    bucketIndexFor self peer = some i ↔ toNat self ≠ toNat peer ∧ i = bucketOf (toNat self) (toNat peer) := by
  rw [bucketIndexFor_wf hs hp hk, bucketOf]
  by_cases he : self = peer
  · simp [he]
  · have hne : toNat self ≠ toNat peer := fun h => he (hs.inj hp h)
    simp [he, hne, eq_comm]

theorem singleEntry_dumpOf {t : Table} (h : Inv t) (w : WfT t) : SingleEntry (dumpOf t) := by
  unfold SingleEntry
  rw [entries_dumpOf, List.pairwise_map]
  refine List.Pairwise.imp_of_mem ?_ h.allContacts_nodup
  intro a b ha hb hne heq
  exact hne ((w.of_allContacts a ha).inj (w.of_allContacts b hb) heq)

theorem shape_of_inv {t : Table} (h : Inv t) (w : WfT t) (hk : kIdBits = 256) (hb : kBucketSize = 16) :
    Shape (toNat t.self) (dumpOf t) := by
  refine ⟨?_, ?_, ?_, singleEntry_dumpOf h w⟩
  · intro e he heq
    obtain ⟨i, c, hc, rfl⟩ := (mem_entries_dumpOf h).1 he
    exact h.self_not_held ⟨i, hc⟩ ((w.held i c hc).inj w.own heq)
  · intro b hb'
    obtain ⟨i, _, rfl⟩ := List.mem_map.1 hb'
    rw [List.length_map, ← hb]
    exact (h i).cap
  · intro b hb' e he
    obtain ⟨i, _, rfl⟩ := List.mem_map.1 hb'
    obtain ⟨c, hc, rfl⟩ := List.mem_map.1 he
    have := (bucketIndexFor_eq_some w.own (w.held i c hc) hk).1 ((h i).place c hc)
    exact ⟨fun heq => this.1 heq.symm, this.2⟩

def logStep (st : State × Log) (op : Op) : State × Log :=
  (step st.1 op,
   match op with
   | .reg id addr exp => (toNat id, addr, effExp st.1.now exp) :: st.2
   | .add id addr ttl => (toNat id, addr, st.1.now + ttl) :: st.2
   | _ => st.2)

theorem logStep_fst (st : State × Log) (op : Op) : (logStep st op).1 = step st.1 op := rfl

def runLog (st : State × Log) (ops : List Op) : State × Log := ops.foldl logStep st

theorem runLog_fst (st : State × Log) (ops : List Op) : (runLog st ops).1 = run st.1 ops := by
  induction ops generalizing st with
  | nil => rfl
  | cons op ops ih => simp only [runLog, run, List.foldl_cons] at ih ⊢; rw [ih, logStep_fst]

def NewestInv (t : Table) (log : Log) : Prop :=
  ∀ i, ∀ c ∈ t.buckets i, lastReg log (toNat c.id) = some (c.addr, c.exp)

theorem lastReg_cons (k : Nat) (a : String) (e : Int) (log : Log) (k' : Nat) :
    lastReg ((k, a, e) :: log) k' = if k = k' then some (a, e) else lastReg log k' := by
  unfold lastReg
  rw [List.find?_cons]
  by_cases h : k = k' <;> simp [h, beq_false_of_ne]

theorem NewestInv.upsertBucket {t : Table} {log : Log} (hn : NewestInv t log) (h : Inv t) (w : WfT t)
    (now : Int) (c : Contact) (hc : WfId c.id) :
    NewestInv (upsertBucket t now c) ((toNat c.id, c.addr, c.exp) :: log) := by
  intro j x hx
  rw [lastReg_cons]
  rcases mem_upsertBucket h hx with rfl | ⟨hb, hne⟩
  · rw [if_pos rfl]
  · rw [if_neg fun heq => hne (hc.inj (w.held j x hb) heq).symm]
    exact hn j x hb

theorem NewestInv.sweep {t : Table} {log : Log} (hn : NewestInv t log) (now : Int) :
    NewestInv (sweepBuckets t now) log :=
  fun i c hc => hn i c (List.mem_filter.1 hc).1

theorem NewestInv.logStep {st : State × Log} (hn : NewestInv st.1.table st.2) (h : Inv st.1.table) (w : WfT st.1.table)
    {op : Op} (ho : OpWf op) : NewestInv (logStep st op).1.table (logStep st op).2 := by
  cases op with
  | adv d => exact hn
  | reg id addr exp =>
    simp only [C07L.logStep, step_reg]
    exact hn.upsertBucket h w st.1.now ⟨id, addr, effExp st.1.now exp⟩ ho
  | add id addr ttl => exact hn.upsertBucket h w st.1.now ⟨id, addr, st.1.now + ttl⟩ ho
  | sweep => exact hn.sweep _
  | closest tg k => exact hn

theorem NewestInv.runLog {st : State × Log} (hn : NewestInv st.1.table st.2) (h : Inv st.1.table) (w : WfT st.1.table)
    {ops : List Op} (ho : OpsWf ops) : NewestInv (runLog st ops).1.table (runLog st ops).2 := by
  induction ops generalizing st with
  | nil => exact hn
  | cons op ops ih =>
    obtain ⟨ho1, ho⟩ := List.forall_mem_cons.1 ho
    exact ih (hn.logStep h w ho1) (h.step op) (w.step h ho1) ho

theorem newest_of {t : Table} {log : Log} (hn : NewestInv t log) (h : Inv t) : Newest log (dumpOf t) := by
  intro e he
  obtain ⟨i, c, hc, rfl⟩ := (mem_entries_dumpOf h).1 he
  exact hn i c hc

theorem filter_id_eq_singleton {l : List Entry} (hp : l.Pairwise (fun a b => a.id ≠ b.id)) {e : Entry} (he : e ∈ l) :
    l.filter (·.id == e.id) = [e] := by
  obtain ⟨l₁, l₂, rfl⟩ := List.append_of_mem he
  rw [List.pairwise_append, List.pairwise_cons] at hp
  have h1 : l₁.filter (·.id == e.id) = [] :=
    List.filter_eq_nil_iff.2 fun a ha => by simpa using hp.2.2 a ha e List.mem_cons_self
  have h2 : l₂.filter (·.id == e.id) = [] :=
    List.filter_eq_nil_iff.2 fun a ha => by simpa using fun h => hp.2.1.1 a ha (Eq.symm h)
  simp [h1, h2]

theorem justRegistered_upsert {t : Table} (h : Inv t) (w : WfT t) (hk : kIdBits = 256)
    (now : Int) (c : Contact) (hc : WfId c.id) (hne : c.id ≠ t.self) :
    JustRegistered (dumpOf (upsertBucket t now c)) (toNat c.id) c.addr c.exp := by
  have h' := h.upsertBucket now c
  have hidx := (bucketIndexFor_eq_some w.own hc hk).2 ⟨fun heq => hne (hc.inj w.own heq.symm), rfl⟩
  refine filter_id_eq_singleton (singleEntry_dumpOf h' (WfT.upsertBucket h w now c hc)) (e := abs c)
    ((mem_entries_dumpOf h').2 ⟨bucketOf (toNat t.self) (toNat c.id), c, ?_, rfl⟩)
  rw [buckets_upsertBucket hidx, upsertList_eq]
  exact List.mem_append_right _ (List.mem_singleton_self c)

theorem allContacts_sweep (t : Table) (now : Int) :
    allContacts (sweepBuckets t now) = (allContacts t).filter (live now) := by
  simp [allContacts, sweepBuckets, List.filter_flatMap]

theorem live_iff (now : Int) (c : Contact) : live now c = true ↔ now < c.exp := by
  simp [live, expired]

theorem filter_unexpired_abs (now : Int) (b : List Contact) :
    (b.map abs).filter (unexpired now) = (b.filter (live now)).map abs := by
  rw [List.filter_map]
  refine congrArg (fun p => (b.filter p).map abs) (funext fun c => Bool.eq_iff_iff.2 ?_)
  rw [live_iff, Function.comp, unexpired, decide_eq_true_eq]
  rfl

theorem filter_unexpiredAt_abs (now : Int) (b : List Contact) :
    (b.map abs).filter (unexpiredAt now) = (b.filter (live now)).map abs :=
  filter_unexpired_abs now b

theorem sweepKeeps (t : Table) (now : Int) :
    SweepKeeps (entries (dumpOf t)) (entries (dumpOf (sweepBuckets t now))) now := by
  rw [entries_dumpOf, entries_dumpOf, allContacts_sweep]
  constructor
  · intro e he hlt
    obtain ⟨c, hc, rfl⟩ := List.mem_map.1 he
    exact List.mem_map_of_mem (List.mem_filter.2 ⟨hc, (live_iff now c).2 hlt⟩)
  · intro e he
    obtain ⟨c, hc, rfl⟩ := List.mem_map.1 he
    exact List.mem_map_of_mem (List.mem_filter.1 hc).1

theorem sweep_clean (t : Table) (now : Int) : ∀ e ∈ entries (dumpOf (sweepBuckets t now)), now < e.exp := by
  intro e he
  rw [entries_dumpOf, allContacts_sweep] at he
  obtain ⟨c, hc, rfl⟩ := List.mem_map.1 he
  exact (live_iff now c).1 (List.mem_filter.1 hc).2

/-- `upsert_bucket` costs no other unexpired contact its place, except the front entry of a full
    bucket when a *new* id is inserted -/
theorem retained_upsert {t : Table} (h : Inv t) (w : WfT t) (hk : kIdBits = 256) (hb : kBucketSize = 16)
    (now : Int) (c : Contact) (hc : WfId c.id) :
    Retained (toNat t.self) (dumpOf t) (dumpOf (upsertBucket t now c)) now (toNat c.id) := by
  intro bk hbk e he hlt hne
  obtain ⟨i, _, rfl⟩ := List.mem_map.1 hbk
  obtain ⟨x, hx, rfl⟩ := List.mem_map.1 he
  rcases mem_upsertBucket_or now c hx ((live_iff now x).2 hlt) (fun heq => hne (congrArg toNat heq)) with
    hin | ⟨hi, hnew, hfull, hhead⟩
  · exact Or.inl ((mem_entries_dumpOf (h.upsertBucket now c)).2 ⟨i, x, hin, rfl⟩)
  · have hidx := (bucketIndexFor_eq_some w.own hc hk).1 hi
    refine Or.inr ⟨?_, fun heq => hidx.1 heq.symm, hidx.2, ?_, ?_⟩
    · -- the id is new: an unexpired held entry carrying it would sit in bucket `i`
      intro y hy heq
      rw [entries_dumpOf, filter_unexpiredAt_abs] at hy
      obtain ⟨z, hz, rfl⟩ := List.mem_map.1 hy
      obtain ⟨hz, hzl⟩ := List.mem_filter.1 hz
      obtain ⟨j, hzj⟩ := (mem_allContacts h).1 hz
      have hzid : z.id = c.id := (w.held j z hzj).inj hc heq
      have hp := (h j).place z hzj
      rw [hzid, hi] at hp
      cases hp
      exact hnew z (List.mem_filter.2 ⟨hzj, hzl⟩) hzid
    · rw [filter_unexpiredAt_abs, List.length_map, ← hb]; exact hfull
    · rw [filter_unexpiredAt_abs, List.head?_map, hhead]; rfl

end EphVerif.C07L

namespace EphVerif.C07
open EphVerif.Routing EphVerif.C07Spec EphVerif.C07L

def reach (self : Id) (t0 : Int) (ops : List Op) : State := run (State.init self t0) ops

theorem reach_snoc (self : Id) (t0 : Int) (ops : List Op) (op : Op) :
    reach self t0 (ops ++ [op]) = step (reach self t0 ops) op := by
  simp only [reach, run, List.foldl_append, List.foldl_cons, List.foldl_nil]

theorem reach_self (self : Id) (t0 : Int) (ops : List Op) : (reach self t0 ops).table.self = self :=
  run_self _ ops

theorem reach_inv (self : Id) (t0 : Int) (ops : List Op) : Inv (reach self t0 ops).table :=
  (Inv.empty self).run ops

theorem reach_wf {self : Id} (hs : WfId self) (t0 : Int) {ops : List Op} (ho : OpsWf ops) :
    WfT (reach self t0 ops).table :=
  WfT.run (Inv.empty self) (WfT.empty hs) ho

end EphVerif.C07
