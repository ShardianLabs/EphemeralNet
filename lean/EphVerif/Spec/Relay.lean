/-
Specification of the relay (properties C25 and C26), written over what an observer sees and
independently of the model: the relay's pairing table (`View`), what each client received and
who was disconnected in one step (`Obs`), and the relay's resource counters (`Resources`).

The same predicates are (a) proved of the model for every event sequence
(EphVerif/Proofs/C25.lean, C26.lean) and (b) evaluated by the monitor on the lines the real
RelayServer produces in the correspondence harness (EphVerif/Monitor/Relay.lean).
Core Lean only.
-/
namespace EphVerif.RelaySpec

/-- `p` holds of the value, if there is one -/
def whenSome {α : Type} (o : Option α) (p : α → Prop) : Prop := match o with | none => True | some x => p x
/-- there is a value and `p` holds of it -/
def isSomeAnd {α : Type} (o : Option α) (p : α → Prop) : Prop := match o with | none => False | some x => p x

instance {α : Type} (o : Option α) (p : α → Prop) [DecidablePred p] : Decidable (whenSome o p) := by
  cases o <;> simp only [whenSome] <;> exact inferInstance
instance {α : Type} (o : Option α) (p : α → Prop) [DecidablePred p] : Decidable (isSomeAnd o p) := by
  cases o <;> simp only [isSomeAnd] <;> exact inferInstance

/-- One connected client as the relay sees it. -/
structure Peer where
  client : Nat
  bridged : Bool               -- its bridge is established
  partner : Option Nat         -- the client it is paired with (claimed by / claiming / bridged to)
  deriving DecidableEq, Repr, Inhabited

abbrev View := List Peer

def View.peer (v : View) (c : Nat) : Option Peer := v.find? fun p => p.client == c
def View.partnerOf (v : View) (c : Nat) : Option Nat := (v.peer c).bind (·.partner)
def View.isBridged (v : View) (c : Nat) : Bool := match v.peer c with | some p => p.bridged | none => false
def View.connected (v : View) (c : Nat) : Bool := (v.peer c).isSome

/-! ### C25: the pairing table -/

/-- "pairings are symmetric": whoever `a` is paired with is a different, connected client that is
    paired with `a`. -/
def Symmetric (v : View) : Prop :=
  ∀ a ∈ v, whenSome a.partner fun b => b ≠ a.client ∧ v.partnerOf b = some a.client

/-- "a registered peer is claimed by at most one connector at a time" -/
def ClaimUnique (v : View) : Prop :=
  ∀ a ∈ v, ∀ b ∈ v, a.partner.isSome → a.partner = b.partner → a.client = b.client

/-- an established bridge has an established other end -/
def BridgePaired (v : View) : Prop :=
  ∀ a ∈ v, a.bridged = true → isSomeAnd a.partner fun b => v.isBridged b = true

instance (v : View) : Decidable (Symmetric v) := by unfold Symmetric; exact inferInstance
instance (v : View) : Decidable (ClaimUnique v) := by unfold ClaimUnique; exact inferInstance
instance (v : View) : Decidable (BridgePaired v) := by unfold BridgePaired; exact inferInstance

/-! ### C25: one step.  `β` is the representation of a byte string (bytes in the theorems, the
canonical rendering of the line protocol in the monitor). -/

structure Obs (β : Type) where
  rx : List (Nat × β)     -- what each client received because of this step (clients with nothing are absent)
  closed : List Nat       -- clients the relay disconnected in this step
  deriving Repr

/-- "bytes a client sends after its bridge is established reach only its bridge partner, in order and
    without loss while both stay connected": the step in which the bridged client `src` sends `data`
    delivers exactly `data` to exactly its partner and disconnects nobody. -/
def Delivery {β : Type} (before : View) (src : Nat) (data : Option β) (o : Obs β) : Prop :=
  before.isBridged src = true →
    whenSome (before.partnerOf src) fun p =>         -- (no partner: excluded by BridgePaired)
      o.closed = [] ∧ o.rx = (match data with | none => [] | some d => [(p, d)])

/-- "no client receives relayed bytes before its own bridge exists" and "only its bridge partner":
    whatever a step triggered by `src` makes another client receive goes to a client whose bridge with
    `src` is established after the step; `src` itself only hears from the relay (command replies) while
    it is not bridged. -/
def Isolation {β : Type} (before after : View) (src : Nat) (o : Obs β) : Prop :=
  ∀ e ∈ o.rx,
    if e.1 = src then before.isBridged src = false
    else after.isBridged e.1 = true ∧ after.partnerOf e.1 = some src ∧ after.isBridged src = true

/-- "in order and without loss while both stay connected" when the receiving side is slow: while the bridged partner
    of the sender is not reading, a step of the sender delivers nothing to anybody and disconnects nobody (the relay
    holds the bytes) … -/
def Held {β : Type} (o : Obs β) : Prop := o.rx.isEmpty = true ∧ o.closed = []

/-- … and when that partner `k` reads again it finds exactly the bytes `owed` to it — everything its partner sent
    meanwhile, in order, nothing dropped or duplicated, however the relay's writes were split — and nobody is
    disconnected. -/
def CatchUp {β : Type} (k : Nat) (owed : Option β) (o : Obs β) : Prop :=
  o.closed = [] ∧ o.rx = (match owed with | none => [] | some d => [(k, d)])

instance {β : Type} (o : Obs β) : Decidable (Held o) := by unfold Held; exact inferInstance
instance {β : Type} [DecidableEq β] (k : Nat) (d : Option β) (o : Obs β) : Decidable (CatchUp k d o) := by
  unfold CatchUp; exact inferInstance

/-- a step in which no client sent anything (connect, disconnect) delivers nothing -/
def Quiet {β : Type} (o : Obs β) : Prop := o.rx.isEmpty = true

/-- "when one side of an established bridge disconnects the other side is disconnected" -/
def Teardown {β : Type} (before : View) (src : Nat) (o : Obs β) : Prop :=
  before.isBridged src = true →
    whenSome (before.partnerOf src) fun p => p ∈ o.closed

/-- "without loss", at the moment a bridge comes into being: what the partner receives after the relay's own
    announcement line is exactly the tail — from the connector's identity on — of the bytes the connector had
    sent and the relay had not yet consumed: a suffix of `pending`, at least one identity long. -/
def BridgeHandover (identityBytes : Nat) (pending afterAnnouncement : List UInt8) : Prop :=
  identityBytes ≤ afterAnnouncement.length ∧ afterAnnouncement.isSuffixOf pending = true

instance (n : Nat) (p a : List UInt8) : Decidable (BridgeHandover n p a) := by unfold BridgeHandover; exact inferInstance

/-- "without loss", before the bridge: a connector whose CONNECT has been accepted and whose identity is not complete yet
    is not in command mode any more — the relay keeps every byte it sends (its unconsumed count grows by exactly the
    number of bytes sent; they are handed to the partner when the bridge forms) and sends it nothing. -/
def IdentityHeld (unconsumedBefore sent unconsumedAfter : Nat) (heardFromRelay : Bool) : Prop :=
  unconsumedAfter = unconsumedBefore + sent ∧ heardFromRelay = false

instance (a b c : Nat) (h : Bool) : Decidable (IdentityHeld a b c h) := by unfold IdentityHeld; exact inferInstance

/-- "without loss": once a client's bridge exists the relay holds none of its bytes back (`unconsumed` = how many
    bytes of that client the relay still has buffered right after the step that established the bridge). -/
def BridgeDrained (unconsumed : Nat) : Prop := unconsumed = 0

/-- "only to its partner", for the step that establishes a bridge: the relay's own reply lines to the connector answer
    the command lines it sent *before* its identity — at most one each; anything beyond that would be relay text sent
    to a client whose bridge already exists. -/
def RepliesBounded (commandLines replyLines : Nat) : Prop := replyLines ≤ commandLines

instance (n : Nat) : Decidable (BridgeDrained n) := by unfold BridgeDrained; exact inferInstance
instance (a b : Nat) : Decidable (RepliesBounded a b) := by unfold RepliesBounded; exact inferInstance

instance {β : Type} [DecidableEq β] (v : View) (s : Nat) (d : Option β) (o : Obs β) : Decidable (Delivery v s d o) := by
  unfold Delivery; exact inferInstance
instance {β : Type} (v w : View) (s : Nat) (o : Obs β) : Decidable (Isolation v w s o) := by
  unfold Isolation; exact inferInstance
instance {β : Type} (o : Obs β) : Decidable (Quiet o) := by unfold Quiet; exact inferInstance
instance {β : Type} (v : View) (s : Nat) (o : Obs β) : Decidable (Teardown v s o) := by
  unfold Teardown; exact inferInstance

/-! ### C26: resources -/

/-- What the relay holds: client sessions, registrations (with the client each one names, `none` for a
    registration whose session no longer exists) and open client descriptors. -/
structure Resources where
  sessions : List Nat
  registrations : List (Option Nat)
  fds : Nat
  deriving Repr

/-- "once every client has disconnected it holds no client sessions, registrations or open client
    descriptors" — stated for every moment: the relay holds a session and a descriptor for exactly the
    clients that are still connected, and every registration names one of them. -/
def Released (connected : List Nat) (r : Resources) : Prop :=
  (∀ c ∈ r.sessions, c ∈ connected) ∧
  r.fds = r.sessions.length ∧
  (∀ e ∈ r.registrations, isSomeAnd e fun c => c ∈ r.sessions)

instance (cs : List Nat) (r : Resources) : Decidable (Released cs r) := by unfold Released; exact inferInstance

/-- the literal end state of the property -/
theorem released_nil {r : Resources} (h : Released [] r) :
    r.sessions = [] ∧ r.registrations = [] ∧ r.fds = 0 := by
  obtain ⟨h1, h2, h3⟩ := h
  have hs : r.sessions = [] := List.eq_nil_iff_forall_not_mem.mpr fun c hc => List.not_mem_nil (h1 c hc)
  refine ⟨hs, List.eq_nil_iff_forall_not_mem.mpr fun e he => ?_, by rw [h2, hs]; rfl⟩
  match e, h3 e he with
  | some c, hc => rw [hs] at hc; exact List.not_mem_nil hc

end EphVerif.RelaySpec
