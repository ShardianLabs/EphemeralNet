/-
RFC 8439 ChaCha20 (sections 2.1 – 2.4), written from the text of the RFC.  Core Lean only.

Stable public names (imported by C09, C11, C14):

  EphVerif.Spec.chacha20Block (key : List UInt8) (counter : UInt32) (nonce : List UInt8) : List UInt8
  EphVerif.Spec.chacha20      (key nonce : List UInt8) (counter : UInt32) (input : List UInt8) : List UInt8

`key` is the 32-byte key, `nonce` the 12-byte nonce (the functions are total: a shorter key/nonce
simply yields fewer state words; every theorem that matters carries the length hypotheses).

Nothing here is taken from the C++ source: the constants are the ones printed in RFC 8439
section 2.3, the rotation distances those of section 2.1, the index pattern that of section 2.3,
little-endian conversion is defined arithmetically (byte i has weight 256^i) and the left roll is
`BitVec.rotateLeft`.  The RFC's test vectors (2.1.1, 2.2.1, 2.3.2, 2.4.2) are checked at the end by
kernel evaluation, on a form of the block function that the kernel evaluates cheaply.
-/
namespace EphVerif.Spec
namespace ChaCha

/-! ## 2.1 The quarter round -/

/-- "`<<< n`": an n-bit left roll (rotation) of a 32-bit word. -/
def rotl (x : UInt32) (n : Nat) : UInt32 := UInt32.ofBitVec (x.toBitVec.rotateLeft n)

/-- RFC 8439 section 2.1:
```
a += b; d ^= a; d <<<= 16;
c += d; b ^= c; b <<<= 12;
a += b; d ^= a; d <<<= 8;
c += d; b ^= c; b <<<= 7;
```
`+` is addition modulo 2^32 (`UInt32` addition), `^` is XOR. -/
def quarterRound (a b c d : UInt32) : UInt32 × UInt32 × UInt32 × UInt32 :=
  let a := a + b; let d := d ^^^ a; let d := rotl d 16
  let c := c + d; let b := b ^^^ c; let b := rotl b 12
  let a := a + b; let d := d ^^^ a; let d := rotl d 8
  let c := c + d; let b := b ^^^ c; let b := rotl b 7
  (a, b, c, d)

/-- The rotation distances of section 2.1, in order of use. -/
def rotations : List Nat := [16, 12, 8, 7]

/-! ## 2.2 A quarter round on the ChaCha state

The state is a vector of 16 words, here a `List UInt32` indexed 0 … 15. -/

abbrev State := List UInt32

/-- `QUARTERROUND(x, y, z, w)` applied to the state words with these indices. -/
def qrAt (s : State) (x y z w : Nat) : State :=
  let r := quarterRound (s.getD x 0) (s.getD y 0) (s.getD z 0) (s.getD w 0)
  (((s.set x r.1).set y r.2.1).set z r.2.2.1).set w r.2.2.2

/-! ## 2.3 The ChaCha20 block function -/

/-- The four constant words of section 2.3 ("expand 32-byte k"). -/
def sigma : List UInt32 := [0x61707865, 0x3320646e, 0x79622d32, 0x6b206574]

/-- Column rounds (quarter rounds 1–4 of `inner_block`). -/
def columnRounds : List (Nat × Nat × Nat × Nat) := [(0, 4, 8, 12), (1, 5, 9, 13), (2, 6, 10, 14), (3, 7, 11, 15)]

/-- Diagonal rounds (quarter rounds 5–8 of `inner_block`). -/
def diagonalRounds : List (Nat × Nat × Nat × Nat) := [(0, 5, 10, 15), (1, 6, 11, 12), (2, 7, 8, 13), (3, 4, 9, 14)]

/-- Number of double rounds: "ChaCha20 runs 20 rounds, alternating between column rounds and
diagonal rounds", i.e. 10 iterations of `inner_block`. -/
def doubleRounds : Nat := 10

/-- `inner_block (state)` of section 2.3.1: four column rounds, then four diagonal rounds. -/
def innerBlock (s : State) : State :=
  let s := qrAt s 0 4 8 12
  let s := qrAt s 1 5 9 13
  let s := qrAt s 2 6 10 14
  let s := qrAt s 3 7 11 15
  let s := qrAt s 0 5 10 15
  let s := qrAt s 1 6 11 12
  let s := qrAt s 2 7 8 13
  qrAt s 3 4 9 14

/-- `n` applications of `inner_block`. -/
def innerBlocks : Nat → State → State
  | 0, s => s
  | n + 1, s => innerBlocks n (innerBlock s)

/-- A little-endian 32-bit integer: byte `i` has weight `256^i`. -/
def le32 (b0 b1 b2 b3 : UInt8) : UInt32 :=
  UInt32.ofNat (b0.toNat + 256 * b1.toNat + 65536 * b2.toNat + 16777216 * b3.toNat)

/-- "…by reading the bytes in little-endian order, in 4-byte chunks" (a trailing partial
chunk, which cannot occur for 32-byte keys and 12-byte nonces, is dropped). -/
def leWords : List UInt8 → List UInt32
  | b0 :: b1 :: b2 :: b3 :: rest => le32 b0 b1 b2 b3 :: leWords rest
  | _ => []

/-- The four bytes of a word, least significant first. -/
def leBytes (w : UInt32) : List UInt8 :=
  [UInt8.ofNat (w.toNat % 256), UInt8.ofNat (w.toNat / 256 % 256),
   UInt8.ofNat (w.toNat / 65536 % 256), UInt8.ofNat (w.toNat / 16777216 % 256)]

/-- "…serialize the result by sequencing the words one-by-one in little-endian order." -/
def serialize (s : State) : List UInt8 := s.flatMap leBytes

/-- Initial state of section 2.3:
```
cccccccc  cccccccc  cccccccc  cccccccc
kkkkkkkk  kkkkkkkk  kkkkkkkk  kkkkkkkk
kkkkkkkk  kkkkkkkk  kkkkkkkk  kkkkkkkk
bbbbbbbb  nnnnnnnn  nnnnnnnn  nnnnnnnn
``` -/
def initState (key : List UInt8) (counter : UInt32) (nonce : List UInt8) : State :=
  sigma ++ leWords key ++ [counter] ++ leWords nonce

/-- "At the end of 20 rounds, we add the original input words to the output words". -/
def addStates (a b : State) : State := List.zipWith (· + ·) a b

/-- The state after the block function, before serialisation (section 2.3.2 prints it). -/
def blockState (key : List UInt8) (counter : UInt32) (nonce : List UInt8) : State :=
  let st := initState key counter nonce
  addStates (innerBlocks doubleRounds st) st

end ChaCha

/-- `chacha20_block(key, counter, nonce)` of RFC 8439 section 2.3.1: 64 bytes of key stream. -/
def chacha20Block (key : List UInt8) (counter : UInt32) (nonce : List UInt8) : List UInt8 :=
  ChaCha.serialize (ChaCha.blockState key counter nonce)

namespace ChaCha

/-! ## 2.4 The ChaCha20 encryption algorithm -/

/-- Key-stream blocks for block counters `counter, counter+1, …, counter+n-1`, concatenated.
The block counter is a 32-bit word: the sum is taken modulo 2^32 (`UInt32` addition). -/
def keystream (key nonce : List UInt8) (counter : UInt32) (n : Nat) : List UInt8 :=
  (List.range n).flatMap fun j => chacha20Block key (counter + UInt32.ofNat j) nonce

/-- Number of 64-byte blocks needed to cover `len` bytes:
`floor(len/64)` full blocks plus one more if `len % 64 ≠ 0`. -/
def blocksFor (len : Nat) : Nat := (len + 63) / 64

end ChaCha

/-- `chacha20_encrypt(key, counter, nonce, plaintext)` of RFC 8439 section 2.4.1: block `j` of the
input is XORed with `chacha20_block(key, counter+j, nonce)`; a final partial block uses only the
leading bytes of its key-stream block (`zipWith` stops at the end of the input). -/
def chacha20 (key nonce : List UInt8) (counter : UInt32) (input : List UInt8) : List UInt8 :=
  List.zipWith (· ^^^ ·) input (ChaCha.keystream key nonce counter (ChaCha.blocksFor input.length))

/-! ## The block function in a form cheap for the kernel

`qrAt` reads four words of the state list by index and writes four back, eight times per double round:
walking the lists costs the kernel more than the arithmetic.  Here a double round takes the sixteen words
apart once and puts the list together once; the quarter round and everything around the rounds are as
above, and the two forms are equal for all arguments.  To evaluate: rewrite with `innerBlocks_eq`,
`blockState_eq` or `chacha20_eq`, then `decide +kernel`. -/

namespace ChaCha

/-- `innerBlock` on a state of sixteen words taken apart (any other list is left to `innerBlock`) -/
def innerBlock16 : State → State
  | [x0, x1, x2, x3, x4, x5, x6, x7, x8, x9, x10, x11, x12, x13, x14, x15] =>
    let (x0, x4, x8, x12) := quarterRound x0 x4 x8 x12
    let (x1, x5, x9, x13) := quarterRound x1 x5 x9 x13
    let (x2, x6, x10, x14) := quarterRound x2 x6 x10 x14
    let (x3, x7, x11, x15) := quarterRound x3 x7 x11 x15
    let (x0, x5, x10, x15) := quarterRound x0 x5 x10 x15
    let (x1, x6, x11, x12) := quarterRound x1 x6 x11 x12
    let (x2, x7, x8, x13) := quarterRound x2 x7 x8 x13
    let (x3, x4, x9, x14) := quarterRound x3 x4 x9 x14
    [x0, x1, x2, x3, x4, x5, x6, x7, x8, x9, x10, x11, x12, x13, x14, x15]
  | s => innerBlock s

theorem innerBlock_eq (s : State) : innerBlock s = innerBlock16 s := by
  unfold innerBlock16
  split
  · simp only [innerBlock, qrAt, List.getD_cons_zero, List.getD_cons_succ, List.set_cons_zero, List.set_cons_succ]
  · rfl

def innerBlocks16 : Nat → State → State
  | 0, s => s
  | n + 1, s => innerBlocks16 n (innerBlock16 s)

theorem innerBlocks_eq (n : Nat) (s : State) : innerBlocks n s = innerBlocks16 n s := by
  induction n generalizing s with
  | zero => rfl
  | succ n ih => rw [innerBlocks, innerBlocks16, innerBlock_eq, ih]

def blockState16 (key : List UInt8) (counter : UInt32) (nonce : List UInt8) : State :=
  let st := initState key counter nonce
  addStates (innerBlocks16 doubleRounds st) st

theorem blockState_eq (key : List UInt8) (counter : UInt32) (nonce : List UInt8) :
    blockState key counter nonce = blockState16 key counter nonce := by
  simp only [blockState, blockState16, innerBlocks_eq]

end ChaCha

theorem chacha20_eq (key nonce : List UInt8) (counter : UInt32) (input : List UInt8) :
    chacha20 key nonce counter input = List.zipWith (· ^^^ ·) input
      ((List.range (ChaCha.blocksFor input.length)).flatMap fun j =>
        ChaCha.serialize (ChaCha.blockState16 key (counter + UInt32.ofNat j) nonce)) := by
  simp only [chacha20, ChaCha.keystream, chacha20Block, ChaCha.blockState_eq]

/-! ## RFC 8439 test vectors, checked by kernel evaluation

The block function is evaluated once per (key, counter, nonce): the later vectors of a section are derived
from the earlier ones. -/

namespace ChaCha

theorem keystream_two (key nonce : List UInt8) (c : UInt32) :
    keystream key nonce c 2 = serialize (blockState key c nonce) ++ serialize (blockState key (c + 1) nonce) := by
  have h0 : c + UInt32.ofNat 0 = c := UInt32.add_zero c
  simp only [keystream, List.range_succ, List.range_zero, List.nil_append, List.flatMap_cons, List.flatMap_nil,
    List.append_nil, List.cons_append, chacha20Block, h0]
  rfl

end ChaCha

namespace ChaCha.Vectors

/-- 2.1.1 Test vector for the ChaCha quarter round. -/
theorem quarterRound_2_1_1 :
    quarterRound 0x11111111 0x01020304 0x9b8d6f43 0x01234567
      = (0xea2a92f4, 0xcb1cf8ce, 0x4581472e, 0x5881c4bb) := by decide +kernel

/-- 2.2.1 Test vector for the quarter round on the ChaCha state: `QUARTERROUND(2, 7, 8, 13)`. -/
theorem qrAt_2_2_1 :
    qrAt [0x879531e0, 0xc5ecf37d, 0x516461b1, 0xc9a62f8a,
          0x44c20ef3, 0x3390af7f, 0xd9fc690b, 0x2a5f714c,
          0x53372767, 0xb00a5631, 0x974c541a, 0x359e9963,
          0x5c971061, 0x3d631689, 0x2098d9d6, 0x91dbd320] 2 7 8 13
      = [0x879531e0, 0xc5ecf37d, 0xbdb886dc, 0xc9a62f8a,
         0x44c20ef3, 0x3390af7f, 0xd9fc690b, 0xcfacafd2,
         0xe46bea80, 0xb00a5631, 0x974c541a, 0x359e9963,
         0x5c971061, 0xccc07c79, 0x2098d9d6, 0x91dbd320] := by decide +kernel

/-- key 00:01:…:1f used by 2.3.2 and 2.4.2 -/
def key : List UInt8 := (List.range 32).map UInt8.ofNat

def nonce232 : List UInt8 := [0x00, 0x00, 0x00, 0x09, 0x00, 0x00, 0x00, 0x4a, 0x00, 0x00, 0x00, 0x00]

/-- 2.3.2: the state set up from key, block counter 1 and nonce. -/
theorem initState_2_3_2 :
    initState key 1 nonce232
      = [0x61707865, 0x3320646e, 0x79622d32, 0x6b206574,
         0x03020100, 0x07060504, 0x0b0a0908, 0x0f0e0d0c,
         0x13121110, 0x17161514, 0x1b1a1918, 0x1f1e1d1c,
         0x00000001, 0x09000000, 0x4a000000, 0x00000000] := by decide +kernel

/-- 2.3.2: ChaCha state after 20 rounds. -/
theorem rounds_2_3_2 :
    innerBlocks doubleRounds (initState key 1 nonce232)
      = [0x837778ab, 0xe238d763, 0xa67ae21e, 0x5950bb2f,
         0xc4f2d0c7, 0xfc62bb2f, 0x8fa018fc, 0x3f5ec7b7,
         0x335271c2, 0xf29489f3, 0xeabda8fc, 0x82e46ebd,
         0xd19c12b4, 0xb04e16de, 0x9e83d0cb, 0x4e3c50a2] := by
  rw [innerBlocks_eq]
  decide +kernel

/-- 2.3.2: ChaCha state at the end of the ChaCha20 operation. -/
theorem blockState_2_3_2 :
    blockState key 1 nonce232
      = [0xe4e7f110, 0x15593bd1, 0x1fdd0f50, 0xc47120a3,
         0xc7f4d1c7, 0x0368c033, 0x9aaa2204, 0x4e6cd4c3,
         0x466482d2, 0x09aa9f07, 0x05d7c214, 0xa2028bd9,
         0xd19c12b5, 0xb94e16de, 0xe883d0cb, 0x4e3c50a2] := by
  show addStates (innerBlocks doubleRounds (initState key 1 nonce232)) (initState key 1 nonce232) = _
  rw [rounds_2_3_2, initState_2_3_2]
  decide +kernel

/-- 2.3.2: serialized block. -/
theorem block_2_3_2 :
    chacha20Block key 1 nonce232
      = [0x10, 0xf1, 0xe7, 0xe4, 0xd1, 0x3b, 0x59, 0x15, 0x50, 0x0f, 0xdd, 0x1f, 0xa3, 0x20, 0x71, 0xc4,
         0xc7, 0xd1, 0xf4, 0xc7, 0x33, 0xc0, 0x68, 0x03, 0x04, 0x22, 0xaa, 0x9a, 0xc3, 0xd4, 0x6c, 0x4e,
         0xd2, 0x82, 0x64, 0x46, 0x07, 0x9f, 0xaa, 0x09, 0x14, 0xc2, 0xd7, 0x05, 0xd9, 0x8b, 0x02, 0xa2,
         0xb5, 0x12, 0x9c, 0xd1, 0xde, 0x16, 0x4e, 0xb9, 0xcb, 0xd0, 0x83, 0xe8, 0xa2, 0x50, 0x3c, 0x4e] := by
  rw [chacha20Block, blockState_2_3_2]
  decide +kernel

def nonce242 : List UInt8 := [0x00, 0x00, 0x00, 0x00, 0x00, 0x00, 0x00, 0x4a, 0x00, 0x00, 0x00, 0x00]

/-- 2.4.2 plaintext: "Ladies and Gentlemen of the class of '99: If I could offer you only one tip for the
future, sunscreen would be it." (114 bytes) -/
def sunscreen : List UInt8 :=
  "Ladies and Gentlemen of the class of '99: If I could offer you only one tip for the future, sunscreen would be it.".toUTF8.toList

theorem toList_loop (bs : ByteArray) (i : Nat) (r : List UInt8) :
    ByteArray.toList.loop bs i r = r.reverse ++ bs.data.toList.drop i := by
  fun_induction ByteArray.toList.loop bs i r with
  | case1 i r h ih =>
    have h' : i < bs.data.toList.length := h
    rw [ih, List.reverse_cons, List.append_assoc, List.drop_eq_getElem_cons h', ByteArray.get!, getElem!_pos bs.data i h]
    rfl
  | case2 i r h =>
    have h' : bs.data.toList.length ≤ i := Nat.le_of_not_lt h
    rw [List.drop_eq_nil_of_le h', List.append_nil]

/-- `ByteArray.toList` copies byte by byte in a loop defined by well-founded recursion, which the kernel
evaluates slowly; the list underneath is what the vectors below are evaluated on. -/
theorem byteArray_toList (bs : ByteArray) : bs.toList = bs.data.toList := toList_loop bs 0 []

/-- 2.4.2: the plaintext bytes as printed in the RFC (first and last rows), and its length. -/
theorem sunscreen_bytes : sunscreen.length = 114 ∧
    sunscreen.take 16 = [0x4c, 0x61, 0x64, 0x69, 0x65, 0x73, 0x20, 0x61, 0x6e, 0x64, 0x20, 0x47, 0x65, 0x6e, 0x74, 0x6c] ∧
    sunscreen.drop 112 = [0x74, 0x2e] := by
  rw [sunscreen, byteArray_toList]
  decide +kernel

/-- 2.4.2: first key-stream block (block counter 1). -/
theorem keystream1_2_4_2 :
    blockState key 1 nonce242
      = [0xf3514f22, 0xe1d91b40, 0x6f27de2f, 0xed1d63b8,
         0x821f138c, 0xe2062c3d, 0xecca4f7e, 0x78cff39e,
         0xa30a3b8a, 0x920a6072, 0xcd7479b5, 0x34932bed,
         0x40ba4c79, 0xcd343ec6, 0x4c2c21ea, 0xb7417df0] := by
  rw [blockState_eq]
  decide +kernel

/-- 2.4.2: second key-stream block (block counter 2). -/
theorem keystream2_2_4_2 :
    blockState key 2 nonce242
      = [0x9f74a669, 0x410f633f, 0x28feca22, 0x7ec44dec,
         0x6d34d426, 0x738cb970, 0x3ac5e9f3, 0x45590cc4,
         0xda6e8b39, 0x892c831a, 0xcdea67c1, 0x2b7e1d90,
         0x037463f3, 0xa11a2073, 0xe8bcfb88, 0xedc49139] := by
  rw [blockState_eq]
  decide +kernel

/-- 2.4.2: ciphertext of the sunscreen text with initial block counter 1. -/
theorem encrypt_2_4_2 :
    chacha20 key nonce242 1 sunscreen
      = [0x6e, 0x2e, 0x35, 0x9a, 0x25, 0x68, 0xf9, 0x80, 0x41, 0xba, 0x07, 0x28, 0xdd, 0x0d, 0x69, 0x81,
         0xe9, 0x7e, 0x7a, 0xec, 0x1d, 0x43, 0x60, 0xc2, 0x0a, 0x27, 0xaf, 0xcc, 0xfd, 0x9f, 0xae, 0x0b,
         0xf9, 0x1b, 0x65, 0xc5, 0x52, 0x47, 0x33, 0xab, 0x8f, 0x59, 0x3d, 0xab, 0xcd, 0x62, 0xb3, 0x57,
         0x16, 0x39, 0xd6, 0x24, 0xe6, 0x51, 0x52, 0xab, 0x8f, 0x53, 0x0c, 0x35, 0x9f, 0x08, 0x61, 0xd8,
         0x07, 0xca, 0x0d, 0xbf, 0x50, 0x0d, 0x6a, 0x61, 0x56, 0xa3, 0x8e, 0x08, 0x8a, 0x22, 0xb6, 0x5e,
         0x52, 0xbc, 0x51, 0x4d, 0x16, 0xcc, 0xf8, 0x06, 0x81, 0x8c, 0xe9, 0x1a, 0xb7, 0x79, 0x37, 0x36,
         0x5a, 0xf9, 0x0b, 0xbf, 0x74, 0xa3, 0x5b, 0xe6, 0xb4, 0x0b, 0x8e, 0xed, 0xf2, 0x78, 0x5e, 0x42,
         0x87, 0x4d] := by
  rw [chacha20, sunscreen_bytes.1, show blocksFor 114 = 2 from rfl, keystream_two, keystream1_2_4_2,
    show (1 : UInt32) + 1 = 2 from rfl, keystream2_2_4_2, sunscreen, byteArray_toList]
  decide +kernel

end ChaCha.Vectors

end EphVerif.Spec
