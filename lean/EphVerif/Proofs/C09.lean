/-
C09 — ChaCha20 matches RFC 8439 and is its own inverse.

Model: EphVerif.ChaCha20 (Model/ChaCha20.lean, built on Generated/C09.lean).
Spec : EphVerif.Spec.chacha20 / chacha20Block (Spec/ChaCha20.lean, RFC 8439 with its test vectors).
-/
import EphVerif.Lemmas.C09Block
import EphVerif.Lemmas.C09Apply

namespace EphVerif.C09
open EphVerif EphVerif.ChaCha20

/-- `kSigma` is "expand 32-byte k" as printed in RFC 8439 section 2.3 -/
theorem gen_sigma : Gen.C09.sigma = [0x61707865, 0x3320646e, 0x79622d32, 0x6b206574] ∧ Gen.C09.sigma = Spec.ChaCha.sigma := by
  decide

theorem gen_rotations : Gen.C09.rotations = [16, 12, 8, 7] ∧ Gen.C09.rotations = Spec.ChaCha.rotations := by decide

/-- every rotation distance is in 1 … 31 (no undefined shift in `rotl32`), and the width is 32 -/
theorem gen_rotations_in_range : (∀ r ∈ Gen.C09.rotations, 0 < r ∧ r < 32) ∧ Gen.C09.rotlWidth = 32 := by decide

/-- the statement list of `quarter_round` is the one of RFC 8439 section 2.1
(`a += b; d ^= a; d <<<= 16; c += d; b ^= c; b <<<= 12; a += b; d ^= a; d <<<= 8; c += d; b ^= c; b <<<= 7`) -/
theorem gen_qrProgram : Gen.C09.qrProgram =
    [(0, 0, 1, 0), (1, 3, 0, 0), (2, 3, 3, 16), (0, 2, 3, 0), (1, 1, 2, 0), (2, 1, 1, 12),
     (0, 0, 1, 0), (1, 3, 0, 0), (2, 3, 3, 8), (0, 2, 3, 0), (1, 1, 2, 0), (2, 1, 1, 7)] := by decide

theorem gen_doubleRounds : Gen.C09.doubleRounds = 10 ∧ Gen.C09.doubleRounds = Spec.ChaCha.doubleRounds := by decide

theorem gen_qrIndices : Gen.C09.qrIndices = Spec.ChaCha.columnRounds ++ Spec.ChaCha.diagonalRounds := by decide

/-- the four indices of every `quarter_round` call are pairwise distinct and below 16
(justifies modelling the reference parameters as copy-in/copy-out) -/
theorem gen_qrIndices_distinct : ∀ t ∈ Gen.C09.qrIndices,
    t.1 ≠ t.2.1 ∧ t.1 ≠ t.2.2.1 ∧ t.1 ≠ t.2.2.2 ∧ t.2.1 ≠ t.2.2.1 ∧ t.2.1 ≠ t.2.2.2 ∧ t.2.2.1 ≠ t.2.2.2 ∧
    t.1 < 16 ∧ t.2.1 < 16 ∧ t.2.2.1 < 16 ∧ t.2.2.2 < 16 := by decide

/-- (T) the block counter of `ChaCha20::apply` advances as the model's `applyLoop` says: the block function gets the
`std::uint32_t` counter parameter itself and that 32-bit variable is incremented once per block (so block `j` uses
`(counter + j) mod 2^32`, not an index of another width added to the initial counter). -/
theorem gen_counterAdvance : Gen.C09.counterMode = 0 ∧ Gen.C09.counterWidth = 32 := by decide

theorem gen_kBlockSize : Gen.C09.kBlockSize = 64 := by decide

theorem state_layout (key nonce : List UInt8) (counter : UInt32) (hk : key.length = 32) (hn : nonce.length = 12) :
    ChaCha20.initState key nonce counter
      = Spec.ChaCha.sigma ++ Spec.ChaCha.leWords key ++ [counter] ++ Spec.ChaCha.leWords nonce :=
  initState_eq key nonce counter hk hn

/-- `chacha20_block` is the block function of RFC 8439 section 2.3, for every key, nonce and counter -/
theorem block_spec (key nonce : List UInt8) (counter : UInt32) (hk : key.length = 32) (hn : nonce.length = 12) :
    chacha20_block key nonce counter = Spec.chacha20Block key counter nonce :=
  chacha20_block_eq key nonce counter hk hn

/-- **C09, first clause.** For every 256-bit key, 96-bit nonce, initial block counter and input (of any
length: empty, partial blocks, multiples of 64, across any number of block boundaries),
`ChaCha20::apply` computes RFC 8439 ChaCha20: block `j` of the input is XORed with
`chacha20_block(key, (counter + j) mod 2^32, nonce)`. The result does not depend on what the output
vector held before the call. -/
theorem apply_spec (key nonce : List UInt8) (counter : UInt32) (input : List UInt8)
    (hk : key.length = 32) (hn : nonce.length = 12) :
    ChaCha20.apply key nonce input counter = Spec.chacha20 key nonce counter input := by
  rw [ChaCha20.apply, applyInto_eq, mapIdx_ksByte key nonce counter input hk hn]

theorem applyInto_eq_apply (key nonce input : List UInt8) (counter : UInt32) (old : List UInt8) :
    applyInto key nonce input counter old = ChaCha20.apply key nonce input counter := by
  rw [ChaCha20.apply, applyInto_eq, applyInto_eq]

theorem applyInto_spec (key nonce : List UInt8) (counter : UInt32) (input old : List UInt8)
    (hk : key.length = 32) (hn : nonce.length = 12) :
    ChaCha20.applyInto key nonce input counter old = Spec.chacha20 key nonce counter input := by
  rw [applyInto_eq_apply, apply_spec key nonce counter input hk hn]

theorem block_counter_mod (counter : UInt32) (j : Nat) :
    (counter + UInt32.ofNat j).toNat = (counter.toNat + j) % 2 ^ 32 := by
  rw [UInt32.toNat_add, UInt32.toNat_ofNat', Nat.add_mod_mod]

theorem block_counter_wrap : (0xFFFFFFFF : UInt32) + UInt32.ofNat 1 = 0 ∧ (0xFFFFFFFE : UInt32) + UInt32.ofNat 2 = 0 := by
  decide

/-- Explicit form of the block-boundary / wrap behaviour: byte `j` of the output is byte `j` of the input
XOR byte `j mod 64` of the RFC 8439 block with counter `(counter + j / 64) mod 2^32`. -/
theorem apply_getElem? (key nonce : List UInt8) (counter : UInt32) (input : List UInt8) (j : Nat)
    (hk : key.length = 32) (hn : nonce.length = 12) :
    (ChaCha20.apply key nonce input counter)[j]? =
      input[j]?.map fun b => b ^^^ (Spec.chacha20Block key (counter + UInt32.ofNat (j / 64)) nonce).getD (j % 64) 0 := by
  rw [ChaCha20.apply, applyInto_eq, List.getElem?_mapIdx]
  simp only [ksByte, chacha20_block_eq key nonce _ hk hn]

theorem apply_append (key nonce : List UInt8) (counter : UInt32) (x y : List UInt8) (m : Nat) (hx : x.length = 64 * m) :
    ChaCha20.apply key nonce (x ++ y) counter
      = ChaCha20.apply key nonce x counter ++ ChaCha20.apply key nonce y (counter + UInt32.ofNat m) := by
  simp only [ChaCha20.apply, applyInto_eq, List.mapIdx_append, hx, Nat.add_comm _ (64 * m), ksByte_add]

theorem apply_wrap (key nonce : List UInt8) (x y : List UInt8) (hx : x.length = 64) :
    ChaCha20.apply key nonce (x ++ y) 0xFFFFFFFF
      = ChaCha20.apply key nonce x 0xFFFFFFFF ++ ChaCha20.apply key nonce y 0 := by
  rw [apply_append key nonce 0xFFFFFFFF x y 1 (by omega)]
  rfl

/-- **C09, length.** The output has the length of the input (for every key, nonce, counter). -/
theorem length (key nonce : List UInt8) (counter : UInt32) (input : List UInt8) :
    (ChaCha20.apply key nonce input counter).length = input.length := by
  rw [ChaCha20.apply, applyInto_eq, List.length_mapIdx]

/-- (T) `ChaCha20::apply` brings the output to length with `output.resize(input.size())`: the old
contents survive. (Re-initialising instead — `assign(n, 0)`, `clear(); resize(n)` — would wipe an
aliased input before it is read.) -/
theorem gen_outputPrep : Gen.C09.outputPrep = 0 := by decide

theorem prepare_eq_resize (out : Array UInt8) (n : Nat) : prepare out n = resize out n := by
  simp only [prepare, gen_outputPrep, if_true]

theorem toList_resize (vec : List UInt8) (n : Nat) :
    (resize vec.toArray n).toList = vec.take n ++ List.replicate (n - vec.length) 0 := by
  simp only [resize, List.extract_toArray, List.extract_eq_take_drop, Nat.sub_zero, List.drop_zero, List.size_toArray,
    Array.toList_append, Array.toList_replicate]

theorem toList_resize_self (buf : List UInt8) : (resize buf.toArray buf.length).toList = buf := by
  rw [toList_resize, List.take_length, Nat.sub_self, List.replicate_zero, List.append_nil]

theorem applyAliased_eq_apply (key nonce vec : List UInt8) (n : Nat) (counter : UInt32) :
    applyAliased key nonce vec n counter
      = ChaCha20.apply key nonce (vec.take n ++ List.replicate (n - vec.length) 0) counter := by
  rw [applyAliased_eq, prepare_eq_resize, toList_resize, ChaCha20.apply, applyInto_eq]

/-- Aliased call `apply(key, nonce, span(vec.data(), n), vec, counter)`, for the loop as coded (each byte read
before it is overwritten, bytes ahead untouched, `resize` keeping contents): the vector ends up holding RFC
8439 ChaCha20 of its first `n` bytes (zero-extended if `n` exceeds its length, the bytes `resize` creates). -/
theorem apply_aliased (key nonce vec : List UInt8) (n : Nat) (counter : UInt32)
    (hk : key.length = 32) (hn : nonce.length = 12) :
    applyAliased key nonce vec n counter
      = Spec.chacha20 key nonce counter (vec.take n ++ List.replicate (n - vec.length) 0) := by
  rw [applyAliased_eq_apply, apply_spec key nonce counter _ hk hn]

theorem apply_inplace_eq_apply (key nonce buf : List UInt8) (counter : UInt32) :
    applyInPlace key nonce buf counter = ChaCha20.apply key nonce buf counter := by
  rw [applyInPlace, applyAliased_eq_apply, ← toList_resize, toList_resize_self]

/-- **C09, in place.** `apply(key, nonce, buf, buf, counter)` — input span and output vector the same
storage — is RFC 8439 ChaCha20 of the buffer, for every key(32), nonce(12), counter and buffer. -/
theorem apply_inplace (key nonce buf : List UInt8) (counter : UInt32) (hk : key.length = 32) (hn : nonce.length = 12) :
    applyInPlace key nonce buf counter = Spec.chacha20 key nonce counter buf := by
  rw [apply_inplace_eq_apply, apply_spec key nonce counter buf hk hn]

theorem xor_xor_cancel (b k : UInt8) : (b ^^^ k) ^^^ k = b := by
  rw [UInt8.xor_assoc, UInt8.xor_self, UInt8.xor_zero]

/-- **C09, second clause.** Applying the cipher twice with the same key, nonce and initial counter returns
the input — for every input of any length, every counter (including those that wrap), and in fact for
key/nonce lists of any length. -/
theorem involution (key nonce : List UInt8) (counter : UInt32) (x : List UInt8) :
    ChaCha20.apply key nonce (ChaCha20.apply key nonce x counter) counter = x := by
  simp only [ChaCha20.apply, applyInto_eq]
  apply List.ext_getElem?
  intro j
  simp only [List.getElem?_mapIdx, Option.map_map]
  cases x[j]? with
  | none => rfl
  | some b => simp only [Option.map_some, Function.comp, xor_xor_cancel]

theorem inplace_involution (key nonce : List UInt8) (counter : UInt32) (buf : List UInt8) :
    applyInPlace key nonce (applyInPlace key nonce buf counter) counter = buf := by
  rw [apply_inplace_eq_apply, apply_inplace_eq_apply, involution]

theorem spec_involution (key nonce : List UInt8) (counter : UInt32) (x : List UInt8)
    (hk : key.length = 32) (hn : nonce.length = 12) :
    Spec.chacha20 key nonce counter (Spec.chacha20 key nonce counter x) = x := by
  rw [← apply_spec key nonce counter x hk hn, ← apply_spec key nonce counter _ hk hn, involution]

theorem vector_2_1_1 : quarter_round 0x11111111 0x01020304 0x9b8d6f43 0x01234567
    = (0xea2a92f4, 0xcb1cf8ce, 0x4581472e, 0x5881c4bb) :=
  (quarter_round_eq _ _ _ _).trans Spec.ChaCha.Vectors.quarterRound_2_1_1

theorem vector_2_4_2 :
    ChaCha20.apply Spec.ChaCha.Vectors.key Spec.ChaCha.Vectors.nonce242 Spec.ChaCha.Vectors.sunscreen 1
      = Spec.chacha20 Spec.ChaCha.Vectors.key Spec.ChaCha.Vectors.nonce242 1 Spec.ChaCha.Vectors.sunscreen :=
  apply_spec _ _ _ _ (by decide) (by decide)

theorem allZero_iff (key : List UInt8) : allZero key = true ↔ key = List.replicate key.length 0 := by
  simp only [allZero, List.all_eq_true, beq_iff_eq, List.eq_replicate_iff, true_and]

theorem manager_key (key randomKey : List UInt8) (hz : allZero key = false) : ctorKey key randomKey = key := by
  simp only [ctorKey, hz, Bool.false_eq_true, if_false]

/-- `encrypt_with_key` with a non-zero key is RFC 8439 ChaCha20 under that key, the drawn nonce, and the
counter derived from the chunk id — for every nonce the generator may draw. -/
theorem manager_encrypt_spec (key id p nonce randomKey : List UInt8) (hz : allZero key = false)
    (hk : key.length = 32) (hn : nonce.length = 12) :
    (encrypt_with_key key id p nonce randomKey).data
        = Spec.chacha20 key nonce (Spec.ChaCha.le32 (id.getD 0 0) (id.getD 1 0) (id.getD 2 0) (id.getD 3 0)) p
      ∧ (encrypt_with_key key id p nonce randomKey).nonce = nonce := by
  simp only [encrypt_with_key, encrypt, manager_key key randomKey hz, applyInto_spec key nonce _ p _ hk hn, derive_counter_eq,
    and_self]

theorem manager_decrypt_spec (key id c nonce randomKey : List UInt8) (hz : allZero key = false)
    (hk : key.length = 32) (hn : nonce.length = 12) :
    decrypt_with_key key id c nonce randomKey
      = some (Spec.chacha20 key nonce (Spec.ChaCha.le32 (id.getD 0 0) (id.getD 1 0) (id.getD 2 0) (id.getD 3 0)) c) := by
  simp only [decrypt_with_key, decrypt, manager_key key randomKey hz, applyInto_spec key nonce _ c _ hk hn, derive_counter_eq]

theorem manager_object_roundtrip (key_ id p nonce : List UInt8) :
    decrypt key_ id (encrypt key_ id p nonce).data (encrypt key_ id p nonce).nonce = some p := by
  simp only [decrypt, encrypt, applyInto_eq_apply, involution]

/-- **C09, manager clause.** For every key that is not all-zero, every chunk id, plaintext and drawn
nonce: `decrypt_with_key(k, id, encrypt_with_key(k, id, p).data, .nonce) = p`. (`rk`, `rk'` are the
values the two temporary managers' generators would produce; they are not used.) -/
theorem manager_roundtrip (key id p nonce rk rk' : List UInt8) (hz : allZero key = false) :
    decrypt_with_key key id (encrypt_with_key key id p nonce rk).data (encrypt_with_key key id p nonce rk).nonce rk'
      = some p := by
  simp only [decrypt_with_key, encrypt_with_key, manager_key key _ hz]
  exact manager_object_roundtrip key id p nonce

/-- **The excluded point.** With the all-zero key each temporary manager replaces the key by a fresh random
one: encryption is ChaCha20 under `rk`, decryption under `rk'`, neither of which the caller ever sees. -/
theorem manager_zero_key (key id p c nonce rk rk' : List UInt8) (hz : allZero key = true) :
    encrypt_with_key key id p nonce rk = encrypt rk id p nonce ∧
    decrypt_with_key key id c nonce rk' = decrypt rk' id c nonce := by
  simp only [encrypt_with_key, decrypt_with_key, ctorKey, hz, if_true, and_self]

theorem manager_zero_key_same_draw (key id p nonce rk : List UInt8) :
    decrypt_with_key key id (encrypt_with_key key id p nonce rk).data (encrypt_with_key key id p nonce rk).nonce rk
      = some p := by
  simp only [decrypt_with_key, encrypt_with_key]
  exact manager_object_roundtrip _ id p nonce

/-- With the all-zero key the round trip fails in general: a concrete call. -/
theorem manager_zero_key_counterexample :
    allZero (List.replicate 32 0) = true ∧
    decrypt_with_key (List.replicate 32 0) (List.replicate 32 0)
        (encrypt_with_key (List.replicate 32 0) (List.replicate 32 0) [0x41] (List.replicate 12 0) (List.replicate 32 1)).data
        (List.replicate 12 0) (List.replicate 32 2)
      ≠ some [0x41] := by
  have hz : allZero (List.replicate 32 0) = true := by decide
  refine ⟨hz, ?_⟩
  simp only [decrypt_with_key, encrypt_with_key, ctorKey, hz, if_true, decrypt, encrypt, derive_counter_eq,
    applyInto_spec _ _ _ _ _ (List.length_replicate (n := 32)) (List.length_replicate (n := 12)), Spec.chacha20_eq]
  decide +kernel

/-- the hypotheses of `apply_spec` / `block_spec` are satisfiable (RFC key and nonce) … -/
example : Spec.ChaCha.Vectors.key.length = 32 ∧ Spec.ChaCha.Vectors.nonce242.length = 12 := by decide

/-- … and the conclusion is not trivial: the RFC ciphertext differs from the plaintext. -/
example : ChaCha20.apply Spec.ChaCha.Vectors.key Spec.ChaCha.Vectors.nonce242 Spec.ChaCha.Vectors.sunscreen 1
    ≠ Spec.ChaCha.Vectors.sunscreen := by
  rw [vector_2_4_2, Spec.ChaCha.Vectors.encrypt_2_4_2]
  -- already the first rows differ
  intro h
  have h16 := congrArg (List.take 16) h
  rw [Spec.ChaCha.Vectors.sunscreen_bytes.2.1] at h16
  exact absurd h16 (by decide)

/-- `manager_roundtrip`'s hypothesis holds for the RFC key, fails exactly for the all-zero key -/
example : allZero Spec.ChaCha.Vectors.key = false ∧ allZero (List.replicate 32 0) = true := by decide

end EphVerif.C09

namespace EphVerif.Spec.ChaCha.Vectors

/-- 2.4.2 read backwards: decryption is the same operation. -/
theorem decrypt_2_4_2 : chacha20 key nonce242 1 (chacha20 key nonce242 1 sunscreen) = sunscreen :=
  C09.spec_involution key nonce242 1 sunscreen (by decide) (by decide)

end EphVerif.Spec.ChaCha.Vectors
