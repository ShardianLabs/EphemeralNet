import EphVerif.Lemmas.C31

/-!
# C31 — fetch output stays inside the chosen directory

Property: *when `eph fetch` targets a directory, the file it creates is a direct child of that directory with
a name containing no path separators, control or reserved characters and never `.` or `..`, whatever filename
the manifest suggests; the node likewise only records such sanitised names in the manifests it issues.*

`Filename.cliSanitize` models the CLI's `sanitize_filename`, `Filename.nodeName` what `Node::store_chunk`
records, `Filename.hint` is `sanitize_filename_hint` (the daemon's STORE command feeds its result to
`store_chunk`: `Filename.viaHint`); `Filename.join` / `parentPath` model `destination /= name` and
`parent_path()`.  `Spec.Filename.safeName` is the property's notion of a safe name (literal numbers).
No bound on the length of the suggested name.
-/
namespace EphVerif.C31
open EphVerif EphVerif.Filename EphVerif.C31L EphVerif.Gen.C31
open EphVerif.Spec.Filename (safeName goodByte goodN ctlN sepN resN acceptable)

/-! ## generated-constant obligations (the literal numbers of the property) -/

/-- the CLI's replacement list covers both separators and all seven reserved characters -/
theorem cli_reserved_covers : Covers cliReserved := covers_of_all (by decide)
/-- so does the node's -/
theorem node_reserved_covers : Covers nodeReserved := covers_of_all (by decide)
/-- the `.`/`..` guards are present and every length limit is 255 -/
theorem guards_and_limits :
    cliDotCheck ≠ 0 ∧ nodeDotCheck ≠ 0 ∧ hintDotCheck ≠ 0 ∧ cliMaxLen = 255 ∧ nodeMaxLen = 255 ∧ hintMaxLen = 255 := by
  decide

/-- **C31.name (CLI).**  For every suggested name (any byte string), the CLI's sanitiser returns either the
empty string (the caller then uses the hex chunk id) or a safe name: no `/` or `\`, no byte `< 0x20` or `0x7f`,
none of `: * ? " < > |`, not `.` / `..`, at most 255 bytes. -/
theorem name_cli (candidate : Bytes) : acceptable (cliSanitize candidate) = true := by
  rw [cliSanitize]
  split
  · rfl
  · next hguard =>
    obtain ⟨hne, hd⟩ := Bool.or_eq_false_iff.mp (Bool.not_eq_true _ ▸ hguard)
    rw [bne_iff_ne.mpr guards_and_limits.1, Bool.true_and] at hd
    exact (Bool.or_eq_true _ _).mpr <| .inr <|
      safe_of_parts _ cliMaxLen (by decide) (by decide) (replace_all_good _ cli_reserved_covers _) hne hd

/-- **C31.name (node).**  Whatever original name a client supplies, the name `Node::store_chunk` records in the
manifest it issues (if it records one at all) is a safe name. -/
theorem name_node (original n : Bytes) (h : nodeName original = some n) : safeName n = true := by
  have hlambda : ∀ v, nodeLambda v = [] ∨ (nodeLambda v).all goodByte = true ∧ isDots (nodeLambda v) = false := by
    intro v
    rw [nodeLambda]
    split
    · exact .inl rfl
    · next hd =>
      rw [bne_iff_ne.mpr guards_and_limits.2.1, Bool.true_and, Bool.not_eq_true] at hd
      exact .inr ⟨replace_all_good _ node_reserved_covers _, hd⟩
  rw [nodeName] at h
  split at h
  · cases h
  · next hne =>
    cases h
    rcases hlambda (filename original) with hnil | ⟨hgood, hd⟩
    · rw [hnil] at hne; exact absurd rfl hne
    · exact safe_of_parts _ nodeMaxLen (by decide) (by decide) hgood (Bool.not_eq_true _ ▸ hne) hd

/-- **C31.name (daemon STORE route).**  The same holds when the name first passes `sanitize_filename_hint`. -/
theorem name_via_hint (raw n : Bytes) (h : viaHint raw = some n) : safeName n = true := by
  rw [viaHint] at h
  obtain ⟨x, _, hx⟩ := Option.bind_eq_some_iff.mp h
  exact name_node x n hx

/-- **C31.child.**  For every directory text and every safe name, `dir / name` has `dir` (as `parent_path()`
reports it: trailing separators dropped, the root kept) as its parent and `name` as its file name: the created
file is a direct child of the chosen directory. -/
theorem child (dir n : Bytes) (hs : safeName n = true) :
    parentPath (join dir n) = normDir dir ∧ filename (join dir n) = n :=
  join_child dir (safe_no_slash hs)

/-- **C31.child (CLI).**  Whatever the manifest suggests: if the sanitiser yields a name, the file created in
`dir` is a direct child of `dir` carrying exactly that name. -/
theorem child_cli (dir candidate : Bytes) (h : cliSanitize candidate ≠ []) :
    parentPath (join dir (cliSanitize candidate)) = normDir dir ∧
      filename (join dir (cliSanitize candidate)) = cliSanitize candidate := by
  rcases (Bool.or_eq_true _ _).mp (name_cli candidate) with he | hs
  · exact absurd (List.isEmpty_iff.mp he) h
  · exact child dir _ hs

/-- a traversal attempt `../../etc/passwd` is reduced to its last component `passwd` -/
example : cliSanitize [0x2e, 0x2e, 0x2f, 0x2e, 0x2e, 0x2f, 0x65, 0x74, 0x63, 0x2f, 0x70, 0x61, 0x73, 0x73, 0x77, 0x64]
    = [0x70, 0x61, 0x73, 0x73, 0x77, 0x64] := by decide
/-- reserved and control bytes are neutralised, not merely detected: `a:\x01b\c` becomes `a_b_c` -/
example : cliSanitize [0x61, 0x3a, 0x01, 0x62, 0x5c, 0x63] = [0x61, 0x5f, 0x62, 0x5f, 0x63] := by decide
/-- `..` (also when it only appears after control bytes are removed) yields the fall-back -/
example : cliSanitize [0x2e, 0x07, 0x2e] = [] ∧ nodeName [0x2e, 0x07, 0x2e] = none := by decide
/-- the hypothesis of `child` is satisfiable (`r.pdf`) and the conclusion is about a real path:
`/t/o/` joined with `r.pdf` is `/t/o/r.pdf`, whose parent is `/t/o` -/
example : safeName [0x72, 0x2e, 0x70, 0x64, 0x66] = true ∧
    join [0x2f, 0x74, 0x2f, 0x6f, 0x2f] [0x72, 0x2e, 0x70, 0x64, 0x66]
      = [0x2f, 0x74, 0x2f, 0x6f, 0x2f, 0x72, 0x2e, 0x70, 0x64, 0x66] ∧
    parentPath [0x2f, 0x74, 0x2f, 0x6f, 0x2f, 0x72, 0x2e, 0x70, 0x64, 0x66] = [0x2f, 0x74, 0x2f, 0x6f] := by decide
/-- the sanitiser is what makes `child` true: an unsanitised `../x` joined to `/t/o` would leave the directory -/
example : parentPath (join [0x2f, 0x74, 0x2f, 0x6f] [0x2e, 0x2e, 0x2f, 0x78]) ≠ normDir [0x2f, 0x74, 0x2f, 0x6f] := by decide

end EphVerif.C31
