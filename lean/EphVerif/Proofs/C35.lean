/-
C35 — no remote input can crash the node or the daemon (partial: what is proved is the
exception / termination flow; memory errors and liveness of the real threads are observed).

Statement (properties.jsonl): "No sequence of bytes sent by a remote peer — before or after
completing a handshake, including validly signed messages carrying adversarial manifests, shard
sets or lengths — or by a control-plane client makes the node or daemon crash, terminate, hit
undefined behaviour or memory errors, or stop serving others."

Full statement, as far as a model can carry it (proved below as `no_escape`):
  ∀ facts (every combination of "the throwing primitive at site s is executed and throws on this
  input in this node state", i.e. every input and every state), ∀ call depth, ∀ boundary of the
  call tree regenerated from the source (session reader thread, transport accept thread, control
  accept thread, relay worker thread, main-loop tick, and every `noexcept` function on the way):
  the outcome is `survives`, never `terminate e`.
It holds because every throwing primitive reachable from a boundary lies inside a `catch` that
handles its exception class — which is what the generated table records and `decide` re-checks.
(`Proofs/C35Codecs.lean` adds `decoders_total` and the `combine` throw condition, re-using C16, C18, C10.)

Not proved here (why the property is claimed *partial*): out-of-bounds accesses / UB / leaks of the
real binary and "keeps serving others" of the real threads are observed by the harness under
ASan/UBSan and by real-thread runs; allocation failure (`std::bad_alloc`) is outside the model.
-/
import EphVerif.Lemmas.C35Sound
import EphVerif.Spec.Escape

namespace EphVerif.C35
open EphVerif.Escape EphVerif.Gen.C35

/-- the may-analysis of the generated tree is closed (a post-fixpoint): re-checked by the kernel on
    every regeneration of the table -/
theorem summary_closed : isPostFix fns summary = true := by decide +kernel

/-- in it, nothing leaves any boundary — every throwing primitive reachable from a remote-input
    entry point lies inside a `catch` that handles its exception class -/
theorem boundaries_closed : rootsClosed summary = true := by decide +kernel

/-- **C35 (termination flow).**  ∀ input facts, ∀ call depths, at every boundary of the generated
    call tree the outcome is never `terminate`. -/
theorem no_escape (facts : Facts) (fuel : Nat) (name : String) (root : Nat) (h : (name, root) ∈ roots) :
    outcome fns facts fuel root = .survives :=
  outcome_survives summary_closed (List.all_eq_true.mp boundaries_closed (name, root) h) facts fuel

/-- the same as an instance of the specification: inputs are fact assignments with a call depth,
    boundaries are those of the generated tree -/
theorem no_remote_crash :
    EscapeSpec.NoRemoteCrash (Input := Facts × Nat) roots
      (fun i b => match outcome fns i.1 i.2 b.2 with | .survives => .survives | .terminate _ => .terminates) := by
  intro i b hb
  show (match outcome fns i.1 i.2 b.2 with | .survives => EscapeSpec.Result.survives | .terminate _ => .terminates) = _
  rw [no_escape i.1 i.2 b.1 b.2 hb]

/-- the five thread / main-loop boundaries the property is about are in the generated list (a root
    dropped by the extractor breaks this) -/
theorem boundaries_listed :
    ∀ n ∈ EscapeSpec.requiredBoundaries, n ∈ roots.map (·.1) := by decide +kernel

/-- every `call` of the table points inside the table and every site number is named (the table is
    well formed, so `getD` defaults are never used) -/
theorem table_wellformed :
    fns.length = fnNames.length ∧
    (fns.all fun steps => steps.all fun
      | .prim s _ _ => decide (s < siteNames.length)
      | .call f _ => decide (f < fns.length)) = true ∧
    (roots.all fun r => decide (r.2 < fns.length)) = true := by decide +kernel

/-- exception classes of the summarised leaf callees, as derived from their bodies: the decoders
    throw nothing but `invalid_argument` (manifest) or nothing at all (messages), the manifest
    encoder only `length_error`, `Shamir::combine` only `invalid_argument` -/
theorem leaf_classes :
    leafSummary.lookup "protocol::decode_manifest" = some [.invalid_argument] ∧
    leafSummary.lookup "protocol::decode" = some [] ∧
    leafSummary.lookup "protocol::decode_signed" = some [] ∧
    leafSummary.lookup "protocol::encode_manifest" = some [.length_error] ∧
    leafSummary.lookup "crypto::Shamir::combine" = some [.invalid_argument] := by decide +kernel

/-! ### "stop serving others": the serial accept loops

Both accept threads take one connection at a time.  A client that connects and stays silent, or that
never reads its answer, holds the thread in a blocking `recv` / `send`.  Statement one needs: every
blocking step of an accept thread on an accepted connection is bounded, so the stalled client is
dropped after the timeout and the next client is served (`accept_threads_bounded`,
`next_client_served`).  It rests on `fixes/C35-accept-peer-id-timeout` (transport: the whole
inbound handshake under kHandshakeTimeout) and `fixes/C35-control-client-io-timeout` (control:
SO_RCVTIMEO and SO_SNDTIMEO on every accepted client), and on no recv / send loop on those
threads retrying on a timeout-class error.  `C35_counterexample` keeps the statements about the
unrepaired variants: there the next client is never reached. -/

/-- (T) the flags regenerated from the source: a receive timeout is set before the first blocking read of an
    accepted transport connection; the control accept loop sets SO_RCVTIMEO and SO_SNDTIMEO on an accepted
    client before handling it; and none of the recv / send loops that run on the accept threads
    (`recv_line`, `recv_exact`, `send_all` of ControlServer.cpp, `SessionManager::recv_all`) goes round again
    on a timeout-class error (which would re-arm the wait).  Removing a timeout or adding such a retry breaks
    this obligation. -/
theorem accept_threads_bounded :
    transportPeerIdTimeout = true ∧ transportReadRetries = false ∧
    controlReadTimeout = true ∧ controlWriteTimeout = true ∧
    controlLineReadRetries = false ∧ controlPayloadReadRetries = false ∧ controlWriteRetries = false ∧
    controlReadRetriesOnTimeout = false := by decide

/-- hence every blocking step of either accept thread is bounded by the timeout constant -/
theorem every_wait_bounded (T : Nat) (s : Site) : controlBounds T s = some T ∧ transportBounds T s = some T := by
  obtain ⟨h1, h2, h3, h4, h5, h6, h7, _⟩ := accept_threads_bounded
  cases s <;> simp [controlBounds, transportBounds, ioBound, h1, h2, h3, h4, h5, h6, h7]

/-- with the bounds the source has (whatever the timeout constant `T` is), every queued client is reached —
    whatever the clients before it do: stay silent, stop inside the header block, deliver less payload than
    announced, never read, or behave — after at most `k · (T + B)` when no request costs more than `B` -/
theorem next_client_served (T B : Nat) (cs : List Conn) (hB : ∀ c ∈ cs, c.work ≤ B) (k : Nat) :
    (∃ t, pickedUpAt (controlBounds T) cs k = some t ∧ t ≤ k * (T + B)) ∧
    (∃ t, pickedUpAt (transportBounds T) cs k = some t ∧ t ≤ k * (T + B)) :=
  ⟨pickedUpAt_bounded (fun s => (every_wait_bounded T s).1) hB k,
   pickedUpAt_bounded (fun s => (every_wait_bounded T s).2) hB k⟩

/-- the unrepaired variants: without a read bound the client behind a silent one is never reached; with read
    bounds but no write bound the client behind one that never reads is never reached; with all timeouts set
    but a payload loop that retries on timeout the client behind one that delivers
    less payload than announced is never reached -/
theorem C35_counterexample :
    pickedUpAt (fun _ => ioBound false false 5) [.stalls .header 0, .completes 1] 1 = none ∧
    pickedUpAt (fun s => if s = .write then ioBound false false 5 else some 5) [.stalls .write 0, .completes 1] 1 = none ∧
    pickedUpAt (fun s => if s = .payload then ioBound true true 5 else some 5) [.stalls .payload 0, .completes 1] 1 = none := by
  decide

/-- what holds for a serial accept loop in general: well-behaved clients are always all reached; with every
    step bounded by `T` everybody is reached within `k · (T + B)` -/
theorem C35_partial :
    (∀ (cs : List Conn) (b : Bounds), (∀ c ∈ cs, c.wellBehaved = true) → ∀ k, (pickedUpAt b cs k).isSome = true) ∧
    (∀ (T B : Nat) (b : Bounds), (∀ s, b s = some T) → ∀ (cs : List Conn), (∀ c ∈ cs, c.work ≤ B) →
      ∀ k, ∃ t, pickedUpAt b cs k = some t ∧ t ≤ k * (T + B)) :=
  ⟨fun _ b h => pickedUpAt_well_behaved h b, fun _ _ _ hb _ hB => pickedUpAt_bounded hb hB⟩

/-- the real-thread probe's expectation follows the bounds: bounded at the site ⇒ the second client is served -/
theorem probe_expectation (s : Site) :
    servedBehind (fun _ => some 1) s = true ∧ servedBehind (fun x => if x = s then none else some 1) s = false := by
  rw [servedBehind_eq, servedBehind_eq, if_pos rfl]
  exact ⟨rfl, rfl⟩

/-- non-vacuity of `next_client_served`: a queue with a silent client, one that short-changes its payload, one
    that never reads and a well-behaved one meets the hypothesis, and the fourth is reached at 3 with `T = 1` -/
example : (∀ c ∈ [Conn.stalls .header 0, .stalls .payload 0, .stalls .write 0, .completes 3], c.work ≤ 3) ∧
    pickedUpAt (fun _ => some 1) [.stalls .header 0, .stalls .payload 0, .stalls .write 0, .completes 3] 3 = some 3 := by
  decide

/-! ### non-vacuity: the theorem is about a tree with live primitives, and it distinguishes -/

/-- the generated tree is not empty: it has primitives reachable from the reader thread and from
    the control accept thread (so `no_escape` is not vacuous) -/
example : 0 < siteNames.length ∧ 0 < roots.length := by decide +kernel

/-- the analysis is not trivially empty: inside the tree exceptions do propagate between functions
    (some function lets a class out to its caller) -/
example : summary.any (fun s => !s.isEmpty) = true := by decide +kernel

/-- a tree shaped like the code *before* the repair — `combine` unguarded in `receive_chunk`, no
    handler around the handler call in `receive_loop` — terminates the process on the input whose
    only firing primitive is that `combine`; with the `catch` in place it survives -/
def brokenTree : List (List Step) :=
  [ [.call 1 []],                       -- 0: receive_loop → handler
    [.prim 0 .invalid_argument [[.std_exception]],   -- 1: receive_chunk: decode_manifest (guarded)
     .prim 1 .invalid_argument []] ]                 --    combine (unguarded)
def repairedTree : List (List Step) :=
  [ [.call 1 [[.std_exception, .all]]],
    [.prim 0 .invalid_argument [[.std_exception]],
     .prim 1 .invalid_argument [[.std_exception]]] ]

theorem broken_tree_terminates :
    outcome brokenTree (fun s => s == 1) 2 0 = .terminate .invalid_argument ∧
    outcome brokenTree (fun s => s == 0) 2 0 = .survives ∧
    outcome repairedTree (fun s => s == 1) 2 0 = .survives := by decide

end EphVerif.C35
