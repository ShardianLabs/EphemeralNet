/-
C36 — daemon threads never race on shared node state (PARTIAL: lockset discipline).

Full property (not provable as a theorem about the C++ process: a data race is a runtime event):
  for every schedule of the control thread, the tick loop, the transport accept thread, the
  per-session reader threads (and the relay worker), no shared location of the node is read and
  written, or written twice, without synchronisation.

What is proved here, for an unbounded number of threads, program lengths and schedules, in the
interleaving semantics of `Model/Lockset.lean` (exclusive locks): if every thread follows an access
table `T` in its role, any two threads simultaneously at conflicting accesses are among the pairs the
decidable checker reports (`lockset_sound_except`); every reported pair is an actual race of a
two-thread program that follows `T` (`violation_realisable`) — whether the real code exhibits it is
what the TSan harness looks for; and a rank certificate for the extracted graph "l2 is acquired
while l1 is held" excludes deadlock (`lock_order_no_deadlock`).  The checker and the certificate are
evaluated by the kernel on the table extracted from the current sources (`Generated/C36.lean`).

Trusted: that the extracted table over-approximates the accesses and under-approximates the
locks held by the real threads (extractor soundness), see notes/C36.md.
-/
import EphVerif.Model.Lockset
import EphVerif.Lemmas.C36Lockset
import EphVerif.Generated.C36

namespace EphVerif.C36
open EphVerif.Lockset

/-- Any simultaneous pair of conflicting accesses of a system that follows table `T` is one of
    the pairs the checker reports. -/
theorem lockset_sound_except {multi : List Role} {T : List Row} {roleOf : Tid → Role} {s0 s : State}
    (ha : Admissible multi T roleOf s0) (hr : Reach s0 s)
    {t u : Tid} {f : Field} {k1 k2 : Kind} (hne : t ≠ u)
    (h1 : At s t f k1) (h2 : At s u f k2) (hw : k1 = Kind.W ∨ k2 = Kind.W) :
    (f, normPair (roleOf t) (roleOf u)) ∈ violations multi T := by
  obtain ⟨h0, hf, hm⟩ := ha
  have hex : Excl s := Excl.reach h0 hr
  have hfa := hr.thread_invariant (P := fun t => Follows T (roleOf t)) Follows.after hf
  obtain ⟨r1, hp1⟩ := h1
  obtain ⟨r2, hp2⟩ := h2
  obtain ⟨⟨a, haT, har, haf, hak, hal⟩, -⟩ : Follows T (roleOf t) (s.held t) (.access f k1 :: r1) := hp1 ▸ hfa t
  obtain ⟨⟨b, hbT, hbr, hbf, hbk, hbl⟩, -⟩ : Follows T (roleOf u) (s.held u) (.access f k2 :: r2) := hp2 ▸ hfa u
  refine mem_violations.mpr ⟨a, haT, b, hbT,
    conflict_iff.mpr ⟨haf.trans hbf.symm, hak ▸ hbk ▸ hw, ?_⟩, ?_, by rw [haf, har, hbr]⟩
  · by_cases hab : a.role = b.role
    · exact .inr (har ▸ hm t u hne (har.symm.trans (hab.trans hbr)))
    · exact .inl hab
  · -- no common lock, by mutual exclusion
    refine Bool.eq_false_iff.mpr fun hs => ?_
    obtain ⟨l, hla, hlb⟩ := shareLock_true.mp hs
    exact hex t u l hne (hal l hla) (hbl l hlb)

/-- The lockset theorem: a table on which the checker finds nothing excludes every race, for
    every number of threads, every program length and every schedule. -/
theorem lockset_sound {multi : List Role} {T : List Row} {roleOf : Tid → Role} {s0 s : State}
    (hv : violations multi T = []) (ha : Admissible multi T roleOf s0) (hr : Reach s0 s) :
    ¬ Race s := by
  rintro ⟨t, u, f, k1, k2, hne, h1, h2, hw⟩
  exact List.eq_nil_iff_forall_not_mem.mp hv _ (lockset_sound_except ha hr hne h1 h2 hw)

/-- the checker decides the premise "conflicting rows share a lock" -/
theorem premise_iff {multi : List Role} {T : List Row} :
    violations multi T = [] ↔ Premise multi T := by
  rw [List.eq_nil_iff_forall_not_mem]
  constructor
  · intro hv a ha b hb hc
    exact Bool.of_not_eq_false fun hs => hv _ (mem_violations.mpr ⟨a, ha, b, hb, hc, hs, rfl⟩)
  · intro hp v hm
    obtain ⟨a, ha, b, hb, hc, hs, _⟩ := mem_violations.mp hm
    exact Bool.false_ne_true (hs ▸ hp a ha b hb hc)

/-- `violations multi T = []` (decidable, evaluated by the kernel on a concrete table) implies the
    premise of the lockset theorem -/
theorem table_ok {multi : List Role} {T : List Row} (h : violations multi T = []) : Premise multi T :=
  premise_iff.mp h

theorem lockset_sound_premise {multi : List Role} {T : List Row} {roleOf : Tid → Role} {s0 s : State}
    (hp : Premise multi T) (ha : Admissible multi T roleOf s0) (hr : Reach s0 s) : ¬ Race s :=
  lockset_sound (premise_iff.mpr hp) ha hr

/-- Tightness: a reported triple is a real race of an admissible system — the two rows, each run
    by one thread that acquires exactly its lockset and then performs its access. -/
theorem violation_realisable {multi : List Role} {T : List Row} (hn : locksNodup T = true)
    {v : Viol} (hv : v ∈ violations multi T) :
    ∃ a b, a ∈ T ∧ b ∈ T ∧ v = (a.field, normPair a.role b.role) ∧
      Admissible multi T (pairRole a b) (pairInit a b) ∧
      ∃ s, Reach (pairInit a b) s ∧
        At s 0 a.field a.kind ∧ At s 1 a.field b.kind ∧ (a.kind = Kind.W ∨ b.kind = Kind.W) ∧ Race s := by
  obtain ⟨a, ha, b, hb, hc, hs, rfl⟩ := mem_violations.mp hv
  obtain ⟨hfield, hkind, hrole⟩ := conflict_iff.mp hc
  have hnd : ∀ r, r ∈ T → r.locks.Nodup := fun r hr => of_decide_eq_true (List.all_eq_true.mp hn r hr)
  obtain ⟨s, hr, h0, h1⟩ := pairInit_reach (hnd a ha) (hnd b hb) hs
  rw [← hfield] at h1
  exact ⟨a, b, ha, hb, rfl, pairInit_admissible ha hb hrole, s, hr, h0, h1, hkind,
    0, 1, _, _, _, Nat.zero_ne_one, h0, h1, hkind⟩

/-- Deadlock freedom from a lock order: if every thread acquires locks only in increasing rank
    (ranks bounded, acquisitions bracketed), then in every reachable state in which some thread has
    not finished, some thread can take a step — for any number of threads and any schedule. -/
theorem lock_order_no_deadlock {rank : Lock → Nat} {B : Nat} {s0 s : State}
    (ho : ∀ t, Ordered rank B (s0.held t) (s0.prog t)) (hr : Reach s0 s)
    (hne : ∃ t, s.prog t ≠ []) : ∃ s', Step s s' := by
  have hoa := hr.thread_invariant (P := fun _ => Ordered rank B) Ordered.after ho
  obtain ⟨t, ht⟩ := hne
  cases hp : s.prog t with
  | nil => exact absurd hp ht
  | cons e rest =>
    cases e with
    | acq l => exact blocked_progress hoa hp
    | rel l => exact ⟨_, Step.rel hp⟩
    | access f k => exact ⟨_, Step.access hp⟩

/-- the rank certificate really is an acyclicity proof: no lock reaches itself along the edges -/
theorem lockOrderAcyclic_no_cycle {ranks : List Nat} {edges : List (Lock × Lock)}
    (hk : lockOrderAcyclic ranks edges = true) (l : Lock) : ¬ OrderPath edges l l := by
  intro hp
  exact Nat.lt_irrefl _ (rank_lt_of_path hk hp)

/-- Deadlock freedom from the extracted lock-order graph: threads that acquire a lock only while
    holding locks from which the graph has an edge to it cannot deadlock if the graph passes the
    decidable acyclicity check. -/
theorem no_deadlock_of_edges {ranks : List Nat} {edges : List (Lock × Lock)} {s0 s : State}
    (hk : lockOrderAcyclic ranks edges = true)
    (hf : ∀ t, FollowsOrder edges (s0.held t) (s0.prog t)) (hr : Reach s0 s)
    (hne : ∃ t, s.prog t ≠ []) : ∃ s', Step s s' :=
  lock_order_no_deadlock (fun t => ordered_of_followsOrder hk (hf t)) hr hne

/-- the access table of the working tree (regenerated on every run; emitted grouped by location) -/
def table : List Row := flattenG Gen.C36.groups

/-- the extractor emits the groups in increasing order of location: one linear pass -/
theorem table_keys : keysNodup Gen.C36.groups = true :=
  keysNodup_of_increasing (by decide +kernel)

theorem table_nodup : locksNodup table = true := by decide +kernel

/-- kernel evaluation of the checker (group by group) on the extracted table: exactly these
    (location, role pair) triples have two conflicting rows without a common lock -/
theorem table_violations : violationsG Gen.C36.multi Gen.C36.groups = Gen.C36.expectedViolations := by
  decide +kernel

/-- ... and these are, as a set, what the flat checker of the general theorems reports -/
theorem table_violations_flat {v : Viol} :
    v ∈ violations Gen.C36.multi table ↔ v ∈ Gen.C36.expectedViolations := by
  rw [← table_violations]
  exact (mem_violationsG table_keys).symm

/-- C36, the part that holds: in every system whose threads follow the extracted table, two
    threads are simultaneously at conflicting accesses only on a listed (location, roles) triple. -/
theorem C36_partial {roleOf : Tid → Role} {s0 s : State}
    (ha : Admissible Gen.C36.multi table roleOf s0) (hr : Reach s0 s)
    {t u : Tid} {f : Field} {k1 k2 : Kind} (hne : t ≠ u)
    (h1 : At s t f k1) (h2 : At s u f k2) (hw : k1 = Kind.W ∨ k2 = Kind.W) :
    (f, normPair (roleOf t) (roleOf u)) ∈ Gen.C36.expectedViolations :=
  table_violations_flat.mp (lockset_sound_except ha hr hne h1 h2 hw)

/-- C36, the part that fails (the known findings): every listed triple is a race of a system that
    follows the extracted table. -/
theorem C36_counterexamples {v : Viol} (hv : v ∈ Gen.C36.expectedViolations) :
    ∃ a b, a ∈ table ∧ b ∈ table ∧ v = (a.field, normPair a.role b.role) ∧
      Admissible Gen.C36.multi table (pairRole a b) (pairInit a b) ∧
      ∃ s, Reach (pairInit a b) s ∧
        At s 0 a.field a.kind ∧ At s 1 a.field b.kind ∧ (a.kind = Kind.W ∨ b.kind = Kind.W) ∧ Race s :=
  violation_realisable table_nodup (table_violations_flat.mpr hv)

/-- the full property holds of the extracted table exactly when nothing is listed -/
theorem C36_full_iff : Premise Gen.C36.multi table ↔ Gen.C36.expectedViolations = [] := by
  rw [← table_violations, violationsG_nil_iff table_keys]
  exact premise_iff.symm

/-- the lock-order graph extracted from the current sources is acyclic -/
theorem table_lock_order : lockOrderAcyclic Gen.C36.lockRanks Gen.C36.lockEdges = true := by
  decide +kernel

/-- hence no set of threads that nest their lock acquisitions as the sources do can deadlock -/
theorem C36_no_deadlock {s0 s : State}
    (hf : ∀ t, FollowsOrder Gen.C36.lockEdges (s0.held t) (s0.prog t)) (hr : Reach s0 s)
    (hne : ∃ t, s.prog t ≠ []) : ∃ s', Step s s' :=
  no_deadlock_of_edges table_lock_order hf hr hne

/-- lock order: two threads nesting lock 1 inside lock 0 follow the edge list `[(0, 1)]`, which is
    acyclic; the opposite nesting in one of them would need the edge `(1, 0)` and fail the check -/
example : lockOrderAcyclic [0, 1] [(0, 1)] = true ∧ lockOrderAcyclic [0, 1] [(0, 1), (1, 0)] = false ∧
    FollowsOrder [(0, 1)] [] [Event.acq 0, Event.acq 1, Event.access 3 Kind.W, Event.rel 1, Event.rel 0] := by
  refine ⟨by decide, by decide, ?_⟩
  simp [FollowsOrder]

/-- a table with a common lock on the written location, and a system of one writer and two
    readers (plus idle threads) following it -/
example : ∃ (T : List Row) (roleOf : Tid → Role) (s0 : State),
    violations [2] T = [] ∧ Admissible [2] T roleOf s0 ∧ s0.prog 0 ≠ [] ∧ s0.prog 1 ≠ [] ∧ s0.prog 2 ≠ [] := by
  refine ⟨[⟨0, 7, Kind.W, [1]⟩, ⟨2, 7, Kind.R, [1, 5]⟩],
    fun t => if t = 0 then 0 else 2,
    ⟨fun t => if t = 0 then [Event.acq 1, Event.access 7 Kind.W, Event.rel 1]
              else if t ≤ 2 then [Event.acq 5, Event.acq 1, Event.access 7 Kind.R, Event.rel 1, Event.rel 5]
              else [], fun _ => []⟩, by decide, ⟨fun _ => rfl, ?_, ?_⟩, by decide, by decide, by decide⟩
  · intro t
    by_cases h0 : t = 0
    · subst h0; simp [Follows]
    · by_cases h2 : t ≤ 2 <;> simp [h0, h2, Follows]
  · intro t u hne heq
    by_cases t0 : t = 0
    · subst t0
      have u0 : u ≠ 0 := fun h => hne h.symm
      simp [u0] at heq
    · simp [t0]

/-- and a table on which the checker does report something -/
example : violations [2] [⟨0, 7, Kind.W, [1]⟩, ⟨2, 7, Kind.R, [5]⟩, ⟨2, 8, Kind.W, []⟩] = [(7, 0, 2), (8, 2, 2)] := by
  decide

end EphVerif.C36
