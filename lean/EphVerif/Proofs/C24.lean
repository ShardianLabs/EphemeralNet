/-
C24 — fetch scheduling respects limits, backs off, and always terminates.

All theorems are about `Model/Fetches.lean` (the assigned-fetch scheduler of `Node`, after
fixes/C24-reannounce-inflight-leak.patch and fixes/C03-pending-fetch-cap.patch) and quantify over
every configuration, every history of announces / arrivals / ticks at arbitrary steady and wall
clock readings, and every answer of the environment (chunk held locally, request deliverable,
provider count) at every step.
-/
import EphVerif.Lemmas.C24Fetches
import EphVerif.Lemmas.C24Backoff

namespace EphVerif.C24
open EphVerif.Fetches

/-- **C24.limit** — at every point of every history no peer has more in-flight chunk requests than
    `fetch_max_parallel_requests` (when non-zero; 0 = unlimited, as `can_dispatch_fetch` reads it):
    neither its counter nor its actual number of in-flight entries exceeds the limit. -/
theorem limit (cfg : Cfg) (hist : List Step) (p : String) (hL : 0 < cfg.maxParallel) :
    (run cfg State.init hist).active p ≤ cfg.maxParallel ∧
    cnt p (run cfg State.init hist).pending ≤ cfg.maxParallel := by
  have hi : Inv cfg (run cfg State.init hist) := inv_run hist (inv_init cfg)
  exact ⟨hi.limit hL p, hi.count p ▸ hi.limit hL p⟩

/-- **C24.zero** — at every point of every history a peer's in-flight counter equals the number of
    pending fetches that are in flight towards it; so it is zero when none is outstanding. -/
theorem zero (cfg : Cfg) (hist : List Step) (p : String) :
    (run cfg State.init hist).active p = cnt p (run cfg State.init hist).pending ∧
    ((∀ e ∈ (run cfg State.init hist).pending, e.peer = p → e.inFlight = false) →
      (run cfg State.init hist).active p = 0) := by
  have hi : Inv cfg (run cfg State.init hist) := inv_run hist (inv_init cfg)
  refine ⟨hi.count p, fun hnone => (hi.count p).trans ?_⟩
  refine List.length_eq_zero_iff.2 (List.filter_eq_nil_iff.2 fun e he hf => ?_)
  rw [Bool.and_eq_true, beq_iff_eq] at hf
  exact Bool.false_ne_true ((hnone e he hf.2).symm.trans hf.1)

/-- **C24.backoff** — when a dispatch fails and the attempt limit is not reached, the next attempt
    is scheduled `min(base·2^(k−1), cap)` seconds later, where `k` is the number of attempts made,
    `base` the initial back-off (1 s if configured ≤ 0) and `cap = min(max_backoff, 256·base)`
    (`256·base` alone if `max_backoff ≤ 0`): the specification's `C24Spec.delay`.  The `2^8` bound
    is the code's overflow guard on the exponent (regenerated constant `kBackoffExponentClamp`). -/
theorem backoff (cfg : Cfg) (env : Env) (now : Int) (e : Entry)
    (hfail : env.sendOk e.peer = false) (hmore : exhausted cfg (e.attempts + 1) = false) :
    (dispatchEntry cfg env now e).1.nextAttempt
      = some (now + C24Spec.delay (effBase cfg) cfg.maxBackoff (e.attempts + 1) * second) ∧
    (dispatchEntry cfg env now e).1.attempts = e.attempts + 1 ∧
    (dispatchEntry cfg env now e).1.inFlight = false := by
  refine ⟨?_, dispatchEntry_attempts .., hfail⟩
  rw [dispatchEntry_nextAttempt, hfail, hmore, backoff_eq_spec cfg (e.attempts + 1) (by omega)]
  rfl

/-- the delays start at the initial back-off … -/
theorem backoff_start (base maxBackoff : Int) (hb : 1 ≤ base) :
    C24Spec.delay base maxBackoff 1 = if maxBackoff > 0 ∧ maxBackoff < base then maxBackoff else base := by
  unfold C24Spec.delay C24Spec.cap
  rw [show ((2 ^ (1 - 1) : Nat) : Int) = 1 from rfl, Int.mul_one]
  omega

/-- … double while below the maximum … -/
theorem backoff_doubles (base maxBackoff : Int) (k : Nat) (hk : 1 ≤ k) (hb : 1 ≤ base)
    (hbelow : C24Spec.delay base maxBackoff k < C24Spec.cap base maxBackoff) :
    C24Spec.delay base maxBackoff (k + 1) = min (2 * C24Spec.delay base maxBackoff k) (C24Spec.cap base maxBackoff) := by
  unfold C24Spec.delay at *
  rw [show k + 1 - 1 = (k - 1) + 1 by omega, Nat.pow_succ, Int.natCast_mul, ← Int.mul_assoc]
  omega

/-- … never decrease, and never exceed the maximum -/
theorem backoff_monotone (base maxBackoff : Int) (k : Nat) (hb : 1 ≤ base) :
    C24Spec.delay base maxBackoff k ≤ C24Spec.delay base maxBackoff (k + 1) ∧
    C24Spec.delay base maxBackoff k ≤ C24Spec.cap base maxBackoff ∧
    (0 < maxBackoff → C24Spec.delay base maxBackoff k ≤ maxBackoff) := by
  have := Int.mul_le_mul_of_nonneg_left
    (Int.ofNat_le.2 (Nat.pow_le_pow_right (n := 2) (by decide) (show k - 1 ≤ k + 1 - 1 by omega))) (show 0 ≤ base by omega)
  unfold C24Spec.delay C24Spec.cap
  omega

/-- a failed dispatch that reaches the attempt limit marks the entry as finished (`next_attempt =
    time_point::max()`), so the same pass removes it (`drop`) -/
theorem exhausted_marks (cfg : Cfg) (env : Env) (now : Int) (e : Entry)
    (hfail : env.sendOk e.peer = false) (hlim : 0 < cfg.attemptLimit) (hreach : cfg.attemptLimit ≤ e.attempts + 1) :
    (dispatchEntry cfg env now e).1.nextAttempt = none := by
  have : exhausted cfg (e.attempts + 1) = true := by simp [exhausted, hlim, hreach]
  rw [dispatchEntry_nextAttempt, hfail, this]
  rfl

/-- **C24.drop** — after every run of the scheduler (`process_pending_fetches`, i.e. every tick and
    every announce of a chunk not held) no pending fetch remains whose chunk is held locally, whose
    manifest has expired (`wall ≥ manifest_expires`, when set), or whose attempts are exhausted
    (`next_attempt = max`, see `exhausted_marks`). -/
theorem drop (cfg : Cfg) (env : Env) (now wall : Int) (s : State) :
    ∀ e ∈ (process cfg env now wall s).1.pending,
      env.held e.chunk = false ∧ ¬ (e.expires ≠ 0 ∧ wall ≥ e.expires) ∧ e.nextAttempt ≠ none := by
  intro e he
  have h := process_drops e he
  simp only [completed, Bool.or_eq_false_iff, manifestExpired, decide_eq_false_iff_not, Option.isNone_eq_false_iff,
    Option.isSome_iff_ne_none] at h
  exact ⟨h.1.1, h.1.2, h.2⟩

/-- … and the arrival of the chunk removes its pending fetch at once (`clear_pending_fetch`) -/
theorem drop_on_arrival (s : State) (c : String) : ∀ e ∈ (clear s c).pending, e.chunk ≠ c := by
  intro e he
  rw [clear_pending] at he
  simpa [erase] using (List.mem_filter.1 he).2

/-- every pending fetch carries an expiry, at most "its last announce + maximum TTL" -/
theorem expiry_bounded (cfg : Cfg) (hm : 0 ≤ cfg.maxTtl) (hist : List Step) (hg : ∀ t ∈ hist, Guarded t) :
    ∀ e ∈ (run cfg State.init hist).pending, e.expires ≠ 0 ∧ e.expires ≤ horizon cfg hist :=
  bounded_run hm hist (bounded_nil 0) hg

theorem pass_empties (cfg : Cfg) {s : State} {B : Int} (hb : ∀ e ∈ s.pending, e.expires ≠ 0 ∧ e.expires ≤ B)
    (env : Env) (now : Int) {wall : Int} (hw : B ≤ wall) : (process cfg env now wall s).1.pending = [] := by
  refine List.eq_nil_iff_forall_not_mem.2 fun e he => ?_
  have h := bounded_process hb e he
  exact (drop cfg env now wall s e he).2.1 ⟨h.1, Int.le_trans h.2 hw⟩

/-- **C24.terminates** — after any history (of announces admitted by `handle_announce`), the first
    tick at or after the horizon (the last announce time plus the maximum manifest TTL — no entry's
    recorded manifest expiry is later, `expiry_bounded`) leaves no pending fetch at all; and by
    `drop` each single entry is gone after the first tick at or after its own recorded expiry. -/
theorem terminates (cfg : Cfg) (hm : 0 ≤ cfg.maxTtl) (hist : List Step) (hg : ∀ t ∈ hist, Guarded t)
    (env : Env) (now wall : Int) (hw : horizon cfg hist ≤ wall) :
    (step cfg (run cfg State.init hist) ⟨.tick, now, wall, env⟩).1.pending = [] :=
  pass_empties cfg (expiry_bounded cfg hm hist hg) env now hw

def envUp : Env := ⟨fun _ => false, fun _ => true, fun _ => 0⟩
def envDown : Env := ⟨fun _ => false, fun _ => false, fun _ => 0⟩
/-- the shipped defaults, regenerated from `Config.hpp` -/
def cfgDefault : Cfg :=
  ⟨Gen.C24.cfg_fetch_retry_initial_backoff, Gen.C24.cfg_fetch_retry_max_backoff, Gen.C24.cfg_fetch_retry_success_interval,
   Gen.C24.cfg_fetch_retry_attempt_limit, Gen.C24.cfg_fetch_max_parallel_requests, Gen.C24.cfg_fetch_availability_refresh,
   Gen.C24.cfg_max_manifest_ttl⟩

/-- (T) with the shipped defaults (3 s initial, 60 s maximum) the delays are 3, 6, 12, 24, 48, 60, 60 … -/
theorem default_backoff_sequence :
    (List.range 9).map (fun k => backoffSeconds cfgDefault (k + 1)) = [3, 6, 12, 24, 48, 60, 60, 60, 60] := by decide

/-- re-announce-in-flight history: three announces of one chunk by one provider while the request
    is in flight, then the chunk arrives -/
def reannounce : List Step :=
  [⟨.announce "c1" "p1" 3600000000000, 100, 1000, envUp⟩, ⟨.announce "c1" "p1" 3600000000000, 200, 1100, envUp⟩,
   ⟨.announce "c1" "p1" 3600000000000, 300, 1200, envUp⟩, ⟨.arrive "c1", 400, 1300, envUp⟩]

def runOld (cfg : Cfg) (st : State) : List Step → State
  | [] => st
  | s :: rest => runOld cfg (step cfg st s true).1 rest

/-- each re-announce counts as a further attempt (three in all), holding one slot; after the arrival nothing is outstanding and
    the counter is back to zero (hypothesis of `zero` met non-trivially) … -/
example : (run cfgDefault State.init (reannounce.take 3)).active "p1" = 1
    ∧ (run cfgDefault State.init (reannounce.take 3)).pending.map (·.attempts) = [3]
    ∧ (run cfgDefault State.init reannounce).pending = []
    ∧ (run cfgDefault State.init reannounce).active "p1" = 0 := by decide
/-- … whereas the code before the repair leaks one slot per re-announce in flight: nothing is
    outstanding after the arrival, yet two of the provider's three slots stay taken for ever (the
    defect found; one more re-announce and the provider is never asked again) -/
theorem old_code_leaks_inflight_count :
    (runOld cfgDefault State.init reannounce).pending = [] ∧ (runOld cfgDefault State.init reannounce).active "p1" = 2 := by
  decide

/-- a retry run against an unreachable provider: attempts at 0, 3, 9, 21, 45 s; the fifth failure
    reaches the attempt limit and the entry is dropped -/
example : ((run cfgDefault State.init
      [⟨.announce "c1" "p1" 3600000000000, 0, 1000, envDown⟩, ⟨.tick, 3000000000, 1000, envDown⟩,
       ⟨.tick, 9000000000, 1000, envDown⟩, ⟨.tick, 21000000000, 1000, envDown⟩]).pending.map
        fun e => (e.attempts, e.nextAttempt)) = [(4, some 45000000000)]
    ∧ (run cfgDefault State.init
      [⟨.announce "c1" "p1" 3600000000000, 0, 1000, envDown⟩, ⟨.tick, 3000000000, 1000, envDown⟩,
       ⟨.tick, 9000000000, 1000, envDown⟩, ⟨.tick, 21000000000, 1000, envDown⟩, ⟨.tick, 45000000000, 1000, envDown⟩]).pending = [] := by
  decide
/-- a far-future manifest is recorded with the capped expiry, which is the horizon of that history -/
example : ((run cfgDefault State.init [⟨.announce "c1" "p1" 999999999000000000, 0, 1000, envUp⟩]).pending.map (·.expires))
      = [1000 + 21600 * 1000000000]
    ∧ horizon cfgDefault [⟨.announce "c1" "p1" 999999999000000000, 0, 1000, envUp⟩] = 1000 + 21600 * 1000000000 := by decide
/-- the per-peer limit is reached, not just respected: four chunks from one provider, limit 3 -/
example : (run cfgDefault State.init
    [⟨.announce "c1" "p1" 3600000000000, 1, 1000, envUp⟩, ⟨.announce "c2" "p1" 3600000000000, 2, 1000, envUp⟩,
     ⟨.announce "c3" "p1" 3600000000000, 3, 1000, envUp⟩, ⟨.announce "c4" "p1" 3600000000000, 4, 1000, envUp⟩]).active "p1" = 3 := by
  decide

end EphVerif.C24
