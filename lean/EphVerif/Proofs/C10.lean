/-
C10 — Shamir sharing reconstructs from any threshold subset and rejects bad sets.

Property theorems about the model `EphVerif.Shamir` (`Model/Shamir.lean`, the repaired
src/crypto/Shamir.cpp).  Helper lemmas: `Lemmas/C10*.lean`.
-/
import EphVerif.Lemmas.C10Combine
import EphVerif.Lemmas.C10JointSecrecy

namespace EphVerif.C10
open EphVerif.Shamir EphVerif.C10L EphVerif.Gen.C10

/-- a secret as the property speaks of it: 32 bytes -/
def Secret (s : List Nat) : Prop := s.length = 32 ∧ ∀ b ∈ s, b < 256

/-- (T) The Lean transcription of `build_exp_table` / `build_log_table` (with the polynomial, loop bounds and sizes
    regenerated from the source) produces exactly the tables dumped from the compiled source. -/
theorem tables_match_source : expList = expTableLit ∧ logList = logTableLit := tables_eq

/-- `(bytes, gf_add, gf_mul)` is a field: closure, commutativity, associativity, units, additive inverses
    (every element is its own), distributivity, multiplicative inverses, `0 ≠ 1`.
    (`Lemmas/C10GF.lean` packages the same facts as a Mathlib `Field` instance.) -/
theorem gf256_field :
    (∀ a b, a < 256 → b < 256 → gfAdd a b < 256 ∧ gfMul a b < 256) ∧
    (∀ a b, gfAdd a b = gfAdd b a ∧ gfMul a b = gfMul b a) ∧
    (∀ a b c, gfAdd (gfAdd a b) c = gfAdd a (gfAdd b c) ∧ gfMul (gfMul a b) c = gfMul a (gfMul b c)) ∧
    (∀ a, a < 256 → gfAdd a 0 = a ∧ gfAdd a a = 0 ∧ gfMul a 1 = a) ∧
    (∀ a b c, a < 256 → b < 256 → c < 256 → gfMul a (gfAdd b c) = gfAdd (gfMul a b) (gfMul a c)) ∧
    (∀ a, a < 256 → a ≠ 0 → ∃ b, b < 256 ∧ gfMul a b = 1) ∧
    (0 : Nat) ≠ 1 := by
  refine ⟨fun a b ha hb => ⟨xor_lt ha hb, gfMul_lt a b⟩, fun a b => ⟨Nat.xor_comm a b, gfMul_comm a b⟩,
    fun a b c => ⟨Nat.xor_assoc a b c, gfMul_assoc a b c⟩,
    fun a ha => ⟨Nat.xor_zero a, Nat.xor_self a, gfMul_one ha⟩,
    fun a b c ha hb hc => gfMul_xor ha hb hc,
    fun a ha ha0 => ⟨gfInv a, gfInv_lt a, gfMul_gfInv ha ha0⟩, by decide⟩

/-- `gf_div` throws exactly for a zero divisor and otherwise returns the quotient. -/
theorem gf_div (a b : Nat) (ha : a < 256) (hb : b < 256) :
    (b = 0 → gfDiv a b = .invalidArgument) ∧
    (b ≠ 0 → ∃ c, c < 256 ∧ gfDiv a b = .ok c ∧ gfMul c b = a) := by
  refine ⟨fun h => h ▸ gfDiv_zero a, fun h => ⟨gfMul a (gfInv b), gfMul_lt _ _, gfDiv_eq ha hb h, ?_⟩⟩
  rw [gfMul_assoc, gfMul_comm (gfInv b) b, gfMul_gfInv hb h, gfMul_one ha]

/-- The field is GF(2^8) = F₂[x]/(x^8+x^4+x^3+x^2+1): the log/exp-table product equals shift-and-add
    multiplication with reduction by 0x11D (`ShamirSpec.pmul`, written without the tables). -/
theorem gf_mul_is_polynomial_multiplication (a b : Nat) (ha : a < 256) (hb : b < 256) :
    gfMul a b = ShamirSpec.pmul a b := gfMul_eq_pmul ha hb

/-- For every secret, every `1 ≤ t ≤ n ≤ 255` (including `n = 255`) and every outcome of the random draws, `split`
    terminates with `n` shares whose indices are exactly `1, …, n` (hence distinct and non-zero), and byte `b` of the
    share with index `x` is the value at `x` of the polynomial `secret[b] + c₁X + … + c_{t-1}X^{t-1}` whose `t - 1`
    coefficients are the draws made for byte `b`. -/
theorem split (rd : Nat → Nat) (secret : List Nat) (t n : Nat) (ht : 1 ≤ t) (htn : t ≤ n) (hn : n ≤ 255) :
    ∃ shares, Shamir.split rd secret t n = .ok shares ∧ shares.length = n ∧
      shares.map (·.index) = List.range' 1 n ∧
      (shares.map (·.index)).Nodup ∧ (∀ s ∈ shares, s.index ≠ 0 ∧ s.index ≤ 255) ∧
      ∀ s ∈ shares, s.value.length = secret.length ∧
        ∀ b, b < secret.length →
          (coeffsFor rd t b).length = t - 1 ∧
          s.value.getD b 0 = evalPoly s.index (secret.getD b 0) (coeffsFor rd t b) := by
  have hidx : ((List.range' 1 n).map (mkShare rd secret t)).map (·.index) = List.range' 1 n := by
    rw [List.map_map]
    refine (List.map_congr_left fun x hx => ?_).trans (List.map_id _)
    have := List.mem_range'_1.1 hx
    exact mkShareP_index _ rd secret t (by omega)
  refine ⟨_, split_eq rd secret ht htn hn, by simp, hidx, hidx.symm ▸ List.nodup_range' .., ?_, ?_⟩
  · intro s hs
    have hon := onSharing_of_mem_split hn hs
    exact ⟨Nat.ne_of_gt hon.index_pos, hon.index_le⟩
  · intro s hs
    refine ⟨?_, fun b hb => ⟨coeffsForP_length .., (onSharing_of_mem_split hn hs).value b hb⟩⟩
    obtain ⟨x, -, rfl⟩ := List.mem_map.1 hs
    exact mkShareP_value_length ..

/-- The defect that was repaired, as a statement about the loop: with the original `std::uint8_t` counter
    (256 values) and `share_count = 255` the share-index loop never exits, for any amount of fuel. -/
theorem split_uint8_counter_never_exits (fuel : Nat) : shareIndices 256 255 fuel 1 [] = none :=
  shareIndices_wrap (M := 256) (by decide) fuel 1 [] (by decide)

/-- Any selection of the shares of a split, in any order, whose first `t` members carry distinct indices
    (in particular: any `t` different shares) reconstructs the secret. -/
theorem combine (rd : Nat → Nat) (secret : List Nat) (hsec : Secret secret) (t n : Nat)
    (ht : 1 ≤ t) (htn : t ≤ n) (hn : n ≤ 255) (shares : List Share)
    (hsplit : Shamir.split rd secret t n = .ok shares)
    (sel : List Share) (hsub : ∀ s ∈ sel, s ∈ shares) (hlen : t ≤ sel.length)
    (hnd : ((sel.take t).map (·.index)).Nodup) :
    Shamir.combine sel t = .ok secret := by
  rw [split_eq rd secret ht htn hn] at hsplit
  cases hsplit
  rw [Shamir.combine, kSecretBytes_eq.2, ← hsec.1]
  exact combineN_onSharing hsec.2 ht hlen (fun s hs => onSharing_of_mem_split hn (hsub s (List.mem_of_mem_take hs))) hnd

/-- Fewer than `t` shares: invalid-argument. -/
theorem reject_too_few (sel : List Share) (t : Nat) (h : sel.length < t) :
    Shamir.combine sel t = .invalidArgument := by
  rw [Shamir.combine, combineN_eq, if_neg fun h' => Nat.not_le.2 h h'.1]

/-- A repeated index, or index 0, among the shares used (the first `t`): invalid-argument – whatever the share
    values are (in particular also when they are all zero). -/
theorem reject_bad_indices (sel : List Share) (t : Nat)
    (h : ¬ ((sel.take t).map (·.index)).Nodup ∨ 0 ∈ (sel.take t).map (·.index)) :
    Shamir.combine sel t = .invalidArgument := by
  rw [Shamir.combine, combineN_eq, if_neg fun h' => h.elim (· h'.2.2) (h'.2.1 ·)]

/-- `combine` presents a value only for at least `t` shares whose used indices are distinct and non-zero;
    it never hangs. -/
theorem combine_value_only_if_wellformed (sel : List Share) (t : Nat) :
    Shamir.combine sel t ≠ .hang ∧
    ∀ v, Shamir.combine sel t = .ok v →
      t ≤ sel.length ∧ ((sel.take t).map (·.index)).Nodup ∧ 0 ∉ (sel.take t).map (·.index) := by
  rw [Shamir.combine, combineN_eq]
  split
  · next h => exact ⟨interpolate_ne_hang _ _, fun _ _ => ⟨h.1, h.2.2, h.2.1⟩⟩
  · exact ⟨nofun, nofun⟩

/-- On well-formed input (bytes, at least `t` shares, distinct non-zero indices among the first `t`) `combine`
    returns a 32-byte value: the division inside `interpolate` cannot throw. -/
theorem combine_wellformed_ok (sel : List Share) (t : Nat) (hlen : t ≤ sel.length)
    (hb : ∀ s ∈ sel, s.index < 256 ∧ ∀ v ∈ s.value, v < 256)
    (hnd : ((sel.take t).map (·.index)).Nodup) (h0 : 0 ∉ (sel.take t).map (·.index)) :
    ∃ v, Shamir.combine sel t = .ok v ∧ v.length = 32 ∧ ∀ x ∈ v, x < 256 := by
  rw [Shamir.combine, combineN_eq, if_pos ⟨hlen, h0, hnd⟩]
  obtain ⟨v, h1, h2, h3⟩ := interpolate_total kInterpolateBytes (sel.take t)
    (List.forall_mem_map.2 fun s hs => (hb s (List.mem_of_mem_take hs)).1)
    (fun s hs => (hb s (List.mem_of_mem_take hs)).2) hnd
  exact ⟨v, h1, h2.trans kSecretBytes_eq.2, h3⟩

/-- Fix any `t - 1` distinct non-zero share indices `xs` and any candidate secret byte `s`.  Then the map from the
    `t - 1` random coefficients of a byte's polynomial to the `t - 1` share values at `xs` is a bijection on byte
    vectors: every observation `vs` is explained by exactly one coefficient vector, whatever `s` is.  (With uniformly
    drawn coefficients the observed values are uniform and independent of the secret.) -/
theorem secrecy (t : Nat) (xs : List Nat) (hk : xs.length = t - 1) (hx : ∀ x ∈ xs, 1 ≤ x ∧ x ≤ 255)
    (hnd : xs.Nodup) (s : Nat) (hs : s < 256) (vs : List Nat) (hvl : vs.length = t - 1) (hvs : ∀ v ∈ vs, v < 256) :
    ∃! cs : List Nat, cs.length = t - 1 ∧ (∀ c ∈ cs, c < 256) ∧ xs.map (fun x => evalPoly x s cs) = vs := by
  rw [← hk] at hvl ⊢
  exact secrecy_core hx hnd hs hvl hvs

/-- (T) `Shamir::split` calls the random device inside its per-byte loop
    (`kDrawPerByte`, regenerated from the source), i.e. the coefficient of `X^(d+1)` of secret byte `b` is draw number
    `b·(t-1) + d`: distinct (byte, degree) pairs use distinct draws, and one split of a 32-byte secret consumes
    `32·(t-1)` draws. -/
theorem draws_fresh_per_byte :
    kDrawPerByte = true ∧
    (∀ t b d b' d', d < t - 1 → d' < t - 1 →
      drawIndex kDrawPerByte t b d = drawIndex kDrawPerByte t b' d' → b = b' ∧ d = d') ∧
    ∀ t, drawsConsumed kDrawPerByte 32 t = 32 * (t - 1) := by
  rw [kDrawPerByte_eq]
  exact ⟨rfl, fun _ _ _ _ _ => drawIndex_perByte_injective, fun t => by simp [drawsConsumed, kDegreeStart_eq]⟩

/-- **Secrecy of the whole secret.**  Fix any `t - 1` distinct non-zero share indices `xs` and any 32-byte secret.  Then the map from the `32·(t-1)` draws
    of one `split` (written as the coefficient matrix `css`: row `b` = the `t-1` draws made for byte `b`; the draw stream is
    `streamOf (t-1) css`) to all `32·(t-1)` bytes of the shares at `xs` is a bijection: every observation `obs` of `t-1` share
    values is produced by exactly one draw sequence, whatever the secret is.  With independent uniform draws the `t-1`
    shares are therefore uniform and independent of the whole secret.  The statement is about `mkShare`, i.e. the
    consumption pattern of the source; it is false for the shared pattern (`shared_draws_leak`). -/
theorem secrecy_joint (t : Nat) (xs : List Nat) (hk : xs.length = t - 1) (hx : ∀ x ∈ xs, 1 ≤ x ∧ x ≤ 255)
    (hnd : xs.Nodup) (secret : List Nat) (hsec : Secret secret)
    (obs : List (List Nat)) (hol : obs.length = t - 1) (hob : ∀ o ∈ obs, o.length = 32 ∧ ∀ v ∈ o, v < 256) :
    ∃! css : List (List Nat), css.length = 32 ∧ (∀ cs ∈ css, cs.length = t - 1 ∧ ∀ c ∈ cs, c < 256) ∧
      xs.map (fun x => (mkShare (streamOf (t - 1) css) secret t x).value) = obs := by
  have := secrecy_joint_core hk hx hnd hsec.2 hol (hsec.1.symm ▸ hob)
  simp only [mkShare, kDrawPerByte_eq]
  rwa [hsec.1] at this

/-- The other consumption pattern (draws made once, outside the per-byte loop, and shared by all bytes): every single
    share satisfies `value[i] ^ value[j] = secret[i] ^ secret[j]` – one share reveals the secret up to one byte. -/
theorem shared_draws_leak (rd : Nat → Nat) (secret : List Nat) (t x : Nat) (hx : x ≤ 255) (i j : Nat)
    (hi : i < secret.length) (hj : j < secret.length) :
    (mkShareP false rd secret t x).value.getD i 0 ^^^ (mkShareP false rd secret t x).value.getD j 0 =
      secret.getD i 0 ^^^ secret.getD j 0 := by
  rw [mkShareP_value_getD false rd secret t (Nat.lt_succ_of_le hx) hi,
    mkShareP_value_getD false rd secret t (Nat.lt_succ_of_le hx) hj, coeffsForP_false rd t j i,
    evalPoly_affine x (secret.getD i 0), evalPoly_affine x (secret.getD j 0),
    Nat.xor_comm (secret.getD j 0), ← Nat.xor_assoc, xor_cancel]

/-- … hence with shared draws the map draws ↦ share bytes is not onto: no draw sequence makes the share with index 1
    of the secret `[0, 0]` (t = 2) equal to `[0, 1]`. -/
theorem shared_draws_secrecy_fails : ¬ ∃ rd : Nat → Nat, (mkShareP false rd [0, 0] 2 1).value = [0, 1] := by
  rintro ⟨rd, h⟩
  have := shared_draws_leak rd [0, 0] 2 1 (by decide) 0 1 (by decide) (by decide)
  rw [h] at this
  exact absurd this (by decide)

/-! ### non-vacuity -/

/-- a concrete instance: 32-byte secret, draws `7k + 3`, 2-of-3 -/
def exSecret : List Nat := List.range' 10 32
def exRd : Nat → Nat := fun k => 7 * k + 3

example : Secret exSecret := ⟨by decide, by decide⟩

example : Shamir.combine [mkShare exRd exSecret 2 3, mkShare exRd exSecret 2 1] 2 = .ok exSecret :=
  combine exRd exSecret ⟨by decide, by decide⟩ 2 3 (by decide) (by decide) (by decide) _
    (split_eq exRd exSecret (by decide) (by decide) (by decide)) _
    (by
      intro s h
      rcases List.mem_cons.1 h with rfl | h
      · exact List.mem_map.2 ⟨3, by decide, rfl⟩
      · rcases List.mem_cons.1 h with rfl | h
        · exact List.mem_map.2 ⟨1, by decide, rfl⟩
        · cases h)
    (by decide) (by decide +kernel)

example : Shamir.combine [⟨2, List.replicate 32 0⟩, ⟨2, List.replicate 32 0⟩] 2 = .invalidArgument :=
  reject_bad_indices _ _ (Or.inl (by decide))

example : Shamir.combine [⟨0, List.replicate 32 5⟩, ⟨2, List.replicate 32 0⟩] 2 = .invalidArgument :=
  reject_bad_indices _ _ (Or.inr (by decide))

example : ∃! cs : List Nat, cs.length = 3 - 1 ∧ (∀ c ∈ cs, c < 256) ∧ [4, 9].map (fun x => evalPoly x 77 cs) = [1, 200] :=
  secrecy 3 [4, 9] rfl (by decide) (by decide) 77 (by decide) [1, 200] rfl (by decide)

example : ∃! css : List (List Nat), css.length = 32 ∧ (∀ cs ∈ css, cs.length = 2 - 1 ∧ ∀ c ∈ cs, c < 256) ∧
    [3].map (fun x => (mkShare (streamOf (2 - 1) css) exSecret 2 x).value) = [List.replicate 32 5] :=
  secrecy_joint 2 [3] rfl (by decide) (by decide) exSecret ⟨by decide, by decide⟩ _ rfl (by decide)

end EphVerif.C10
