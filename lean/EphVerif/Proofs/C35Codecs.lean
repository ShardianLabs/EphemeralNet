/-
C35 — the leaf callees the call tree treats as primitives, tied to the codec / crypto properties that
are proved elsewhere (C16, C18, C10): used, not re-proved.  Kept apart from `Proofs/C35.lean` so that
the termination-flow theorem does not depend on the other properties' proof files.
-/
import EphVerif.Model.Escape
import EphVerif.Proofs.C16
import EphVerif.Proofs.C18
import EphVerif.Proofs.C10

namespace EphVerif.C35
open EphVerif.Escape EphVerif.Gen.C35

/-- **decoders are total** (C16, C18 — used, not re-proved): on every byte string the message
    decoders never read outside their input and the manifest decoder returns a manifest or throws
    `invalid_argument` — never out of bounds, never UB, never another exception.  Together with
    `leaf_classes` this justifies treating the decoders as primitives of those classes. -/
theorem decoders_total :
    (∀ uri : Manifest.Bytes, (Manifest.decodeManifest uri).Acceptable) ∧
    (∀ mac : Message.Bytes → Message.Bytes → Message.Bytes,
      MessageSpec.Total Message.decode (Message.decodeSigned mac)) :=
  ⟨C18.total, C16.total⟩

/-- the fact "`Shamir::combine` throws" as the driver computes it from the shard indices of a manifest
    (`Escape.combineThrows`) is exactly when the C10 model of `combine` answers `invalid_argument`
    (C10, used) -/
theorem combineThrows_sound (sel : List Shamir.Share) (t : Nat)
    (h : combineThrows (sel.map (·.index)) t = true) : Shamir.combine sel t = .invalidArgument := by
  simp only [combineThrows, Bool.or_eq_true, decide_eq_true_eq, Bool.not_eq_true', decide_eq_false_iff_not,
    List.length_map, List.contains_iff_mem, ← List.map_take] at h
  rcases h with (h | h) | h
  · exact C10.reject_too_few sel t h
  · exact C10.reject_bad_indices sel t (Or.inr h)
  · exact C10.reject_bad_indices sel t (Or.inl h)

theorem combineThrows_complete (sel : List Shamir.Share) (t : Nat)
    (hb : ∀ s ∈ sel, s.index < 256 ∧ ∀ v ∈ s.value, v < 256)
    (h : combineThrows (sel.map (·.index)) t = false) : ∃ v, Shamir.combine sel t = .ok v := by
  simp only [combineThrows, Bool.or_eq_false_iff, decide_eq_false_iff_not, Bool.not_eq_false',
    decide_eq_true_eq, List.length_map, Nat.not_lt, ← List.map_take, List.contains_eq_mem] at h
  obtain ⟨⟨hlen, h0⟩, hnd⟩ := h
  obtain ⟨v, hv, _⟩ := C10.combine_wellformed_ok sel t hlen hb hnd h0
  exact ⟨v, hv⟩

end EphVerif.C35
