/-
C37 — structured log records are single, faithful JSON lines.

Property theorems about the model `EphVerif.LogEscape` (src/daemon/StructuredLogger.cpp) against
the specification `EphVerif.JsonSpec` (RFC 8259 strings, RFC 3629 UTF-8, one-line JSON object of
strings).
-/
import EphVerif.Model.LogEscape
import EphVerif.Spec.JsonString
import EphVerif.Generated.C37
import EphVerif.Lemmas.C37Record

namespace EphVerif.C37
open EphVerif.LogEscape EphVerif.JsonSpec EphVerif.C37L

/-- generated obligation: the `case` entries of `escape_control_characters` in the working tree -/
theorem escapeTable_eq : EphVerif.Gen.C37.escapeTable =
    [(0x22, [0x5C, 0x22]), (0x5C, [0x5C, 0x5C]), (0x08, [0x5C, 0x62]), (0x0C, [0x5C, 0x66]),
     (0x0A, [0x5C, 0x6E]), (0x0D, [0x5C, 0x72]), (0x09, [0x5C, 0x74])] := by decide

/-- generated obligation: bytes below 0x20 take the `\u00XX` form -/
theorem controlLimit_eq : EphVerif.Gen.C37.controlLimit = 0x20 := by decide

/-- the model's per-byte function is: look the byte up in the generated table, otherwise
    `\u00XX` below the generated limit, otherwise the byte itself -/
theorem escapeByte_follows_source (ch : Nat) :
    escapeByte ch =
      match EphVerif.Gen.C37.escapeTable.lookup ch with
      | some e => e
      | none =>
        if ch < EphVerif.Gen.C37.controlLimit then [0x5C, 0x75, 0x30, 0x30, hexUpper (ch / 16), hexUpper (ch % 16)]
        else [ch] := by
  by_cases h1 : ch = 0x22
  · subst h1; decide
  by_cases h2 : ch = 0x5C
  · subst h2; decide
  by_cases h3 : ch = 0x08
  · subst h3; decide
  by_cases h4 : ch = 0x0C
  · subst h4; decide
  by_cases h5 : ch = 0x0A
  · subst h5; decide
  by_cases h6 : ch = 0x0D
  · subst h6; decide
  by_cases h7 : ch = 0x09
  · subst h7; decide
  simp only [escapeByte, EphVerif.Gen.C37.escapeTable, EphVerif.Gen.C37.controlLimit, List.lookup, if_false,
    h1, h2, h3, h4, h5, h6, h7, beq_false_of_ne h1, beq_false_of_ne h2, beq_false_of_ne h3, beq_false_of_ne h4,
    beq_false_of_ne h5, beq_false_of_ne h6, beq_false_of_ne h7]
  by_cases h : ch < 32 <;> simp only [h, if_true, if_false]

/-- **C37.escape** — for every byte string `s`: the escaped text RFC 8259-decodes back to `s`
    (`unescape ∘ escape = id`), contains no byte below 0x20, and no quotation mark or reverse
    solidus other than as part of a two-character escape. -/
theorem C37_escape (s : List Nat) :
    unescape (escape s) = some s ∧ (∀ b ∈ escape s, 0x20 ≤ b) ∧ bareFree (escape s) = true := by
  refine ⟨?_, escape_noControl s, bareFree_escape_all s⟩
  unfold unescape
  rw [decodeStr_escape s []]

/-- streaming form: the escaped text followed by the closing quotation mark decodes to `s` and
    hands the rest of the line back untouched (so a value can never end its own string early
    or swallow what follows it). -/
theorem C37_escape_delimited (s rest : List Nat) :
    decodeStr true (escape s ++ 0x22 :: rest) = some (s, rest) :=
  decodeStr_escape s rest

def expectedRecord (ts level event : List Nat) (fields : List (List Nat × List Nat)) : List (List Nat × Val) :=
  [(keyTs, Val.s ts), (keyLevel, Val.s level), (keyEvent, Val.s event)] ++
    (if fields.isEmpty then [] else [(keyFields, Val.o fields)])

/-- **C37.record** — for every timestamp, level, event name and field list made of valid UTF-8
    strings, the bytes written by `StructuredLogger::log` are exactly one line, are valid UTF-8,
    are accepted by the JSON object grammar, and decode to exactly the logged strings (names and
    values, in order). -/
theorem C37_record (ts level event : List Nat) (fields : List (List Nat × List Nat))
    (hts : validUtf8 ts = true) (hlv : validUtf8 level = true) (hev : validUtf8 event = true)
    (hfs : ∀ f ∈ fields, validUtf8 f.1 = true ∧ validUtf8 f.2 = true) :
    oneLine (logRecord ts level event fields) ∧
    validUtf8 (logRecord ts level event fields) = true ∧
    decodeLine (logRecord ts level event fields) = some (expectedRecord ts level event fields) :=
  ⟨oneLine_logRecord ts level event fields, validUtf8_logRecord ts level event fields hts hlv hev hfs,
    decodeLine_logRecord ts level event fields⟩

/-- the same for arbitrary byte strings (not necessarily UTF-8), minus UTF-8 validity of the
    output: still one line, still decodes to exactly what was logged -/
theorem C37_record_anybytes (ts level event : List Nat) (fields : List (List Nat × List Nat)) :
    oneLine (logRecord ts level event fields) ∧
    decodeLine (logRecord ts level event fields) = some (expectedRecord ts level event fields) :=
  ⟨oneLine_logRecord ts level event fields, decodeLine_logRecord ts level event fields⟩

/-- the three level names are valid UTF-8, so `C37_record` applies to every `Level` -/
theorem C37_levels (lv : Nat) : validUtf8 (levelToString lv) = true := by
  unfold levelToString
  split
  · decide
  · split <;> decide

/-- an escape-heavy value: `"`, `\`, LF, NUL, U+1F600 -/
example : escape [0x22, 0x5C, 0x0A, 0x00, 0xF0, 0x9F, 0x98, 0x80] =
    [0x5C, 0x22, 0x5C, 0x5C, 0x5C, 0x6E, 0x5C, 0x75, 0x30, 0x30, 0x30, 0x30, 0xF0, 0x9F, 0x98, 0x80] := by decide

/-- hypotheses of `C37_record` are satisfiable with multi-byte and control content -/
example : validUtf8 [0x22, 0x5C, 0x0A, 0x00, 0xF0, 0x9F, 0x98, 0x80, 0xC3, 0xA9, 0xE2, 0x82, 0xAC] = true := by decide

/-- CESU-8 / overlong / truncated sequences are *not* valid UTF-8 (the predicate is not trivially true) -/
example : validUtf8 [0xED, 0xA0, 0xBD] = false ∧ validUtf8 [0xC0, 0x80] = false ∧ validUtf8 [0xE2, 0x82] = false := by decide

/-- a record whose field value tries to close the string and forge a second record -/
example :
    decodeLine (logRecord [0x54] [0x69] [0x65, 0x0A] [([0x6B], [0x22, 0x7D, 0x0A, 0x7B])]) =
      some [(keyTs, Val.s [0x54]), (keyLevel, Val.s [0x69]), (keyEvent, Val.s [0x65, 0x0A]),
            (keyFields, Val.o [([0x6B], [0x22, 0x7D, 0x0A, 0x7B])])] := by decide

/-- the decoder rejects what an unescaped logger would have written (raw LF inside a string) -/
example : decodeLine ([0x7B, 0x22, 0x74, 0x73, 0x22, 0x3A, 0x22, 0x0A, 0x22, 0x7D, 0x0A]) = none := by decide

end EphVerif.C37
