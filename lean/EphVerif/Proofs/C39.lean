/-
C39 — key rotation never leaves the two ends of a session on different keys.   KNOWN FINDING: the
property does NOT hold for the code as it is, and the repair is not small (a rekey message or an
agreed changeover rule is needed; see notes/C39.md).

Model: EphVerif.Rotation (Model/Rotation.lean, constants/flags from Generated/C39.lean) — the code
as it is.   Spec: EphVerif.Spec.Rotation (`Consistent`, `accepts`).
HMAC-SHA256 is `EphVerif.Spec.hmacSha256` (RFC 2104 / FIPS 180-4; equal to the code's by C08) in the
concrete witness, and an arbitrary function in the general theorems.

Full statement of the property (NOT provable, refuted by `counterexample`):
    ∀ hmac ivA ivB secret mat ta tb (schedule : List Ev),
      Consistent (obs ((Sys.afterHandshake hmac ivA ivB secret mat ta tb).run hmac schedule))
-/
import EphVerif.Lemmas.C39
import EphVerif.Lemmas.C08Eval

namespace EphVerif.C39
open EphVerif EphVerif.Rotation EphVerif.Gen
open EphVerif.Spec.Rotation (Obs Consistent accepts)

def obs (s : Sys) : Obs := { openA := s.a.sessionOpen, openB := s.b.sessionOpen, keyA := s.a.key, keyB := s.b.key }

/-- the derivation is the one this finding is about: interval clamp 5 s … 1 h, "not yet due" is
`elapsed < interval`, the HMAC input is 8 bytes of counter then 8 bytes of the rotating node's own
clock, and rotation only re-registers the key (no teardown, no message to the peer) -/
theorem generated_constants :
    C39.kMinKeyRotationInterval = 5 ∧ C39.kMaxKeyRotationInterval = 3600 ∧ C39.materialSize = 16 ∧
    C39.counterBase = 7 ∧ C39.ticksBase = 15 ∧ C39.fieldBytes = 8 ∧
    C39.deriveUsesLocalTimestamp = true ∧ C39.rotationTimestampIsNow = true ∧ C39.rotationOnlyReregistersKey = true := by
  decide

theorem generated_not_due (elapsed interval : Int) : C39.notDue elapsed interval = true ↔ elapsed < interval := by
  simp [C39.notDue]

def witnessSecret : Bytes := (List.range 32).map UInt8.ofNat
/-- `make_handshake_material(5, 7)` -/
def witnessMaterial : Bytes := [0, 0, 0, 5, 0, 0, 0, 7]
/-- both nodes' clocks read this at the handshake (the harness' virtual clock starts here) -/
def t0 : Int := 1000000000000
/-- after a mutual handshake: one secret, one material, rotation interval 5 s at both ends, sessions up -/
def witnessStart : Sys := Sys.afterHandshake Spec.hmacSha256 5 5 witnessSecret witnessMaterial t0 t0
/-- A ticks exactly when its rotation falls due, B one nanosecond later -/
def witnessSchedule : List Ev := [.tickA (t0 + 5000000000), .tickB (t0 + 5000000001)]

def witnessKey0 : Bytes :=
  [0x7b, 0x2b, 0x86, 0xb0, 0xcc, 0xc2, 0xd5, 0x5a, 0x99, 0x91, 0x3f, 0xbc, 0xd2, 0xa6, 0xe2, 0x4a, 0x78, 0x97, 0xe3, 0x80, 0x50,
   0x06, 0x80, 0xeb, 0x59, 0x76, 0x0f, 0x70, 0xa6, 0xc1, 0xea, 0xd1]
def witnessKeyA : Bytes :=
  [0x20, 0xcc, 0xb4, 0xd8, 0x24, 0xb6, 0x97, 0x35, 0x00, 0xa7, 0xb9, 0x8c, 0x91, 0xad, 0xb4, 0x73, 0x35, 0x6a, 0xb4, 0xcf, 0xe7,
   0xb2, 0xf6, 0xab, 0xa3, 0x21, 0x55, 0xbe, 0x74, 0x76, 0x6e, 0x6f]
def witnessKeyB : Bytes :=
  [0xdb, 0xbf, 0xf5, 0x88, 0x70, 0x2e, 0xd8, 0x7e, 0x6a, 0x91, 0x0c, 0x8d, 0x9b, 0x46, 0x82, 0x30, 0xec, 0x84, 0x4d, 0x3a, 0xfc,
   0x8b, 0xba, 0x46, 0x4c, 0xfc, 0xce, 0x7a, 0xad, 0x22, 0x41, 0xd9]

/-- the handshake leaves both ends on one key with the session up: the property's premise holds -/
theorem counterexample_start :
    (obs witnessStart).openA = true ∧ (obs witnessStart).openB = true ∧
    (obs witnessStart).keyA = some witnessKey0 ∧ (obs witnessStart).keyB = some witnessKey0 ∧
    Consistent (obs witnessStart) := by
  rw [witnessStart, hmacSha256_eval]
  decide +kernel

/-- **C39.counterexample.** After a shared handshake, two ticks one nanosecond apart: both ends have
rotated (counter 1 at both), neither session was closed, and the two ends now hold two different
keys (the HMAC-SHA256 values below, computed by the Lean kernel) — the invariant is violated and a
message signed by one end is not accepted by the other. -/
theorem counterexample :
    let s := witnessStart.run Spec.hmacSha256 witnessSchedule
    s.a.ctx.map (·.counter) = some 1 ∧ s.b.ctx.map (·.counter) = some 1 ∧
    s.a.sessionOpen = true ∧ s.b.sessionOpen = true ∧
    s.a.key = some witnessKeyA ∧ s.b.key = some witnessKeyB ∧
    s.a.sessionKey = some witnessKeyA ∧ s.b.sessionKey = some witnessKeyB ∧
    s.a.key ≠ s.b.key ∧ ¬ Consistent (obs s) ∧ accepts s.a.key s.b.key = false := by
  rw [witnessStart, hmacSha256_eval]
  decide +kernel

section
variable (hmac : Bytes → Bytes → Bytes)

/-- the two ends are in step: same secret, counter, last-rotation reading and key, and each session
manager holds that key -/
structure InStep (s : Sys) : Prop where
  ctx : s.a.ctx = s.b.ctx
  some : s.a.ctx.isSome
  interval : s.a.interval = s.b.interval
  sessA : s.a.sessionKey = s.a.key
  sessB : s.b.sessionKey = s.b.key

theorem inStep_consistent {s : Sys} (h : InStep s) : Consistent (obs s) := by
  intro _ _
  simp only [obs, Node.key, h.ctx]

theorem inStep_afterHandshake (iv : Int) (secret mat : Bytes) (t : Int) :
    InStep (Sys.afterHandshake hmac iv iv secret mat t t) :=
  ⟨rfl, rfl, rfl, rfl, rfl⟩

/-- **C39.partial (no rotation due).** A tick before the interval has elapsed changes neither the
key nor the session, at either end, for any clock reading. -/
theorem partial_not_due (n : Node) (e : Endpoint) (now : Int) (hctx : n.ctx = some e)
    (h : now - e.lastRotation < n.interval) : n.tick hmac now = n := by
  have hd := (generated_not_due _ _).mpr h
  simp only [Node.tick, hctx, rotateIfNeeded, hd, if_true]
  exact hctx ▸ rfl

/-- what a due rotation does: counter + 1, the node's own clock reading as timestamp, key =
HMAC(secret, counter ‖ that reading), re-registered with the session manager; session left open -/
theorem tick_due {n : Node} {e : Endpoint} {now : Int} (hctx : n.ctx = some e)
    (h : ¬ now - e.lastRotation < n.interval) :
    n.tick hmac now =
      let k := hmac e.secret (material (e.counter + 1) now)
      { n with ctx := some { e with counter := (e.counter + 1) % 18446744073709551616, lastRotation := now, key := k },
               sessionKey := some k } := by
  have hd := mt (generated_not_due _ _).mp h
  simp only [Node.tick, hctx, rotateIfNeeded, hd, Bool.false_eq_true, if_false, deriveKey, material_mod]

def tickBoth (s : Sys) (now : Int) : Sys := (s.step hmac (.tickA now)).step hmac (.tickB now)

theorem inStep_tickBoth (s : Sys) (h : InStep s) (now : Int) : InStep (tickBoth hmac s now) := by
  obtain ⟨e, ha⟩ := Option.isSome_iff_exists.mp h.some
  have hb : s.b.ctx = some e := h.ctx ▸ ha
  by_cases hd : now - e.lastRotation < s.a.interval
  · -- due at neither end: nothing changes
    rw [tickBoth, Sys.step, Sys.step, partial_not_due hmac _ e now ha hd,
      partial_not_due hmac _ e now hb (h.interval ▸ hd)]
    exact h
  · -- due at both ends: the same new context, registered at both session managers
    rw [tickBoth, Sys.step, Sys.step, tick_due hmac ha hd, tick_due hmac hb (h.interval ▸ hd)]
    exact ⟨rfl, rfl, h.interval, rfl, rfl⟩

/-- **C39.partial (lockstep).** If the two ends leave the handshake in step and every later tick
reaches both ends with identical clock readings — for any readings, any number of ticks, any HMAC —
they remain in step: every rotation switches both ends to the same new key and the invariant holds
throughout. -/
theorem partial_lockstep (s : Sys) (h : InStep s) (ticks : List Int) :
    InStep (ticks.foldl (tickBoth hmac) s) ∧ Consistent (obs (ticks.foldl (tickBoth hmac) s)) := by
  induction ticks generalizing s with
  | nil => exact ⟨h, inStep_consistent h⟩
  | cons t ts ih => exact ih _ (inStep_tickBoth hmac s h t)

example : ∃ s : Sys, InStep s := ⟨_, inStep_afterHandshake Spec.hmacSha256 5 [1] [2] 0⟩

theorem key_tick_due {n : Node} {e : Endpoint} {now : Int} (hctx : n.ctx = some e)
    (h : ¬ now - e.lastRotation < n.interval) :
    (n.tick hmac now).key = some (hmac e.secret (material (e.counter + 1) now)) := by
  rw [tick_due hmac hctx h]; rfl

/-- **C39.partial (divergence).** Two ends in step whose rotations fall due and who tick at two
different readings of their clocks (`int64` nanosecond counts — one nanosecond apart is enough)
end up with the same key only if HMAC-SHA256 under their secret collides on two *distinct*
16-byte inputs. -/
theorem partial_divergence (s : Sys) (h : InStep s) (e : Endpoint) (he : s.a.ctx = some e) (ta tb : Int)
    (hta : -9223372036854775808 ≤ ta ∧ ta < 9223372036854775808) (htb : -9223372036854775808 ≤ tb ∧ tb < 9223372036854775808)
    (hne : ta ≠ tb) (hdueA : ¬ ta - e.lastRotation < s.a.interval) (hdueB : ¬ tb - e.lastRotation < s.b.interval)
    (hsame : ((s.step hmac (.tickA ta)).step hmac (.tickB tb)).a.key = ((s.step hmac (.tickA ta)).step hmac (.tickB tb)).b.key) :
    ∃ m1 m2 : Bytes, m1 ≠ m2 ∧ m1.length = 16 ∧ m2.length = 16 ∧ hmac e.secret m1 = hmac e.secret m2 := by
  have hb : s.b.ctx = some e := h.ctx ▸ he
  simp only [Sys.step] at hsame
  rw [key_tick_due hmac he hdueA, key_tick_due hmac hb hdueB] at hsame
  exact ⟨material (e.counter + 1) ta, material (e.counter + 1) tb,
    fun heq => hne (tickBits_injective hta htb (material_injective heq).2),
    material_length _ _, material_length _ _, Option.some.inj hsame⟩

/-- **C39.partial (one-sided rotation).** If only one end's rotation falls due (different intervals,
or handshakes at different instants), the ends agree afterwards only if HMAC maps the 16-byte
rotation input and the handshake material `mat` to the same key. -/
theorem partial_one_sided (iv ivB : Int) (secret mat : Bytes) (t ta tb : Int)
    (hdueA : ¬ ta - t < (Node.fresh iv).interval) (hnotB : tb - t < (Node.fresh ivB).interval)
    (hsame : let s := ((Sys.afterHandshake hmac iv ivB secret mat t t).step hmac (.tickA ta)).step hmac (.tickB tb)
             s.a.key = s.b.key) :
    hmac secret (material 1 ta) = hmac secret mat := by
  have ka := key_tick_due hmac (n := (Sys.afterHandshake hmac iv ivB secret mat t t).a)
    (e := registerWithMaterial hmac secret mat t) rfl hdueA
  have kb := partial_not_due hmac (Sys.afterHandshake hmac iv ivB secret mat t t).b
    (registerWithMaterial hmac secret mat t) tb rfl hnotB
  simp only [Sys.step] at hsame
  rw [ka, kb] at hsame
  exact Option.some.inj hsame

/-- **Message fate.** Whether a message from A is accepted by B is decided by key equality alone. -/
theorem message_fate (s : Sys) (hk : s.a.key.isSome) : accepts s.a.key s.b.key = true ↔ s.a.key = s.b.key := by
  rw [accepts, hk, Bool.true_and, decide_eq_true_eq]

end

end EphVerif.C39
