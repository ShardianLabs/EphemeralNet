/-
C14 — transport sessions deliver exactly what was sent, within the size limit (PARTIAL: see the
end of this header).

Model: EphVerif.Frames (Model/Frames.lean, built on Generated/C14.lean): `send`/`encodeFrame`
(sender), `Reader`/`feed`/`feedChunks` (the reader thread as a resumable machine fed arbitrary
pieces of the TCP stream), `receiveLoop`/`parse` (`receive_loop` over the whole received string).
Cipher: `EphVerif.Spec.chacha20` (RFC 8439).   Helper lemmas: Lemmas/C14Reader, C14Cipher, C14Codec,
C14Spec, C14Senders.

Property theorems only.  Sizes are the property's literal 1 MiB = 1048576, nonces 12 bytes,
the length field 4 bytes big-endian; keys are 32 bytes.

What is *not* here (why the property is claimed partial): that the kernel delivers the TCP byte
stream unaltered and in order, that there is one reader thread per session, and that
`std::random_device` yields a fresh nonce — the theorems hold for every nonce, freshness is only
tested (pairwise distinctness over a run) by the harness.  Concurrent senders *are* here: the
`Senders` machine (several threads, frames written in pieces chosen by the kernel, arbitrary
schedule, the per-session send lock) with `concurrent_locked` and the counterexample without the lock.
-/
import EphVerif.Lemmas.C14Spec
import EphVerif.Lemmas.C14Senders

namespace EphVerif.C14
open EphVerif EphVerif.Frames EphVerif.Gen

/-! ## (T) the regenerated constants and guards say what the property says -/

theorem generated_constants :
    C14.kMaxPayloadSize = 1048576 ∧ C14.kNonceSize = 12 ∧ C14.kLengthFieldSize = 4 ∧
    C14.sendShifts = [24, 16, 8, 0] ∧ C14.recvShifts = [24, 16, 8, 0] ∧
    C14.sendCounter = 0 ∧ C14.recvCounter = 0 ∧ C14.recvCheckBeforeBody = true ∧
    C14.sendHoldsSessionLock = true ∧
    C14.recvKeySnapshotAfterFrame = true ∧ C14.sendKeySnapshotInCall = true ∧
    C14.acceptedSessionHasNoRecvTimeout = true := by decide

/-- every size guard of the transport refuses exactly the sizes above 1 MiB -/
theorem generated_guards (n : Nat) :
    (C14.sendRefuses n = true ↔ n > 1048576) ∧ (C14.recvRefuses n = true ↔ n > 1048576) ∧
    (C14.sendEncryptedRefuses n = true ↔ n > 1048576) := by
  refine ⟨sendRefuses_iff n, recvRefuses_iff n, ?_⟩
  simp [C14.sendEncryptedRefuses, C14.kMaxPayloadSize]

/-- **C14.stream.** For every 32-byte key, every list of payloads of at most 1 MiB each, every choice
of 12-byte nonces, and every way the concatenated frames are cut into pieces on their way to the
reader thread: the message handler is invoked with exactly the payloads, once each, in send order;
the session stays up; the reader has consumed the whole stream and is back at the top of its loop
(no partial frame pending). -/
theorem stream (key : Bytes) (frames : List (Bytes × Bytes)) (chunks : List Bytes)
    (hk : key.length = 32) (hn : ∀ f ∈ frames, f.1.length = 12) (hp : ∀ f ∈ frames, f.2.length ≤ 1048576)
    (hchunks : chunks.flatten = frames.flatMap fun f => encodeFrame key f.1 f.2) :
    let r := feedChunks key Reader.init chunks
    r.delivered = frames.map (·.2) ∧ r.ended = none ∧
      r.consumed = (frames.map fun f => 16 + f.2.length).sum ∧ r.want = .nonce ∧ r.acc = [] := by
  rw [feedChunks_eq, init_eq, hchunks, feed_frames_eq hk hn hp]
  exact ⟨rfl, rfl, Nat.zero_add _, rfl, rfl⟩

example : ∃ (key : Bytes) (frames : List (Bytes × Bytes)) (chunks : List Bytes), key.length = 32 ∧ (∀ f ∈ frames, f.1.length = 12) ∧ (∀ f ∈ frames, f.2.length ≤ 1048576) ∧
    frames ≠ [] ∧ chunks.flatten = frames.flatMap fun (f : Bytes × Bytes) => encodeFrame key f.1 f.2 :=
  ⟨List.replicate 32 0, [(List.replicate 12 7, [1, 2, 3])], [encodeFrame (List.replicate 32 0) (List.replicate 12 7) [1, 2, 3]],
    rfl, List.forall_mem_singleton.mpr rfl, List.forall_mem_singleton.mpr (by decide), List.cons_ne_nil _ _, rfl⟩

/-- one stretch of a session between two key replacements: the key, the frames sent under it, and the
pieces in which their bytes reach the reader -/
structure Segment where
  key : Bytes
  frames : List (Bytes × Bytes)
  chunks : List Bytes

def Segment.ok (g : Segment) : Prop :=
  g.key.length = 32 ∧ (∀ f ∈ g.frames, f.1.length = 12) ∧ (∀ f ∈ g.frames, f.2.length ≤ 1048576) ∧
  g.chunks.flatten = g.frames.flatMap fun f => encodeFrame g.key f.1 f.2

theorem feedSegments_from (segs : List Segment) (r : Reader) (hr : Idle r) (h : ∀ g ∈ segs, g.ok) :
    let r' := feedSegments r (segs.map fun g => (g.key, g.chunks))
    Idle r' ∧ r'.delivered = r.delivered ++ segs.flatMap fun g => g.frames.map (·.2) := by
  induction segs generalizing r with
  | nil => exact ⟨hr, by simp [feedSegments]⟩
  | cons g gs ih =>
    obtain ⟨hk, hn, hp, hc⟩ := h g List.mem_cons_self
    obtain ⟨i1, i2, _, _⟩ := feed_frames g.key g.frames r hr hk hn hp
    have := ih _ i1 (fun g' hg' => h g' (List.mem_cons_of_mem _ hg'))
    rw [i2, List.append_assoc] at this
    rw [List.map_cons, feedSegments, List.foldl_cons, feedChunks_eq, hc]
    exact this

/-- **C14.stream, with key replacements.** The session key may be replaced (`register_peer_key` on the live
session, at both ends) any number of times; if sender and receiver switch at the same point of the
byte stream — a frame boundary: every frame is encrypted under the key registered when `send` built it
and its bytes are read while that key is still the one registered at the receiver — then for every
sequence of segments (32-byte keys, 12-byte nonces, payloads ≤ 1 MiB, any chunking within a segment)
the handler still receives exactly the payloads, once each, in send order, and the session stays up. -/
theorem stream_rekeyed (segs : List Segment) (h : ∀ g ∈ segs, g.ok) :
    let r := feedSegments Reader.init (segs.map fun g => (g.key, g.chunks))
    r.delivered = segs.flatMap (fun g => g.frames.map (·.2)) ∧ r.ended = none ∧ r.want = .nonce ∧ r.acc = [] := by
  have := feedSegments_from segs Reader.init idle_init h
  exact ⟨this.2, this.1.ended, this.1.want, this.1.acc⟩

example : ∃ segs : List Segment, segs.length = 2 ∧ (∀ g ∈ segs, g.ok) ∧ (segs.map (·.key)).Nodup := by
  -- one frame arriving in one piece is a segment
  have one (k n p : Bytes) (hk : k.length = 32) (hn : n.length = 12) (hp : p.length ≤ 1048576) :
      Segment.ok ⟨k, [(n, p)], [encodeFrame k n p]⟩ :=
    ⟨hk, List.forall_mem_singleton.mpr hn, List.forall_mem_singleton.mpr hp, rfl⟩
  exact ⟨[⟨List.replicate 32 1, [(List.replicate 12 7, [1, 2, 3])], [encodeFrame (List.replicate 32 1) (List.replicate 12 7) [1, 2, 3]]⟩,
      ⟨List.replicate 32 2, [(List.replicate 12 8, [4])], [encodeFrame (List.replicate 32 2) (List.replicate 12 8) [4]]⟩],
    rfl, List.forall_mem_cons.mpr ⟨one _ _ _ rfl rfl (by decide), List.forall_mem_singleton.mpr (one _ _ _ rfl rfl (by decide))⟩, by decide⟩

/-- `send` accepts every payload of at most 1 MiB (in particular exactly 1 MiB) and writes one frame
of 16 + size bytes -/
theorem send_accepts (key nonce payload : Bytes) (hk : key.length = 32) (hn : nonce.length = 12)
    (hp : payload.length ≤ 1048576) :
    send key nonce payload = some (encodeFrame key nonce payload) ∧
      (encodeFrame key nonce payload).length = 16 + payload.length := by
  refine ⟨by rw [send_eq, if_pos hp], ?_⟩
  simp only [encodeFrame, List.length_append, lengthBytes_length, hn, cipher, Cipher.chacha20_length key nonce _ payload hk hn]

/-- **C14.stream, with refusals.** Any sequence of `send` calls with payloads of *any* size: what
reaches the peer's handler is exactly the sub-sequence of payloads of at most 1 MiB, once each, in
order — the oversized ones leave no trace on the wire and the session stays up. -/
theorem stream_with_refusals (key : Bytes) (attempts : List (Bytes × Bytes)) (chunks : List Bytes)
    (hk : key.length = 32) (hn : ∀ f ∈ attempts, f.1.length = 12)
    (hchunks : chunks.flatten = (attempts.filterMap fun f => send key f.1 f.2).flatten) :
    let r := feedChunks key Reader.init chunks
    r.delivered = (attempts.filter fun f => decide (f.2.length ≤ 1048576)).map (·.2) ∧ r.ended = none := by
  have := stream key (attempts.filter fun f => decide (f.2.length ≤ 1048576)) chunks hk
    (fun f hf => hn f (List.mem_filter.mp hf).1)
    (fun f hf => by simpa using (List.mem_filter.mp hf).2) (hchunks.trans (sends_wire key attempts))
  exact ⟨this.1, this.2.1⟩

/-- **C14.limit (sender).** A payload above 1 MiB is not sent: `send` returns before anything is
written, for every key and nonce. -/
theorem limit_send (key nonce payload : Bytes) (h : payload.length > 1048576) : send key nonce payload = none := by
  rw [send_eq, if_neg (by omega)]

/-- **C14.limit (receiver).** After any well-formed frames, a header announcing more than 1 MiB —
however the stream is cut into pieces, whatever follows the header — ends the session: exactly
the 16 header bytes are consumed beyond the earlier frames, no ciphertext buffer is allocated for
it (`maxAlloc` is the largest earlier payload), only the earlier payloads have been delivered,
and nothing after the header is ever read. -/
theorem limit_recv (key : Bytes) (frames : List (Bytes × Bytes)) (nonce lb rest : Bytes) (chunks : List Bytes)
    (hk : key.length = 32) (hn : ∀ f ∈ frames, f.1.length = 12) (hp : ∀ f ∈ frames, f.2.length ≤ 1048576)
    (hnonce : nonce.length = 12) (hlb : lb.length = 4) (hbig : readLength lb > 1048576)
    (hchunks : chunks.flatten = (frames.flatMap fun f => encodeFrame key f.1 f.2) ++ (nonce ++ lb ++ rest)) :
    let r := feedChunks key Reader.init chunks
    r.ended = some (.oversized (readLength lb)) ∧ r.delivered = frames.map (·.2) ∧
      r.consumed = (frames.map fun f => 16 + f.2.length).sum + 16 ∧
      r.maxAlloc = (frames.map (·.2.length)).foldl max 0 := by
  rw [feedChunks_eq, init_eq, hchunks, feed_append, feed_frames_eq hk hn hp,
    feed_refused hnonce hlb ((recvRefuses_iff _).mpr hbig), Nat.zero_add]
  exact ⟨rfl, rfl, rfl, rfl⟩

/-- the four bytes `00 10 00 01` announce 1 MiB + 1 -/
example : ([0x00, 0x10, 0x00, 0x01] : Bytes).length = 4 ∧ readLength [0x00, 0x10, 0x00, 0x01] = 1048577 := by decide

/-- the length field is a plain 32-bit big-endian number, so *every* announced size above the limit
is covered: the four bytes of any `n < 2^32` read back as `n` -/
theorem length_field (n : Nat) (h : n < 4294967296) :
    lengthBytes n = [UInt8.ofNat (n / 16777216 % 256), UInt8.ofNat (n / 65536 % 256), UInt8.ofNat (n / 256 % 256), UInt8.ofNat (n % 256)] ∧
    readLength (lengthBytes n) = n :=
  ⟨lengthBytes_eq n h, readLength_lengthBytes n h⟩

/-- **C14.limit (buffering).** On every byte string whatsoever, cut into pieces anyhow, the reader never
allocates a ciphertext buffer above 1 MiB. -/
theorem buffer_bounded (key : Bytes) (chunks : List Bytes) : (feedChunks key Reader.init chunks).maxAlloc ≤ 1048576 := by
  rw [feedChunks_eq]
  exact Nat.le_trans (feed_grows key Reader.init _).2 (by decide)

/-- **C14.wire.** What `send` puts on the wire for a payload of at most 1 MiB is the nonce, the payload
size as a 32-bit big-endian number, and the RFC 8439 ChaCha20 encryption of the payload under the
session key, that frame's nonce and initial block counter 0; decrypting the ciphertext with the
same parameters gives the payload back. -/
theorem wire (key nonce payload : Bytes) (hk : key.length = 32) (hn : nonce.length = 12) (hp : payload.length ≤ 1048576) :
    let n := payload.length
    send key nonce payload = some (nonce ++
      [UInt8.ofNat (n / 16777216 % 256), UInt8.ofNat (n / 65536 % 256), UInt8.ofNat (n / 256 % 256), UInt8.ofNat (n % 256)] ++
      Spec.chacha20 key nonce 0 payload) ∧
    Spec.chacha20 key nonce 0 (Spec.chacha20 key nonce 0 payload) = payload := by
  refine ⟨?_, Cipher.chacha20_involution key nonce 0 payload hk hn⟩
  rw [(send_accepts key nonce payload hk hn hp).1, encodeFrame, (length_field payload.length (by omega)).1]
  rfl

/-- the hypotheses of `send_accepts` / `wire` / `stream_with_refusals` are satisfiable, at the limit itself -/
example : ∃ key nonce payload : Bytes, key.length = 32 ∧ nonce.length = 12 ∧ payload.length = 1048576 :=
  ⟨List.replicate 32 1, List.replicate 12 2, List.replicate 1048576 3, List.length_replicate, List.length_replicate, List.length_replicate⟩

/-- How the byte stream is cut into pieces never matters, for any bytes at all (well-formed or not). -/
theorem chunking_irrelevant (key : Bytes) (chunks chunks' : List Bytes) (h : chunks.flatten = chunks'.flatten) :
    feedChunks key Reader.init chunks = feedChunks key Reader.init chunks' := by
  rw [feedChunks_eq, feedChunks_eq, h]

/-- The resumable reader machine fed any pieces shows exactly what `receive_loop`, read as a function
over the whole received byte string, computes: deliveries, end of session, bytes consumed, largest
buffer — for every byte string. -/
theorem reader_is_receive_loop (key : Bytes) (chunks : List Bytes) :
    (feedChunks key Reader.init chunks).outcome = parse key chunks.flatten := by
  rw [feedChunks_eq, parse_eq]

/-- Deliveries are never retracted or reordered by later bytes: what the handler has received after a
prefix of the stream is a prefix of what it has received later. -/
theorem delivered_monotone (key : Bytes) (chunks more : List Bytes) :
    (feedChunks key Reader.init chunks).delivered <+: (feedChunks key Reader.init (chunks ++ more)).delivered := by
  simp only [feedChunks_eq, List.flatten_append, feed_append]
  exact (feed_grows key _ _).1

/-- Once a session has been ended nothing more is delivered or consumed. -/
theorem ended_is_final (key : Bytes) (chunks more : List Bytes) (h : (feedChunks key Reader.init chunks).ended.isSome) :
    feedChunks key Reader.init (chunks ++ more) = feedChunks key Reader.init chunks := by
  simp only [feedChunks_eq, List.flatten_append, feed_append] at h ⊢
  exact feed_ended key _ _ h

/-- **C14.concurrent_locked.** With the per-session send lock — for every number `n` of sender threads,
every list of `send()` calls per thread (payloads of at most 1 MiB, any 12-byte nonces), every way the
kernel cuts each frame into pieces, every schedule that lets all threads finish, and every way the
resulting byte stream is cut on its way to the reader: the session stays up; the handler receives the
payloads of an interleaving `order` of the threads' calls — hence every payload of every thread
exactly once, byte for byte (`Perm`), and each thread's payloads in that thread's send order
(`Sublist`). -/
theorem concurrent_locked (key : Bytes) (n : Nat) (calls : Nat → List SendCall) (sched : List Nat) (chunks : List Bytes)
    (hk : key.length = 32) (hsup : ∀ i, n ≤ i → calls i = [])
    (hcalls : ∀ i, ∀ c ∈ calls i, c.wellSplit key ∧ c.nonce.length = 12 ∧ c.payload.length ≤ 1048576)
    (hdone : (Senders.run true (Senders.init calls) sched).Done)
    (hchunks : chunks.flatten = (Senders.run true (Senders.init calls) sched).wire) :
    let r := feedChunks key Reader.init chunks
    r.ended = none ∧
    (∃ order : List SendCall, Merge calls order ∧ r.delivered = order.map (·.payload)) ∧
    (∀ i, ((calls i).map (·.payload)).Sublist r.delivered) ∧
    r.delivered.Perm (((List.range n).flatMap calls).map (·.payload)) := by
  obtain ⟨order, hm, hw⟩ := run_locked calls sched hdone
  have hord (c : SendCall) (hc : c ∈ order) : c.wellSplit key ∧ c.nonce.length = 12 ∧ c.payload.length ≤ 1048576 :=
    (hm.mem c hc).elim fun i hi => hcalls i c hi
  have hwire : (order.map fun c => c.pieces.flatten).flatten
      = (order.map fun c => (c.nonce, c.payload)).flatMap fun f => encodeFrame key f.1 f.2 := by
    rw [List.flatMap_def, List.map_map]
    exact congrArg List.flatten (List.map_congr_left fun c hc => (hord c hc).1)
  have hs := stream key (order.map fun c => (c.nonce, c.payload)) chunks hk
    (List.forall_mem_map.mpr fun c hc => (hord c hc).2.1) (List.forall_mem_map.mpr fun c hc => (hord c hc).2.2)
    (by rw [hchunks, hw, hwire])
  have hd : (feedChunks key Reader.init chunks).delivered = order.map (·.payload) := by
    rw [hs.1, List.map_map]; rfl
  refine ⟨hs.2.1, ⟨order, hm, hd⟩, ?_, ?_⟩
  · intro i; rw [hd]; exact (hm.sublist i).map _
  · rw [hd]; exact (hm.perm n hsup).map _

/-- the same for the code as it is: `send()` holds the session's send lock (regenerated flag) -/
theorem concurrent_as_coded (key : Bytes) (n : Nat) (calls : Nat → List SendCall) (sched : List Nat) (chunks : List Bytes)
    (hk : key.length = 32) (hsup : ∀ i, n ≤ i → calls i = [])
    (hcalls : ∀ i, ∀ c ∈ calls i, c.wellSplit key ∧ c.nonce.length = 12 ∧ c.payload.length ≤ 1048576)
    (hdone : (Senders.runAsCoded (Senders.init calls) sched).Done)
    (hchunks : chunks.flatten = (Senders.runAsCoded (Senders.init calls) sched).wire) :
    let r := feedChunks key Reader.init chunks
    r.ended = none ∧ (∀ i, ((calls i).map (·.payload)).Sublist r.delivered) ∧
    r.delivered.Perm (((List.range n).flatMap calls).map (·.payload)) := by
  have hflag : C14.sendHoldsSessionLock = true := by decide
  unfold Senders.runAsCoded at hdone hchunks
  rw [hflag] at hdone hchunks
  have := concurrent_locked key n calls sched chunks hk hsup hcalls hdone hchunks
  exact ⟨this.1, this.2.2.1, this.2.2.2⟩

/-- the hypotheses of `concurrent_locked` are satisfiable, and under the lock the alternating schedule
delivers both payloads -/
theorem concurrent_locked_witness :
    let s := Senders.run true (Senders.init cexCalls) [0, 1, 0, 1, 0, 1, 1, 1]
    (∀ i, i < 2 → s.todo i = [] ∧ s.cur i = []) ∧
    (∀ i, i < 2 → ∀ c ∈ cexCalls i, c.wellSplit cexKey ∧ c.nonce.length = 12 ∧ c.payload.length ≤ 1048576) ∧
    (feed cexKey Reader.init s.wire).delivered = [[1, 2, 3, 4], [5, 6, 7, 8]] ∧
    (feed cexKey Reader.init s.wire).ended = none := by
  -- the wire is the two whole frames, one after the other
  have hw := run_locked_alternating cexCalls rfl rfl rfl rfl
  obtain ⟨wA, nA, pA⟩ := cexCalls_ok 0 (by decide) _ List.mem_cons_self
  obtain ⟨wB, nB, pB⟩ := cexCalls_ok 1 (by decide) _ List.mem_cons_self
  rw [wA, wB] at hw
  have hf : feed cexKey Reader.init (Senders.run true (Senders.init cexCalls) [0, 1, 0, 1, 0, 1, 1, 1]).wire
      = ⟨none, .nonce, 12, [], [[1, 2, 3, 4], [5, 6, 7, 8]], 40, 4⟩ := by
    rw [hw, init_eq, feed_append, feed_frame rfl nA pA, feed_frame rfl nB pB]; rfl
  exact ⟨by decide +kernel, cexCalls_ok, by rw [hf], by rw [hf]⟩

/-- **C14.concurrent_unlocked_counterexample.** Without the lock the same two `send()` calls, scheduled
alternately (A starts, B starts, A writes 13 bytes, B writes 13 bytes, A finishes, B finishes), both
complete — and the receiver reads the length field `00 ff ff ff` out of A's first length byte and the
start of B's nonce: it announces 16 777 215 bytes, the session is ended, and neither payload is ever delivered. -/
theorem concurrent_unlocked_counterexample :
    let s := Senders.run false (Senders.init cexCalls) [0, 1, 0, 1, 0, 1]
    (∀ i, i < 2 → s.todo i = [] ∧ s.cur i = []) ∧
    (∀ i, i < 2 → ∀ c ∈ cexCalls i, c.wellSplit cexKey ∧ c.nonce.length = 12 ∧ c.payload.length ≤ 1048576) ∧
    s.wire.length = 40 ∧
    (feed cexKey Reader.init s.wire).delivered = [] ∧
    (feed cexKey Reader.init s.wire).ended = some (.oversized 16777215) :=
  ⟨by decide +kernel, cexCalls_ok, by decide +kernel⟩

/-- The reader thread, fed any byte string in any pieces, delivers exactly what the specification of
the receiving side prescribes and ends the session exactly when the specification says a header
announced more than 1 MiB. -/
theorem receiver_meets_spec (key : Bytes) (chunks : List Bytes) :
    let r := feedChunks key Reader.init chunks
    r.delivered = (Spec.Frames.view key chunks.flatten).delivered ∧
      r.ended.isSome = (Spec.Frames.view key chunks.flatten).endedOversized := by
  have hs := parse_spec key chunks.flatten
  rwa [← reader_is_receive_loop key chunks] at hs

/-- `send` writes the specified frame for exactly the payloads the specification allows to be sent
(`send_spec`, which needs neither length hypothesis). -/
theorem sender_meets_spec (key nonce payload : Bytes) (hk : key.length = 32) (hn : nonce.length = 12) :
    send key nonce payload
      = if Spec.Frames.mayBeSent payload then some (Spec.Frames.frame key nonce payload) else none :=
  send_spec key nonce payload

end EphVerif.C14
