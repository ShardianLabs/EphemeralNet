/-
C12 — a mutual handshake yields one shared session key.

All theorems hold for every hash `sha` and every MAC `hmac` (no property of SHA-256/HMAC is used
except, for `key_length`, that the MAC returns 32 bytes); scalars, publics and nonces range over
all `uint32` / `uint64` values.
-/
import EphVerif.Lemmas.C12
import EphVerif.Lemmas.C12Prime
import EphVerif.Lemmas.C12History
import EphVerif.Proofs.C19

namespace EphVerif.C12
open EphVerif.Kex EphVerif.C12L EphVerif.Gen

/-- the group of the code is the group of the property: `p = 2^31 − 1`, generator 5 -/
theorem group_constants : C12.kPrime = Spec.Kex.p ∧ C12.kGenerator = Spec.Kex.g ∧ Spec.Kex.p = 2 ^ 31 - 1 := by decide

/-- `p` is prime (of two factors one is below 46341, and `Lemmas/C12Prime.lean` finds no divisor
    there); not needed by the theorems below, recorded because the property calls it a
    Diffie-Hellman group -/
theorem p_prime (d : Nat) (h2 : 2 ≤ d) (hd : d ∣ Spec.Kex.p) : d = Spec.Kex.p := by
  obtain ⟨q, hq⟩ := hd
  rw [show Spec.Kex.p = 2147483647 from rfl] at hq ⊢
  rcases Nat.lt_or_ge d 46341 with hsmall | hbig
  · exact absurd (by rw [hq, Nat.mul_mod_right]) (mersenne31_no_small_divisor d h2 hsmall)
  · have hqs : q < 46341 := by
      apply Nat.lt_of_not_le
      intro hge
      have : 46341 * 46341 ≤ d * q := Nat.mul_le_mul hbig hge
      omega
    rcases Nat.lt_or_ge q 2 with hq1 | hq2
    · have : q = 1 := by rcases q with _ | _ | q <;> omega
      subst this; omega
    · exact absurd (by rw [hq, Nat.mul_mod_left]) (mersenne31_no_small_divisor q hq2 hqs)

/-- (T) `generate_identity_scalar` uses the configured seed whenever one is configured (`has_value()`), so the
    identity of a seeded node is a function of the seed — including seed 0 -/
theorem identity_seed_rule : C12.identitySeedUsesHasValue = 1 := by decide

theorem scalarOfSeed_range (seed : Nat) : 2 ≤ scalarOfSeed seed ∧ scalarOfSeed seed ≤ Spec.Kex.p - 2 :=
  group_constants.1 ▸ drawScalar_range mt32_next_lt (Mt32.seed seed)

/-- `KeyExchange::modexp b e m = b^e mod m` for every base, every `uint32` exponent and every
    `uint32` modulus ≥ 1; in particular no intermediate `uint64` product overflows -/
theorem modexp_spec (b e m : Nat) (hm1 : 1 ≤ m) (hm : m < 2 ^ 32) (he : e < 2 ^ 32) :
    modexp b e m = Spec.Kex.powMod b e m :=
  modexp_eq b e m hm1 hm he

theorem no_overflow (a b m : Nat) (ha : a < m) (hb : b < m) (hm : m ≤ 2 ^ 32) : a * b < 2 ^ 64 :=
  mul_lt_two64 ha hb hm

theorem computePublic_spec (a : Nat) (ha : a < 2 ^ 32) : computePublic a = Spec.Kex.pub a := by
  unfold computePublic Spec.Kex.pub
  rw [group_constants.1, group_constants.2.1]
  exact modexp_spec _ _ _ (by decide) (by decide) ha

theorem sharedScalar_spec (a B : Nat) (ha : a < 2 ^ 32) : sharedScalar a B = Spec.Kex.shared a B := by
  unfold sharedScalar Spec.Kex.shared
  rw [group_constants.1, modexp_spec _ _ _ (by decide) (by decide) ha]
  unfold Spec.Kex.powMod
  rw [← Nat.pow_mod]

theorem dh_value (a b : Nat) (ha : a < 2 ^ 32) (hb : b < 2 ^ 32) :
    sharedScalar a (computePublic b) = Spec.Kex.g ^ (a * b) % Spec.Kex.p := by
  rw [sharedScalar_spec _ _ ha, computePublic_spec _ hb]
  unfold Spec.Kex.shared Spec.Kex.pub Spec.Kex.powMod
  rw [← Nat.pow_mod, ← Nat.pow_mul, Nat.mul_comm]

theorem dh (a b : Nat) (ha : a < 2 ^ 32) (hb : b < 2 ^ 32) :
    sharedScalar a (computePublic b) = sharedScalar b (computePublic a) := by
  rw [dh_value a b ha hb, dh_value b a hb ha, Nat.mul_comm]

theorem validate (c : Nat) : validatePublic c = true ↔ Spec.Kex.acceptable c := by
  unfold validatePublic Spec.Kex.acceptable
  rw [group_constants.1]; simp

/-- the boundary values the property lists are refused / accepted as stated -/
theorem validate_boundaries :
    validatePublic 0 = false ∧ validatePublic 1 = false ∧ validatePublic 2 = true ∧
    validatePublic (Spec.Kex.p - 1) = true ∧ validatePublic Spec.Kex.p = false ∧
    validatePublic (Spec.Kex.p + 1) = false ∧ validatePublic (2 ^ 32 - 1) = false := by decide

theorem material_symm (x y : Nat) : handshakeMaterial x y = handshakeMaterial y x := by
  rw [material_eq, material_eq, Nat.min_comm, Nat.max_comm]

theorem depends (x y x' y' : Nat) (hx : x < 2 ^ 32) (hy : y < 2 ^ 32) (hx' : x' < 2 ^ 32) (hy' : y' < 2 ^ 32) :
    handshakeMaterial x y = handshakeMaterial x' y' ↔ (x = x' ∧ y = y') ∨ (x = y' ∧ y = x') := by
  constructor
  · intro h
    rw [material_eq, material_eq] at h
    have h1 := List.append_inj h ((C19L.beBytes_length 4 _).trans (C19L.beBytes_length 4 _).symm)
    have e1 : min x y = min x' y' := C19L.be4_inj (by omega) (by omega) h1.1
    have e2 : max x y = max x' y' := C19L.be4_inj (by omega) (by omega) h1.2
    -- minimum and maximum determine the unordered pair
    omega
  · rintro (⟨rfl, rfl⟩ | ⟨rfl, rfl⟩)
    · rfl
    · exact material_symm _ _

section key
variable (sha : List UInt8 → List UInt8) (hmac : List UInt8 → List UInt8 → List UInt8)

theorem key_scalars (a b : Nat) (ha : a < 2 ^ 32) (hb : b < 2 ^ 32) :
    sessionKey sha hmac a (computePublic a) (computePublic b) =
    sessionKey sha hmac b (computePublic b) (computePublic a) := by
  unfold sessionKey deriveSharedSecret
  rw [dh a b ha hb, material_symm]

theorem performHandshake_eq_some (A : Identity) (bits : Nat) (peer : List UInt8) (remotePublic nonce : Nat)
    (k : List UInt8) :
    performHandshake sha hmac A bits peer remotePublic nonce = some k ↔
      (validatePublic remotePublic = true ∧
        Pow.nodeVerifyHandshake sha bits ⟨peer, A.peerId, remotePublic⟩ nonce = true) ∧
      sessionKey sha hmac A.scalar A.pub remotePublic = k := by
  unfold performHandshake
  cases validatePublic remotePublic <;> cases Pow.nodeVerifyHandshake sha bits ⟨peer, A.peerId, remotePublic⟩ nonce <;>
    simp

/-- for any two identities (peer ids, scalars), any PoW setting on either side and any nonces:
    if each node accepts the other's handshake, both hold the same session key -/
theorem key (A B : Identity) (bitsA bitsB nonceA nonceB : Nat) (kA kB : List UInt8)
    (hA : A.scalar < 2 ^ 32) (hB : B.scalar < 2 ^ 32)
    (h1 : performHandshake sha hmac A bitsA B.peerId B.pub nonceB = some kA)
    (h2 : performHandshake sha hmac B bitsB A.peerId A.pub nonceA = some kB) : kA = kB := by
  obtain ⟨_, rfl⟩ := (performHandshake_eq_some sha hmac ..).mp h1
  obtain ⟨_, rfl⟩ := (performHandshake_eq_some sha hmac ..).mp h2
  exact key_scalars sha hmac A.scalar B.scalar hA hB

/-- the key is a 32-byte string whenever the MAC returns 32 bytes (HMAC-SHA256 does) -/
theorem key_length (hlen : ∀ k d, (hmac k d).length = 32) (A : Identity) (bits : Nat) (peer : List UInt8)
    (remotePublic nonce : Nat) (k : List UInt8)
    (h : performHandshake sha hmac A bits peer remotePublic nonce = some k) : k.length = 32 := by
  obtain ⟨_, rfl⟩ := (performHandshake_eq_some sha hmac ..).mp h
  exact hlen _ _

theorem accepted_iff (A : Identity) (bits : Nat) (peer : List UInt8) (remotePublic nonce : Nat) :
    (performHandshake sha hmac A bits peer remotePublic nonce).isSome = true ↔
    Spec.Kex.acceptable remotePublic ∧
      Spec.Pow.meets sha (Pow.encHandshake ⟨peer, A.peerId, remotePublic⟩ nonce) (Spec.Pow.capped bits) := by
  rw [← validate, ← C19.accept_node_handshake, Option.isSome_iff_exists]
  simp only [performHandshake_eq_some, exists_eq_right']

/-- the key really uses both publics: it is the MAC of the unordered pair under the DH secret -/
theorem key_formula (A : Identity) (remotePublic : Nat) :
    sessionKey sha hmac A.scalar A.pub remotePublic =
    hmac (sha (Pow.beBytes 4 (sharedScalar A.scalar remotePublic))) (handshakeMaterial A.pub remotePublic) := rfl

/-! `runCalls` is a node after an arbitrary history of inbound `perform_handshake` calls (any peers, public
values, nonces, times: first attempts, failures, exact repeats inside the cooldown, the same peer id
coming back with another key pair inside or outside the cooldown). -/

/-- **C12.key_replaced** — after every history, the session key a node holds for a peer id is the one
    derived from the public value of the **last accepted** handshake claiming that id (and there is
    none iff no handshake for that id was ever accepted): `register_session_with_material` replaces. -/
theorem key_replaced (self : Identity) (bits : Nat) (cooldown : Int) (calls : List Call) (peer : List UInt8) :
    (runCalls sha hmac (NodeState.fresh self bits cooldown) calls).1.sessionKeyOf peer =
      (lastAccepted none peer (runCalls sha hmac (NodeState.fresh self bits cooldown) calls).2).map
        (fun pub => sessionKey sha hmac self.scalar self.pub pub) :=
  runCalls_keys sha hmac calls _ _ (histInv_fresh sha hmac self bits cooldown) peer

/-- hence, for any two nodes after any two histories: if the last handshake each accepted from the
    other carried the other's **current** public value, both hold the same key — the one derived from
    the current two public keys — however many earlier sessions with other key pairs there were -/
theorem key_current (A B : Identity) (bitsA bitsB : Nat) (cdA cdB : Int) (callsA callsB : List Call)
    (hA : A.scalar < 2 ^ 32) (hB : B.scalar < 2 ^ 32)
    (h1 : lastAccepted none B.peerId (runCalls sha hmac (NodeState.fresh A bitsA cdA) callsA).2 = some B.pub)
    (h2 : lastAccepted none A.peerId (runCalls sha hmac (NodeState.fresh B bitsB cdB) callsB).2 = some A.pub) :
    (runCalls sha hmac (NodeState.fresh A bitsA cdA) callsA).1.sessionKeyOf B.peerId =
      some (sessionKey sha hmac A.scalar A.pub B.pub) ∧
    (runCalls sha hmac (NodeState.fresh B bitsB cdB) callsB).1.sessionKeyOf A.peerId =
      (runCalls sha hmac (NodeState.fresh A bitsA cdA) callsA).1.sessionKeyOf B.peerId := by
  rw [key_replaced, key_replaced, h1, h2]
  exact ⟨rfl, congrArg some (key_scalars sha hmac A.scalar B.scalar hA hB).symm⟩

theorem performHandshakeSt_fresh (self : Identity) (bits : Nat) (cooldown now : Int) (peer : List UInt8) (pub nonce : Nat) :
    let r := performHandshakeSt sha hmac (NodeState.fresh self bits cooldown) now peer pub nonce
    (if r.2 then r.1.sessionKeyOf peer else none) = performHandshake sha hmac self bits peer pub nonce :=
  performHandshakeSt_no_record sha hmac _ now peer pub nonce rfl

-- non-vacuity: a peer id that comes back with another key pair is re-keyed (toy hash/MAC that keep their input)
example :
    let s := (runCalls (fun x => x) (fun k d => k ++ d) (NodeState.fresh ⟨[1], 3⟩ 0 5)
      [⟨0, [2], Identity.pub ⟨[2], 4⟩, 0⟩, ⟨1, [2], Identity.pub ⟨[2], 7⟩, 0⟩]).1
    s.sessionKeyOf [2] = some (sessionKey (fun x => x) (fun k d => k ++ d) 3 (Identity.pub ⟨[1], 3⟩) (Identity.pub ⟨[2], 7⟩)) ∧
    s.sessionKeyOf [2] ≠ some (sessionKey (fun x => x) (fun k d => k ++ d) 3 (Identity.pub ⟨[1], 3⟩) (Identity.pub ⟨[2], 4⟩)) := by
  decide

end key

-- non-vacuity: a mutual handshake between two concrete identities is accepted on both sides
-- (PoW off, constant hash/MAC stand-ins suffice to exercise the hypotheses of `key`)
example : ∃ kA kB,
    performHandshake (fun _ => []) (fun _ _ => []) ⟨[1], 3⟩ 0 [2] (Identity.pub ⟨[2], 4⟩) 0 = some kA ∧
    performHandshake (fun _ => []) (fun _ _ => []) ⟨[2], 4⟩ 0 [1] (Identity.pub ⟨[1], 3⟩) 0 = some kB := by
  refine ⟨[], [], ?_, ?_⟩ <;> decide

end EphVerif.C12
