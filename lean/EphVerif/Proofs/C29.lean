/-
C29 — control responses reach the client intact, so list shows every chunk.
-/
import EphVerif.Lemmas.C29List
import EphVerif.Spec.Control

namespace EphVerif.C29
open EphVerif.Control

/-- (T) the escape table of `encode_field_value` is the one the model uses -/
theorem encode_table_eq : Gen.C29.encodeTable = [(92, [92, 92]), (13, [92, 114]), (10, [10, 9])] := by decide

/-- (T) both sides of the repair are present and the client's line limit is 16 KiB -/
theorem framing_present : Gen.C29.serverEncodesValues = 1 ∧ Gen.C29.clientDecodesValues = 1 ∧
    Gen.C29.kClientMaxLineLength = 16384 := by decide

theorem encodeValue_follows_table (v : Bytes) :
    encodeValue v = v.flatMap fun c =>
      match Gen.C29.encodeTable.find? (fun p => p.1 == c.toNat) with
      | some p => p.2.map UInt8.ofNat
      | none => [c] := by
  unfold encodeValue
  refine flatMap_congr' _ _ v fun c _ => ?_
  by_cases h : c = 92 ∨ c = 13 ∨ c = 10
  · rcases h with rfl | rfl | rfl <;> decide
  · -- the table has an entry for no other byte
    have hkeys : ∀ p ∈ Gen.C29.encodeTable, p.1 = 92 ∨ p.1 = 13 ∨ p.1 = 10 := by decide
    have hnone : Gen.C29.encodeTable.find? (fun p => p.1 == c.toNat) = none :=
      List.find?_eq_none.mpr fun p hp hpc => h (by
        have hc : c = UInt8.ofNat p.1 := by rw [eq_of_beq hpc, UInt8.ofNat_toNat]
        rcases hkeys p hp with h' | h' | h' <;> rw [hc, h'] <;> simp)
    rw [not_or, not_or] at h
    rw [hnone, if_neg h.1, if_neg h.2.1, if_neg h.2.2]

/-- the property's key class: non-empty, over `A-Z`, `_`, `-` -/
def keyClass (k : Bytes) : Bool := !k.isEmpty && k.all fun b => (65 ≤ b.toNat && b.toNat ≤ 90) || b == 95 || b == 45

theorem keyOk_of_class {k : Bytes} (hc : keyClass k = true) (hs : k ≠ ascii "STATUS") (hp : k ≠ ascii "PAYLOAD-LENGTH") :
    KeyOk k := by
  unfold keyClass at hc
  simp only [Bool.and_eq_true, Bool.not_eq_eq_eq_not, Bool.not_true, List.all_eq_true, Bool.or_eq_true, decide_eq_true_eq,
    beq_iff_eq] at hc
  have hbyte : ∀ c ∈ k, (c ≠ 58 ∧ c ≠ 10 ∧ c ≠ 13) ∧ c ≠ 9 ∧ upperByte c = c := by
    intro c hcm
    rcases hc.2 c hcm with (⟨h1, h2⟩ | rfl) | rfl
    · refine ⟨⟨?_, ?_, ?_⟩, ?_, if_neg (by omega)⟩ <;> (rintro rfl; simp at h1)
    · decide
    · decide
  refine ⟨fun c h => (hbyte c h).1, ?_, ?_, hs, hp⟩
  · cases hk : k with
    | nil => simp
    | cons a t =>
      have := (hbyte a (by rw [hk]; simp)).2.1
      simpa using this
  · exact (List.map_congr_left fun c h => (hbyte c h).2.2).trans (List.map_id' k)

theorem foldl_setField_fresh : ∀ (emitted fs : Fields), (emitted.map (·.1)).Nodup →
    (∀ e ∈ emitted, ∀ p ∈ fs, p.1 ≠ e.1) →
    emitted.foldl (fun fs e => setField fs e.1 e.2) fs = fs ++ emitted
  | [], fs, _, _ => by simp
  | e :: emitted, fs, hn, hd => by
    rw [List.map_cons, List.nodup_cons] at hn
    rw [List.foldl_cons, setField_fresh (hd e List.mem_cons_self),
      foldl_setField_fresh emitted (fs ++ [(e.1, e.2)]) hn.2, List.append_assoc, List.singleton_append]
    intro e' he' p hp
    rcases List.mem_append.mp hp with hp | hp
    · exact hd e' (List.mem_cons_of_mem _ he') p hp
    · rw [List.mem_singleton.mp hp]
      exact fun heq => hn.1 (heq ▸ List.mem_map_of_mem he')

theorem status_line (success : Bool) (rest : Bytes) :
    lineLoop clientMaxLine clientLine (ascii (if success then "STATUS:OK\n" else "STATUS:ERROR\n") ++ rest) [] 0 {} =
      lineLoop clientMaxLine clientLine rest [] 0 { statusSeen := true, success := success } := by
  cases success
  · have h : ascii "STATUS:ERROR\n" = ascii "STATUS:ERROR" ++ [10] := by decide
    rw [if_neg Bool.false_ne_true, h, List.append_assoc, List.singleton_append,
      lineLoop_clean_line clientMaxLine clientLine _ rest {} (by decide) (by decide) (by decide),
      show clientLine {} (ascii "STATUS:ERROR") = .next { statusSeen := true, success := false } by decide]
  · have h : ascii "STATUS:OK\n" = ascii "STATUS:OK" ++ [10] := by decide
    rw [if_pos rfl, h, List.append_assoc, List.singleton_append,
      lineLoop_clean_line clientMaxLine clientLine _ rest {} (by decide) (by decide) (by decide),
      show clientLine {} (ascii "STATUS:OK") = .next { statusSeen := true, success := true } by decide]

/-- **C29.roundtrip**: for every response the daemon can hand to `send_response` (keys distinct, over
    `[A-Z_-]+`-like strings other than STATUS / PAYLOAD-LENGTH; values arbitrary bytes; no physical line
    over the client's limit; payload within the client's limit), every iteration order of the field map:
    `parse_response (send_response r)` = the same success flag, exactly the emitted fields (the
    daemon's fields plus PAYLOAD-LENGTH when there is a payload), the same payload. -/
theorem roundtrip (limit : Nat) (r : Response) (emitted : Fields) (he : Emittable limit r) (hperm : emitted.Perm r.wireFields) :
    parseResponse limit (serialise r.success emitted r.payload) =
      { success := r.success, fields := emitted, hasPayload := r.hasPayload, payload := r.payload } := by
  -- what holds of the field map holds of every order it is iterated in
  obtain ⟨hentry, hnodup, hany⟩ := he.wireFields
  rw [← (hperm.map _).nodup_iff] at hnodup
  rw [← hperm.any_eq] at hany
  unfold parseResponse serialise
  rw [status_line]
  obtain ⟨c, hloop⟩ := fields_loop clientMaxLine (by decide) r.payload.length he.payloadU64 emitted r.payload
    { statusSeen := true, success := r.success } fun e h => hentry e (hperm.mem_iff.mp h)
  rw [hloop]
  simp only [foldl_setField_fresh emitted [] hnodup (fun _ _ _ hp => nomatch hp), List.nil_append, hany, ↓reduceIte]
  cases hh : r.hasPayload with
  | true =>
    have h1 : ¬ r.payload.length > limit := Nat.not_lt.mpr he.payloadLimit
    simp only [↓reduceIte, h1, Nat.lt_irrefl, and_false, List.take_length]
  | false =>
    simp only [Bool.false_eq_true, ↓reduceIte, he.noPayload hh]

/-- corollary in the specification's terms: the client's view is the daemon's, as a map -/
theorem roundtrip_view (limit : Nat) (r : Response) (emitted : Fields) (he : Emittable limit r) (hperm : emitted.Perm r.wireFields) :
    let c := parseResponse limit (serialise r.success emitted r.payload)
    c.success = r.success ∧ c.fields.Perm r.wireFields ∧ c.hasPayload = r.hasPayload ∧ c.payload = r.payload := by
  simp only [roundtrip limit r emitted he hperm]
  exact ⟨trivial, hperm, trivial, trivial⟩

theorem getField_of_mem {fs : Fields} {k v : Bytes} (hn : (fs.map (·.1)).Nodup) (hm : (k, v) ∈ fs) : getField fs k = some v := by
  induction fs with
  | nil => cases hm
  | cons p fs ih =>
    rw [List.map_cons, List.nodup_cons] at hn
    rw [getField, List.find?_cons]
    rcases List.mem_cons.mp hm with rfl | h
    · simp
    · have hne : p.1 ≠ k := fun hp => hn.1 (hp ▸ List.mem_map_of_mem (f := (·.1)) h)
      rw [beq_false_of_ne hne]
      exact ih hn.2 h

theorem listEmittable (limit : Nat) (snapshot : List ChunkEntry) (hv : ∀ e ∈ snapshot, EntryValid e)
    (hcount : snapshot.length < 18446744073709551616) : Emittable limit (handleList snapshot) := by
  have hkeys : ((handleList snapshot).fields.map (·.1)).Nodup := by
    show ([ascii "CODE", ascii "COUNT", ascii "ENTRIES"] : List Bytes).Nodup
    decide
  refine ⟨?_, ?_, hkeys, Nat.zero_le _, Nat.zero_lt_succ _, fun _ => rfl⟩
  · intro e he
    simp only [handleList, List.mem_cons, List.mem_nil_iff, or_false] at he
    rcases he with rfl | rfl | rfl <;> exact keyOk_of_class (k := ascii _) (by decide) (by decide) (by decide)
  · intro e he
    simp only [handleList, List.mem_cons, List.mem_nil_iff, or_false] at he
    rcases he with rfl | rfl | rfl
    · exact LinesOk.of_plain (k := ascii "CODE") (v := ascii "OK_LIST") (by decide) (by decide) (by decide)
    · have h5 : NoLF (ascii "COUNT") ∧ (ascii "COUNT").length + 1 + 20 ≤ clientMaxLine := by decide
      have hd := toDec_clean snapshot.length
      exact LinesOk.of_plain (k := ascii "COUNT") (v := toDec snapshot.length) h5.1 (fun c hc => ⟨(hd c hc).1, (hd c hc).2.1, (hd c hc).2.2.1⟩)
        (by have := toDec_len20 hcount; omega)
    · exact linesOk_iff.mpr fun l hl =>
        Nat.le_trans (entries_lines_short snapshot (ascii "ENTRIES" ++ [58]) hv (by decide) (by decide) l hl) (by decide)

/-- **C29.list**: whatever the number of chunks and the order in which the three fields are emitted,
    `eph list` prints the count and one line per chunk of the snapshot, in snapshot order -/
theorem list (limit : Nat) (snapshot : List ChunkEntry) (emitted : Fields)
    (hv : ∀ e ∈ snapshot, EntryValid e) (hcount : snapshot.length < 18446744073709551616)
    (hperm : emitted.Perm (handleList snapshot).wireFields) :
    printList (parseResponse limit (serialise true emitted [])) =
      (ascii "Local chunks: " ++ toDec snapshot.length) :: snapshot.map cliLine := by
  have he := listEmittable limit snapshot hv hcount
  rw [show parseResponse limit (serialise true emitted []) = _ from roundtrip limit (handleList snapshot) emitted he hperm]
  have hnodup : (emitted.map (·.1)).Nodup := (hperm.map _).nodup_iff.mpr he.wireFields.2.1
  have hmem : (ascii "ENTRIES", entriesValue snapshot) ∈ emitted := by
    rw [hperm.mem_iff]
    simp [Response.wireFields, handleList, entriesValue]
  unfold printList
  simp only [getField_of_mem hnodup hmem, cli_entries snapshot hv, List.length_map]

/-- the listing in the exact form of the model's `expectedListing` -/
theorem list_expected (limit : Nat) (snapshot : List ChunkEntry) (emitted : Fields)
    (hv : ∀ e ∈ snapshot, EntryValid e) (hcount : snapshot.length < 18446744073709551616)
    (hperm : emitted.Perm (handleList snapshot).wireFields) :
    printList (parseResponse limit (serialise true emitted [])) = expectedListing snapshot ∧
    (printList (parseResponse limit (serialise true emitted []))).length = snapshot.length + 1 := by
  rw [list limit snapshot emitted hv hcount hperm]
  exact ⟨rfl, by simp⟩

/-- a response with a two-line value, a value made of CR / backslash / TAB / colon bytes, an empty value and a payload -/
def sample : Response :=
  { success := true,
    fields := [(ascii "ENTRIES", ascii "aa,1,plain,5\nbb,2,plain,6\n"), (ascii "WEIRD-KEY_", [13, 92, 92, 114, 9, 58, 10, 10, 92]),
               (ascii "EMPTY", [])],
    hasPayload := true, payload := ascii "payload bytes" }

example : Emittable 100 sample := by
  refine ⟨?_, ?_, by decide, by decide, by decide, by decide⟩
  · intro e he
    simp only [sample, List.mem_cons, List.mem_nil_iff, or_false] at he
    rcases he with rfl | rfl | rfl <;> exact keyOk_of_class (by decide) (by decide) (by decide)
  · intro e he
    simp only [sample, List.mem_cons, List.mem_nil_iff, or_false] at he
    rcases he with rfl | rfl | rfl <;> (intro l hl; revert l; decide)

/-- sent raw, a value containing a blank line does not survive: the header would end there -/
example : (parseResponse 100 (ascii "STATUS:OK\nX:a\n\nb\n\n")).fields ≠ [(ascii "X", ascii "a\n\nb")] := by
  decide +kernel

/-- two valid chunk entries (so `list` is about a listing with more than one chunk) -/
example : ∃ a b : ChunkEntry, a ≠ b ∧ EntryValid a ∧ EntryValid b :=
  ⟨{ idHex := List.replicate 64 97, size := 7, encrypted := true, ttl := 3600 },
   { idHex := List.replicate 64 98, size := 8, encrypted := false, ttl := 0 },
   by decide,
   ⟨by decide, by decide, by decide, by decide⟩, ⟨by decide, by decide, by decide, by decide⟩⟩

end EphVerif.C29
