import EphVerif.Lemmas.C30

/-!
# C30 — `eph fetch` only writes bytes that match the manifest

Property: *`eph fetch` writes an output file only if its bytes hash to the manifest's content hash (that is,
equal the stored payload), whichever path delivered them — transport hint, relay, control hint, control://
fallback or the local daemon; a peer or endpoint that returns other bytes makes that path fail instead of
producing a file.*

`CliFetch.fetch` is the model of the `fetch` command from the decoded manifest on (after the repair that makes
`finalize_fetch` compare the hash on every path).  All theorems hold for every hash function `sha`, every
manifest hash `h`, every discovery mode, every list of paths with arbitrary priorities and every response of
every endpoint; payload sizes and the number of paths are unbounded.
-/
namespace EphVerif.C30
open EphVerif.CliFetch EphVerif.C30L

variable (sha : Bytes → Bytes)

/-- **C30.only_matching.**  Whatever the endpoints answer on whichever path: if a file is written, its bytes hash
to the manifest's content hash. -/
theorem only_matching (mode : Mode) (h : Bytes) (paths : List Path) (li : Nat) (loc : Resp) (b : Bytes)
    (hw : (fetch sha mode h paths li loc).file = some b) : sha b = h :=
  run_wrote sha ((fetch_wrote_iff sha).mp hw)

/-- **C30.mismatch_fails.**  An endpoint that returns bytes not hashing to the manifest's content hash is treated
exactly like an endpoint that fails: replacing every such response (on the direct paths and at the local daemon)
by an outright failure changes neither the file written, nor the exit code, nor the sequence of endpoints
contacted — in particular the path fails and the next one is tried. -/
theorem mismatch_fails (mode : Mode) (h : Bytes) (paths : List Path) (li : Nat) (loc : Resp) :
    fetch sha mode h (paths.map (neutralPath sha h)) li (neutral sha h loc) = fetch sha mode h paths li loc := by
  unfold fetch
  rw [directOrder_map (neutralPath_shape sha h), run_neutral, deliver_neutral, contacted_neutral]

/-- **C30.first_delivering.**  The direct walk writes `b` exactly when, in attempt order, every earlier path failed
(was down, failed, or returned non-matching bytes) and the next path delivered `b` with the matching hash. -/
theorem first_delivering (mode : Mode) (h : Bytes) (paths : List Path) (b : Bytes) :
    (run sha h (directOrder mode paths)).1 = .wrote b ↔
      ∃ pre p post, directOrder mode paths = pre ++ p :: post ∧
        (∀ q ∈ pre, deliver sha h (isTransportKind q.kind) q.resp = .next) ∧ p.resp = .payload b ∧ sha b = h :=
  run_wrote_iff sha h _ b

/-- **C30.honest_local.**  When every direct path fails (for whatever reason, including dishonest payloads) and no
direct-only mode was requested, an honest local daemon's payload is written and the command succeeds. -/
theorem honest_local (mode : Mode) (h : Bytes) (paths : List Path) (li : Nat) (b : Bytes)
    (hdirect : (run sha h (directOrder mode paths)).1 = .next) (hmode : mode.directOnly = false) (hb : sha b = h) :
    (fetch sha mode h paths li (.payload b)).file = some b ∧ (fetch sha mode h paths li (.payload b)).exit = 0 := by
  have hrun : (run sha h (walk mode paths li (.payload b))).1 = .wrote b := by
    rw [walk, hmode, if_neg Bool.false_ne_true, run_append, if_pos hdirect, run_single]
    exact if_pos hb
  rw [fetch_eq_walk, report_wrote hrun]
  exact ⟨rfl, rfl⟩

/-- **C30.next_tried.**  In automatic mode the command ends in failure only after every endpoint that is up — every
hint of the manifest and the local daemon — has been contacted: no path is skipped because an earlier one
returned wrong bytes. -/
theorem next_tried (h : Bytes) (paths : List Path) (li : Nat) (loc : Resp)
    (hfail : (fetch sha .auto h paths li loc).exit = 1) :
    (∀ p ∈ paths, p.resp ≠ .down → p.idx ∈ (fetch sha .auto h paths li loc).tried) ∧
      (loc ≠ .down → li ∈ (fetch sha .auto h paths li loc).tried) := by
  have htried := fetch_fail_tried sha .auto h paths li loc hfail
  exact ⟨fun p hp => htried p (List.mem_append_left _ (mem_directOrder_auto hp)),
    htried (localPath li loc) (List.mem_append_right _ (List.mem_singleton.mpr rfl))⟩

/-- a written file implies exit code 0 -/
theorem wrote_exit_zero (mode : Mode) (h : Bytes) (paths : List Path) (li : Nat) (loc : Resp) (b : Bytes)
    (hw : (fetch sha mode h paths li loc).file = some b) : (fetch sha mode h paths li loc).exit = 0 := by
  rw [fetch_eq_walk, report_wrote ((fetch_wrote_iff sha).mp hw)]

/-! ## non-vacuity (a toy hash: the identity; the statements above hold for every `sha`) -/

/-- a control hint returning substituted bytes is passed over, the fallback's matching bytes are written, and both
were contacted in priority order -/
example :
    fetch id .auto [1, 2, 3]
      [⟨0, .fallback, 0, .payload [1, 2, 3]⟩, ⟨1, .control, 9, .payload [1, 2, 4]⟩] 2 .down
      = ⟨some [1, 2, 3], 0, [1, 0]⟩ := by decide
/-- all five kinds dishonest (truncated, substituted, extended, empty, other): nothing is written, exit code 1,
every endpoint was tried, transport before control before fallback before the local daemon -/
example :
    fetch id .auto [1, 2, 3]
      [⟨0, .control, 1, .payload [1, 2]⟩, ⟨1, .fallback, 0, .payload [1, 2, 3, 0]⟩, ⟨2, .relay, 7, .payload []⟩,
       ⟨3, .transport, 7, .payload [9, 9, 9]⟩] 4 (.payload [3, 2, 1])
      = ⟨none, 1, [2, 3, 0, 1, 4]⟩ := by decide
/-- the hypotheses of `honest_local` are satisfiable -/
example : (run id [7] (directOrder .auto [⟨0, .control, 0, .payload [8]⟩])).1 = .next ∧ Mode.auto.directOnly = false := by
  decide

/-- **C30.only_matching (all manifests).**  Whatever state the manifest is in — decodable or not, expired, without a
recoverable key, without publisher identity — and whatever every endpoint answers: a file is written only when the manifest
could be decoded *and* the bytes hash to its content hash. -/
theorem only_matching_all (m : MState) (mode : Mode) (h : Bytes) (paths : List Path) (li : Nat) (loc : Resp) (b : Bytes)
    (hw : (fetchM sha m mode h paths li loc).file = some b) : m.decodable = true ∧ sha b = h := by
  rw [fetchM] at hw
  split at hw
  · next hd => exact ⟨hd, only_matching sha mode h _ li loc b hw⟩
  · rw [fetchUndecodable_file] at hw
    cases hw

/-- **C30.undecodable_never_writes.**  Without a decodable manifest there is no content hash: nothing is written, whatever
the local endpoint answers. -/
theorem undecodable_never_writes (m : MState) (hm : m.decodable = false) (mode : Mode) (h : Bytes) (paths : List Path)
    (li : Nat) (loc : Resp) : (fetchM sha m mode h paths li loc).file = none := by
  rw [fetchM, hm, if_neg Bool.false_ne_true]
  exact fetchUndecodable_file mode li loc

/-- **C30.mismatch_fails (all manifests).**  In every manifest state a non-matching payload is indistinguishable from a
failure (file, exit code, endpoints contacted). -/
theorem mismatch_fails_all (m : MState) (mode : Mode) (h : Bytes) (paths : List Path) (li : Nat) (loc : Resp)
    (hdec : m.decodable = true) :
    fetchM sha m mode h (paths.map (neutralPath sha h)) li (neutral sha h loc) = fetchM sha m mode h paths li loc := by
  have hcomm : (paths.map (neutralPath sha h)).map (view m) = (paths.map (view m)).map (neutralPath sha h) := by
    rw [List.map_map, List.map_map]
    exact List.map_congr_left fun p _ => view_neutral sha m h p
  rw [fetchM, fetchM, if_pos hdec, if_pos hdec, hcomm]
  exact mismatch_fails sha mode h _ li loc

/-- An expired manifest or one without publisher identity never dials a transport or relay hint; a manifest whose key
shares cannot be recombined never yields a file over those paths. -/
theorem transport_gated (m : MState) (k : Kind) (r : Resp) (hk : isTransportKind k = true) :
    ((m.expired = true ∨ m.publisher = false) → effResp m k r = .down) ∧
    (m.keyOk = false → ∀ b, effResp m k r ≠ .payload b) := by
  unfold effResp
  rw [if_pos hk]
  constructor
  · intro h
    rw [if_neg]
    rcases h with h | h <;> simp [h]
  · intro hko b
    split
    · cases r <;> simp [hko]
    · nofun

/-- expired manifest, honest control endpoint: the (verified) bytes are still written; the transport hint with the same
bytes is not even contacted -/
example :
    fetchM id ⟨true, true, true, true⟩ .auto [1, 2, 3]
      [⟨0, .transport, 0, .payload [1, 2, 3]⟩, ⟨1, .control, 5, .payload [1, 2, 3]⟩] 2 .down
      = ⟨some [1, 2, 3], 0, [1]⟩ := by decide
/-- undecodable manifest: the local endpoint's bytes are refused -/
example : fetchM id ⟨false, false, true, true⟩ .auto [1, 2, 3] [] 0 (.payload [1, 2, 3]) = ⟨none, 1, [0]⟩ := by decide

end EphVerif.C30
