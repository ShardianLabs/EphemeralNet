/-
C08, group (C): `Spec.sha256` reproduces the published example values: the FIPS 180-4 / NIST example
messages "abc", "", the 448-bit and the 896-bit message (RFC 4231 test cases: Proofs/C08VectorsHmac*.lean).
Checked by evaluation inside the Lean kernel (`decide +kernel`; no compiler is in the trusted base) of
`C08Eval.sha256`, equal to `Spec.sha256` for every input (Lemmas/C08Eval.lean).
-/
import EphVerif.Lemmas.C08Eval

namespace EphVerif.C08

/-- FIPS 180-4 example: "abc" (24 bits, one block): `ba7816bf8f01cfea414140de5dae2223b00361a396177a9cb410ff61f20015ad` -/
theorem vector_sha_abc :
    Spec.sha256
      [0x61, 0x62, 0x63] =
      [0xba, 0x78, 0x16, 0xbf, 0x8f, 0x01, 0xcf, 0xea, 0x41, 0x41, 0x40, 0xde, 0x5d, 0xae, 0x22, 0x23, 0xb0,
      0x03, 0x61, 0xa3, 0x96, 0x17, 0x7a, 0x9c, 0xb4, 0x10, 0xff, 0x61, 0xf2, 0x00, 0x15, 0xad] := by
  rw [C08Eval.sha256_eq]
  decide +kernel

/-- the empty message: `e3b0c44298fc1c149afbf4c8996fb92427ae41e4649b934ca495991b7852b855` -/
theorem vector_sha_empty :
    Spec.sha256
      [] =
      [0xe3, 0xb0, 0xc4, 0x42, 0x98, 0xfc, 0x1c, 0x14, 0x9a, 0xfb, 0xf4, 0xc8, 0x99, 0x6f, 0xb9, 0x24, 0x27,
      0xae, 0x41, 0xe4, 0x64, 0x9b, 0x93, 0x4c, 0xa4, 0x95, 0x99, 0x1b, 0x78, 0x52, 0xb8, 0x55] := by
  rw [C08Eval.sha256_eq]
  decide +kernel

/-- FIPS 180-4 example: the 448-bit message (two blocks): `248d6a61d20638b8e5c026930c3e6039a33ce45964ff2167f6ecedd419db06c1` -/
theorem vector_sha_448 :
    Spec.sha256
      [0x61, 0x62, 0x63, 0x64, 0x62, 0x63, 0x64, 0x65, 0x63, 0x64, 0x65, 0x66, 0x64, 0x65, 0x66, 0x67, 0x65,
      0x66, 0x67, 0x68, 0x66, 0x67, 0x68, 0x69, 0x67, 0x68, 0x69, 0x6a, 0x68, 0x69, 0x6a, 0x6b, 0x69, 0x6a,
      0x6b, 0x6c, 0x6a, 0x6b, 0x6c, 0x6d, 0x6b, 0x6c, 0x6d, 0x6e, 0x6c, 0x6d, 0x6e, 0x6f, 0x6d, 0x6e, 0x6f,
      0x70, 0x6e, 0x6f, 0x70, 0x71] =
      [0x24, 0x8d, 0x6a, 0x61, 0xd2, 0x06, 0x38, 0xb8, 0xe5, 0xc0, 0x26, 0x93, 0x0c, 0x3e, 0x60, 0x39, 0xa3,
      0x3c, 0xe4, 0x59, 0x64, 0xff, 0x21, 0x67, 0xf6, 0xec, 0xed, 0xd4, 0x19, 0xdb, 0x06, 0xc1] := by
  rw [C08Eval.sha256_eq]
  decide +kernel

/-- the 896-bit message (two blocks): `cf5b16a778af8380036ce59e7b0492370b249b11e8f07a51afac45037afee9d1` -/
theorem vector_sha_896 :
    Spec.sha256
      [0x61, 0x62, 0x63, 0x64, 0x65, 0x66, 0x67, 0x68, 0x62, 0x63, 0x64, 0x65, 0x66, 0x67, 0x68, 0x69, 0x63,
      0x64, 0x65, 0x66, 0x67, 0x68, 0x69, 0x6a, 0x64, 0x65, 0x66, 0x67, 0x68, 0x69, 0x6a, 0x6b, 0x65, 0x66,
      0x67, 0x68, 0x69, 0x6a, 0x6b, 0x6c, 0x66, 0x67, 0x68, 0x69, 0x6a, 0x6b, 0x6c, 0x6d, 0x67, 0x68, 0x69,
      0x6a, 0x6b, 0x6c, 0x6d, 0x6e, 0x68, 0x69, 0x6a, 0x6b, 0x6c, 0x6d, 0x6e, 0x6f, 0x69, 0x6a, 0x6b, 0x6c,
      0x6d, 0x6e, 0x6f, 0x70, 0x6a, 0x6b, 0x6c, 0x6d, 0x6e, 0x6f, 0x70, 0x71, 0x6b, 0x6c, 0x6d, 0x6e, 0x6f,
      0x70, 0x71, 0x72, 0x6c, 0x6d, 0x6e, 0x6f, 0x70, 0x71, 0x72, 0x73, 0x6d, 0x6e, 0x6f, 0x70, 0x71, 0x72,
      0x73, 0x74, 0x6e, 0x6f, 0x70, 0x71, 0x72, 0x73, 0x74, 0x75] =
      [0xcf, 0x5b, 0x16, 0xa7, 0x78, 0xaf, 0x83, 0x80, 0x03, 0x6c, 0xe5, 0x9e, 0x7b, 0x04, 0x92, 0x37, 0x0b,
      0x24, 0x9b, 0x11, 0xe8, 0xf0, 0x7a, 0x51, 0xaf, 0xac, 0x45, 0x03, 0x7a, 0xfe, 0xe9, 0xd1] := by
  rw [C08Eval.sha256_eq]
  decide +kernel

end EphVerif.C08
