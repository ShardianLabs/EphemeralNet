/-
SystemReplication — a chunk published on one node is replicated to another: composition of

  C11  (Proofs/C11)            store_chunk / receive_chunk / fetch_chunk: `roundtrip`, `held_bytes`, `tamper`,
                               `held_chunk_not_poisoned`, `replica_then_forged`
  C21  (Proofs/C21)            `admission`: an ANNOUNCE changes node state only if admissible
  C24  (Proofs/C24)            pending-fetch bookkeeping: `drop_on_arrival`
  C23  (Proofs/C23)            serving side: `nack` (an unservable request is answered NACK, state unchanged)
  C03  (Proofs/C03)            `derived`: everything learned from a manifest expires by the manifest's expiry
  C01  (Proofs/C01)            `dead_unreachable`: a record whose deadline has been reached is served by nothing
  SystemMessaging              `signed_roundtrip_hmac`: a signed message arrives at the other session end exactly

through the glue model `Model/ReplicationGlue.lean` (Node::dispatch_upload's CHUNK content, Node::handle_chunk, receive_chunk's
`clear_pending_fetch` against C24's map, events at an importing node).  Nothing of the components is re-proved.
-/
import EphVerif.Lemmas.SystemReplication

namespace EphVerif.SystemReplication
open EphVerif EphVerif.StorePipeline EphVerif.ReplicationGlue EphVerif.C11L EphVerif.SysRepL

/-- **replica_is_original.**  Publisher A stores payload `P` (any configuration, id, TTL, non-zero key, nonce, coefficient
    draws).  For every importer B that does not hold the chunk, every ANNOUNCE of A's manifest that B's admission chain
    accepts (C21, on any throttle / reputation state, `Describes` tying C21's facts to this manifest), whatever C24's
    scheduler does with the assigned fetch, every instant `tServe` at which A's own TTL window still admits its manifest and
    every instant `tArr` at which B's window admits it:
    * the ANNOUNCE was admissible (C21.admission) and B caches exactly A's manifest;
    * A can serve the request (`servable`, so C23's NACK branch is not taken) and the CHUNK message it builds carries the id
      and A's held bytes;
    * that message, signed under any session key, is accepted at the other end as exactly that message (SystemMessaging),
      provided it fits the wire (`Faithful`: 32-byte id, < 2³² bytes, TTL in range, version 1…4);
    * B's `handle_chunk` accepts it (ACK `true`), B's own lookup returns exactly `P` from then on, and no pending fetch for
      the chunk remains (C24.drop_on_arrival). -/
theorem replica_is_original (cfgA : Config) (hcfgA : C11.ShardCfg cfgA) (stA : NodeState) (tStore : Int) (id P : Bytes) (ttl : Int)
    (key nonce rk : Bytes) (rd : Nat → Nat) (hkey : C11.ChunkKey key) :
    ∃ r held, storeChunk cfgA stA tStore id P ttl key nonce rk rd = .value r ∧ exportRecord r.node id = some held ∧
      ∀ (cfgB : Config) (b : Importer), find b.node.chunks id = none →
      ∀ (acfg : Announce.Cfg) (as : Announce.State) (a : Announce.Ann) (tAnn : Int),
        Describes a (wire r.manifest) cfgB tAnn → (Announce.announce acfg as a).2 = .accepted →
      ∀ (fcfg : Fetches.Cfg) (fenv : Fetches.Env) (sNow : Int) (pA : String) (tServe tArr ttlB : Int) (rk2 : Bytes),
        (manifestTtl r.manifest.expiresNs tServe cfgA.minTtl cfgA.maxTtl).isSome = true →
        manifestTtl (wire r.manifest).expiresNs tArr cfgB.minTtl cfgB.maxTtl = some ttlB →
        let b1 : Importer :=
          { node := announceAdmitted cfgB b.node tAnn (wire r.manifest)
            fetches := (Fetches.announce fcfg fenv sNow tAnn b.fetches (chunkName id) pA (wire r.manifest).expiresNs).1 }
        C21.Admissible acfg a ∧
        find b1.node.manifests id = some (wire r.manifest) ∧
        servable cfgA r.node tServe id = true ∧
        ∃ msg, chunkMessage cfgA r.node tServe id = some msg ∧ msg.chunkId = id ∧ msg.data = held.data ∧
          (∀ (v : Nat) (k : Bytes), System.Faithful ⟨v, 3, .chunk (msg.chunkId) (msg.data) msg.ttl⟩ →
            Message.decodeSigned System.hmac
              (Message.encodeSigned System.hmac ⟨v, 3, .chunk (msg.chunkId) (msg.data) msg.ttl⟩ k) k
              = .ok ⟨v, 3, .chunk (msg.chunkId) (msg.data) msg.ttl⟩) ∧
          (importerChunk cfgB b1 tArr true msg rk2).2 = some true ∧
          (∀ rk3, fetchChunk (importerChunk cfgB b1 tArr true msg rk2).1.node id rk3 = .value (some P)) ∧
          (∀ e ∈ (importerChunk cfgB b1 tArr true msg rk2).1.fetches.pending, e.chunk ≠ chunkName id) := by
  obtain ⟨r, held, hstore, hheld, _, hrep, _⟩ := C11.roundtrip cfgA hcfgA stA tStore id P ttl key nonce rk rd hkey
  obtain ⟨hid, hcacheA⟩ := store_caches hstore
  refine ⟨r, held, hstore, hheld, ?_⟩
  intro cfgB b hfree acfg as a tAnn hdesc hacc fcfg fenv sNow pA tServe tArr ttlB rk2 hserve harr
  -- C21: the accepted announce was admissible, hence unexpired and with enough shares, so B caches the manifest
  have hadm := ((C21.admission acfg as a).2 hacc).1
  have ⟨_, _, _, _, _, hthr, hunexp, _⟩ := hadm
  have hcache := announce_caches cfgB b.node tAnn (wire r.manifest)
    (of_decide_eq_true (hdesc.threshold.symm.trans hthr)) (hdesc.unexpired.symm.trans hunexp) (hid ▸ hfree)
  rw [show (wire r.manifest).chunkId = id from hid] at hcache
  -- the CHUNK message A builds from its cached manifest and the held record
  obtain ⟨ttlA, httlA⟩ := Option.isSome_iff_exists.1 hserve
  have hmsg : chunkMessage cfgA r.node tServe id = some { chunkId := id, data := held.data, ttl := ttlA } := by
    unfold chunkMessage
    rw [hcacheA, show find r.node.chunks id = some held from hheld]
    simp only [httlA]
  refine ⟨hadm, hcache, by rw [servable_iff_message, hmsg]; rfl, _, hmsg, rfl, rfl,
    fun v k hf => System.signed_roundtrip_hmac _ k hf, ?_⟩
  -- B: handle_chunk is receive_chunk on the cached manifest, re-encoded
  obtain ⟨hacc2, _, _, hfetch⟩ := hrep cfgB (announceAdmitted cfgB b.node tAnn (wire r.manifest)) tArr ttlB rk2 harr
  unfold importerChunk
  rw [handleChunk_cached cfgB tArr rk2 hcache, wire_wire, hacc2]
  exact ⟨rfl, hfetch, C24.drop_on_arrival _ (chunkName id)⟩

/-- the C23 side of `replica_is_original`: had A not been able to serve (no manifest, no record, or its window no longer admitting its
    manifest), a keyed, connected requester would have got a NACK and A's upload state would be untouched (C23.nack with the
    glue's `servable` as the environment fact) -/
theorem unservable_is_nacked (ucfg : Uploads.Cfg) (uenv : Uploads.Env) (now : Int) (ust : Uploads.State) (pB : String)
    (cfgA : Config) (stA : NodeState) (wall : Int) (id : Bytes)
    (henv : uenv.servable (chunkName id) = servable cfgA stA wall id) (hno : chunkMessage cfgA stA wall id = none)
    (hkey : uenv.hasKey pB = true) (hlink : uenv.linkUp pB = true) :
    Uploads.handleRequest ucfg uenv now ust pB (chunkName id) = (ust, [Uploads.Frame.nack pB (chunkName id)]) := by
  refine C23.nack ucfg uenv now ust pB (chunkName id) hkey hlink ?_
  rw [henv, servable_iff_message, hno]; rfl

/-- a CHUNK that is not accepted changes nothing at the importer: node state (chunk store, key shares, manifest cache,
    announcements, seed ledger) and pending fetches are what they were; only the negative ACK leaves.  (Reputation is not
    touched by `handle_chunk` at all; the sender's reputation moves when *it* processes the ACK.) -/
theorem rejected_chunk_changes_nothing (cfg : Config) (b : Importer) (wallNowNs : Int) (hasKey : Bool) (msg : ChunkMsg) (rk : Bytes)
    (h : (importerChunk cfg b wallNowNs hasKey msg rk).2 ≠ some true) :
    (importerChunk cfg b wallNowNs hasKey msg rk).1 = b := by
  unfold importerChunk at h ⊢
  rcases handleChunk_cases cfg b.node wallNowNs hasKey msg rk with ⟨m, ttl, pt, _, _, hh, _⟩ | ⟨h1, h2, _⟩
  · rw [hh] at h; exact absurd rfl h
  · simp only [h1, if_neg h2]

/-- an accepted CHUNK: the bytes `receive_chunk` returned hash to the content hash of the manifest the importer had cached
    for that id, the replica is stored through C11's accept effects, and the pending fetch is cleared -/
theorem accepted_chunk_verified (cfg : Config) (b : Importer) (wallNowNs : Int) (hasKey : Bool) (msg : ChunkMsg) (rk : Bytes)
    (h : (importerChunk cfg b wallNowNs hasKey msg rk).2 = some true) :
    ∃ m ttl pt, find b.node.manifests msg.chunkId = some m ∧ Spec.sha256 pt = m.chunkHash ∧
      handleChunkResult cfg b.node wallNowNs hasKey msg rk = .accepted pt ∧
      (importerChunk cfg b wallNowNs hasKey msg rk).1.node = acceptEffects b.node (wire m) ttl msg.data ∧
      ∀ e ∈ (importerChunk cfg b wallNowNs hasKey msg rk).1.fetches.pending, e.chunk ≠ chunkName msg.chunkId := by
  unfold importerChunk at h ⊢
  rcases handleChunk_cases cfg b.node wallNowNs hasKey msg rk with ⟨m, ttl, pt, hm, hsha, hh, hres⟩ | ⟨_, h2, _⟩
  · refine ⟨m, ttl, pt, hm, hsha, hres, by rw [hh], ?_⟩
    simp only [hh, if_true]
    exact C24.drop_on_arrival _ _
  · exact absurd h h2

/-- **replica_safety.**  Along *any* history at the importer — CHUNK messages from any peer with any bytes for any id,
    admitted announces of any manifests, rejected announces, replica-less ingests, in any order and at any times — every
    replica that was ever accepted (returned by `receive_chunk`, stored, announced) hashes to the content hash of the manifest
    the importer had cached for that id at that moment. -/
theorem replica_safety (cfg : Config) (evs : List Event) : ∀ (b : Importer) (log : List Accepted),
    (∀ a ∈ log, Spec.sha256 a.plaintext = a.manifest.chunkHash) →
    ∀ a ∈ (run cfg (b, log) evs).2, Spec.sha256 a.plaintext = a.manifest.chunkHash :=
  run_log cfg (step_logs_verified cfg) evs

/-- … so, when that manifest is the publisher's (content hash `SHA-256(P)`), the accepted bytes are `P` itself — or a second
    preimage of `SHA-256(P)`, exhibited: the only alternative is an explicit SHA-256 collision with the payload. -/
theorem accepted_is_original_or_collision (a : Accepted) (P : Bytes)
    (hverified : Spec.sha256 a.plaintext = a.manifest.chunkHash) (hpub : a.manifest.chunkHash = Spec.sha256 P) :
    a.plaintext = P ∨ (a.plaintext ≠ P ∧ Spec.sha256 a.plaintext = Spec.sha256 P) := by
  by_cases h : a.plaintext = P
  · exact Or.inl h
  · exact Or.inr ⟨h, by rw [hverified, hpub]⟩

/-- what the importer serves afterwards is what it accepted: after an accepted CHUNK, any sequence of replica-less manifests
    (ingests, admitted announces — forged or not) leaves its own lookup at the accepted bytes (C11.replica_then_forged: the
    repaired `ingest_manifest` / `handle_announce` do not displace the key of a held chunk).  `hstable`: the reconstructed
    key is not the all-zero one, so the decryption does not depend on a replacement-key draw. -/
theorem accepted_stays_readable (cfg : Config) (st : NodeState) (wallNowNs : Int) (m : Manifest) (ct rk pt : Bytes) (ttl : Int)
    (hr : receiveChunk cfg st wallNowNs (some m) ct rk = (acceptEffects st m ttl ct, .accepted pt))
    (hstable : ∀ keyN rk', Shamir.combine m.shards m.threshold = .ok keyN →
      ChaCha20.decrypt_with_key (ofNats keyN) m.chunkId ct m.nonce rk' = ChaCha20.decrypt_with_key (ofNats keyN) m.chunkId ct m.nonce rk)
    (ops : List C11.Forged) (rk1 : Bytes) :
    fetchChunk (C11.runForged cfg (receiveChunk cfg st wallNowNs (some m) ct rk).1 ops) m.chunkId rk1 = .value (some pt) :=
  C11.replica_then_forged cfg st wallNowNs m ct rk pt ttl hr hstable ops rk1

open EphVerif.StoreSpec (Op) in
/-- **replica_lifetime.**  Node B, constructed from any raw configuration `cfg0` (sanitised: `effective`), accepts a replica
    at steady time `t` (wall `t + off`) under a manifest expiring at wall time `E`.  Then
    * the TTL `ttl` C11's model records with the replica, the key-share record and the announcement is the one C03 derives
      (`manifest_ttl`, the same function), `1 ≤ ttl`;
    * whatever key-share record the table held before (`prev`, any deadline or none: the receive path replaces it), every
      record C03 lists for the receive path — key shares, self-announcement, the replica itself — ends, as wall time,
      no later than `E` and no later than `max_manifest_ttl` after arrival (C03.derived);
    * in C01's store, for any earlier history `pre` and any later history `post` that does not store the id again, the
      replica's entry is the put at `t` with deadline `t + ttl·10⁹ ≤ E − off`, and once that deadline is reached no lookup,
      record export, `fetch_chunk`, peer request or listing serves it (C01.dead_unreachable), sweep or no sweep. -/
theorem replica_lifetime (cfg0 : Gen.C02.Cfg) (shardT shardN : Nat) (off : Int) (stB : NodeState) (t : Int) (m : Manifest)
    (ct rk pt : Bytes) (ttl : Int)
    (hr : receiveChunk (cfgOf (Ttl.effective cfg0) shardT shardN) stB (t + off) (some m) ct rk
            = (acceptEffects stB m ttl ct, .accepted pt)) :
    Gen.C02.manifest_ttl m.expiresNs (Ttl.effective cfg0) (t + off) = some ttl ∧ 1 ≤ ttl ∧
    (exportRecord (acceptEffects stB m ttl ct) m.chunkId).map (·.ttl) = some ttl ∧
    (∀ prev : Int, ∃ ws, MTtl.writes (Ttl.effective cfg0) off t m.expiresNs prev (.receive true) = some ws ∧
      ∀ x ∈ ws, C03Spec.NotAfterManifest m.expiresNs (x.wall off) ∧
        C03Spec.Capped (t + off) (Ttl.effective cfg0).max_manifest_ttl (x.wall off)) ∧
    t + off + ttl * 1000000000 ≤ m.expiresNs ∧
    ∀ (nc : ChunkStore.NodeCfg) (_ : ChunkStore.SaneCfg nc) (t0 : Int) (fs : ChunkStore.FS) (pre post : List Op)
      (c : String) (ctS nonceS : StoreSpec.Bytes),
      (ChunkStore.runSpec (ChunkStore.paramsOf nc) (ChunkStore.freshSpec t0) pre).now = t →
      (∀ o ∈ post, ChunkStore.storesId c o = false) →
      let ops := pre ++ Op.store c ctS ttl nonceS true :: post
      t + ttl * 1000000000 ≤ (ChunkStore.runSpec (ChunkStore.paramsOf nc) (ChunkStore.freshSpec t0) ops).now →
      let w := ChunkStore.runModel nc (ChunkStore.fresh t0 fs) ops
      ChunkStore.get w.sys.recs w.now c = none ∧ ChunkStore.getRecord w.sys.recs w.now c = none ∧
      ChunkStore.nodeFetch w.sys.recs w.now c = none ∧ ChunkStore.nodeRequest nc w.sys.recs w.now c = none ∧
      ∀ d, (c, d) ∉ (ChunkStore.nodeList w.sys.recs w.now).map (fun x => (x.1, x.2.1)) := by
  -- the accept went through C11's TTL test: that is C03's `manifest_ttl`
  have hgen : Gen.C02.manifest_ttl m.expiresNs (Ttl.effective cfg0) (t + off) = some ttl :=
    (manifestTtl_eq_generated _ _ _).symm.trans (receive_accepted hr).1
  -- C03: the writes of the receive path
  have hw : ∀ prev : Int, MTtl.writes (Ttl.effective cfg0) off t m.expiresNs prev (.receive true)
      = some [⟨.shard, Gen.C02.publish_shards_expires (Gen.C02.receive_shard_ttl ttl (Ttl.effective cfg0)) t prev⟩,
              ⟨.contact "self", Gen.C02.add_contact_expires
                  (Gen.C02.announce_chunk_contact_ttl (Gen.C02.receive_announce_ttl ttl (Ttl.effective cfg0))) t⟩,
              ⟨.chunk, Ttl.chunkStorePut (Ttl.effective cfg0) (Gen.C02.receive_put_ttl ttl (Ttl.effective cfg0)) t⟩] := by
    intro prev
    simp only [MTtl.writes, Gen.C02.receive_ttl_source, hgen, if_true]
  have hder := fun prev : Int => C03.derived cfg0 off t m.expiresNs prev (.receive true) _ (hw prev)
  -- 1 ≤ ttl and the replica's own deadline, from the shard write (same TTL, `steady + ttl·10⁹`)
  have hpos : 1 ≤ ttl := manifestTtl_pos (receive_accepted hr).1
  have hshard := (hder 0 ⟨.shard, Gen.C02.publish_shards_expires (Gen.C02.receive_shard_ttl ttl (Ttl.effective cfg0)) t 0⟩
    (List.mem_cons_self)).1
  have hbound : t + off + ttl * 1000000000 ≤ m.expiresNs := by
    simp only [C03Spec.NotAfterManifest, MTtl.Write.wall, Gen.C02.publish_shards_expires, Gen.C02.receive_shard_ttl] at hshard
    omega
  refine ⟨hgen, hpos, congrArg _ (find_upsert _ _ _), fun prev => ⟨_, hw prev, hder prev⟩, hbound, ?_⟩
  intro nc hs t0 fs pre post c ctS nonceS hnow hpost ops hdead w
  obtain ⟨e, hlast, hdl⟩ := last_after_put (ChunkStore.paramsOf nc) t0 pre post c ctS nonceS ttl hpos hpost
  exact C01.dead_unreachable nc hs t0 fs ops c e hlast (by rw [hdl, hnow]; exact hdead)

/-- C24 really dispatches the request of `replica_is_original`: default fetch configuration, reachable peer, chunk not held — the announce of
    an assigned chunk leaves one pending entry and one REQUEST frame for the announcing peer -/
example : (Fetches.announce C24.cfgDefault C24.envUp 0 0 Fetches.State.init "c1" "pA" 3600000000000).2 = [⟨"pA", "c1"⟩] ∧
    ((Fetches.announce C24.cfgDefault C24.envUp 0 0 Fetches.State.init "c1" "pA" 3600000000000).1.pending.map (·.chunk)) = ["c1"] := by
  decide

/-- C23 really serves it: an idle publisher with room (3 parallel, 1 per peer), a keyed and connected requester, a servable
    chunk — one CHUNK frame; and the arrival at B clears the entry C24 created above -/
example :
    (Uploads.handleRequest ⟨3, 1, 0, 0⟩ ⟨fun _ => true, fun _ => true, fun _ => true⟩ 0 (Uploads.State.init 0) "pB" "c1").2
      = [Uploads.Frame.chunk "pB" "c1"] ∧
    (Fetches.clear (Fetches.announce C24.cfgDefault C24.envUp 0 0 Fetches.State.init "c1" "pA" 3600000000000).1 "c1").pending = [] := by
  decide

/-- a CHUNK message as `replica_is_original` sends it is wire-faithful: 32-byte id, 5 held bytes, TTL 3599 s, version 4 -/
example : System.Faithful ⟨4, 3, .chunk (List.replicate 32 7) [1, 2, 3, 4, 5] 3599⟩ := by decide

/-- the hypotheses of `replica_lifetime`'s C01 part are satisfiable: default window, a put at t = 1000 with TTL 3600 s, the
    clock advanced past the deadline — and C03's writes for that manifest are the three records with deadline `t + 3600 s` -/
example :
    MTtl.writes (Ttl.effective { default_chunk_ttl := 21600, min_manifest_ttl := 30, max_manifest_ttl := 21600 }) 0 1000
        (1000 + 3600 * 1000000000) 0 (.receive true)
      = some [⟨.shard, 1000 + 3600 * 1000000000⟩, ⟨.contact "self", 1000 + 3600 * 1000000000⟩, ⟨.chunk, 1000 + 3600 * 1000000000⟩] := by
  decide

end EphVerif.SystemReplication
