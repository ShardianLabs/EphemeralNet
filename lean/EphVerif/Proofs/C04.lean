/-
C04 — persisted chunk files do not outlive the chunk.

Model: `EphVerif.ChunkStore` with the abstract file system `FS = Name ⇀ Bytes` and the exact
sequence of file-system operations of `persist_chunk_to_disk` / `secure_wipe_file` /
`sweep_expired` / the constructor (with the repairs C04-lookup-expiry-skips-wipe,
C04-orphan-files-at-startup and C04-retry-failed-wipes).  A history (`HOp`) consists of chunk-store
operations, restarts on the same directory, the same with file-system calls failing (`fail o φ`,
`restartF φ`), and crashes after the k-th file-system operation of any operation (`crash o k`) or
of the constructor itself (`crashBoot k`).
-/
import EphVerif.Lemmas.C04Inv

namespace EphVerif.C04
open EphVerif.ChunkStore
open EphVerif.StoreSpec (Op W last fileAllowed)

theorem constants : EphVerif.Gen.C04.kWipeBuffer = 4096 ∧ EphVerif.Gen.C04.chunkSuffix = ".chunk" := by decide

/-- **C04.inv.**  Start from a machine that is off with an arbitrary directory (files of earlier
    instances, torn files, anything).  After any history — stores, overwrites, lookups, sweeps,
    ticks, clock advances, restarts, a crash at any file-system step of any operation or of a
    start-up, and **any file-system call of any operation failing with an I/O error** (`HOp.fail`,
    `HOp.restartF`: failed open, failed or short write, failed unlink, in any combination) —
    whenever an instance is running: every record stored as persisted has its file with exactly its
    (encrypted) bytes, and every chunk file that is present is either such a file or is on the
    retry list `pending` (a wipe of it failed; every sweep tries again). -/
theorem inv (nc : NodeCfg) (hc : PersistCfg nc.store) (t0 : Int) (fs0 : FS) (ops : List HOp) :
    let h := hrun nc (offState t0 fs0) ops
    h.up = true →
    (∀ id r, aget h.w.sys.recs id = some r → r.persisted = true →
      aget h.w.sys.fs (.chunk id) = some r.data ∧ Name.chunk id ∉ h.w.sys.pending) ∧
    (∀ id c, aget h.w.sys.fs (.chunk id) = some c → Name.chunk id ∉ h.w.sys.pending →
      ∃ r, aget h.w.sys.recs id = some r ∧ r.persisted = true ∧ r.data = c) := by
  intro h hup
  have := hinv_run hc ops (hinv_off t0 fs0) hup
  exact ⟨this.files_ok, this.files_only⟩

/-- **C04.files_allowed** (the same in terms of the specification).  Whenever an instance is
    running, a chunk file that is present and not on the retry list holds exactly the bytes of the
    latest store of that id *by this instance*, and that chunk was still live at the most recent
    sweep or start-up: `StoreSpec.fileAllowed`.  In particular files of earlier instances, of
    interrupted or failed stores and of chunks whose expiry was first noticed by a lookup are not
    present (or are being retried). -/
theorem files_allowed (nc : NodeCfg) (hs : SaneCfg nc) (hc : PersistCfg nc.store) (t0 : Int) (fs0 : FS)
    (ops : List HOp) (id : String) (content : Bytes) :
    let x := hrun2 nc (paramsOf nc) (offState t0 fs0, freshSpec t0) ops
    x.1.up = true → aget x.1.w.sys.fs (.chunk id) = some content → Name.chunk id ∉ x.1.w.sys.pending →
    fileAllowed x.2.s x.1.cleaned id content = true := by
  intro x hup hfile hnp
  obtain ⟨hsi, hrel⟩ := hrun2_inv hs hc t0 fs0 ops hup
  exact file_allowed hsi hrel hfile hnp

/-- **C04.cleanup_faulty.**  Right after any sweep or start-up at time `T` — even one in which
    file-system calls failed — a file that exists for a chunk whose deadline is `≤ T`, or for an id
    this instance never stored, is on the retry list. -/
theorem cleanup_faulty (nc : NodeCfg) (hs : SaneCfg nc) (hc : PersistCfg nc.store) (t0 : Int) (fs0 : FS)
    (ops : List HOp) (ev : HOp) (φ : Faults) (hev : ev = .fail .sweep φ ∨ ev = .restartF φ) (id : String) :
    let x := hrun2 nc (paramsOf nc) (offState t0 fs0, freshSpec t0) (ops ++ [ev])
    x.1.up = true → (∀ e, last x.2.s id = some e → e.deadline ≤ x.1.w.now) →
    aget x.1.w.sys.fs (.chunk id) ≠ none → Name.chunk id ∈ x.1.w.sys.pending := by
  intro x hup
  obtain ⟨hsi, hrel⟩ := hrun2_inv hs hc t0 fs0 (ops ++ [ev]) hup
  refine stale_pending hsi hrel ?_
  simp only [x, hrun2_snoc] at hup ⊢
  rcases hev with rfl | rfl
  · exact sweep_cleaned nc φ _ hup
  · rfl

/-- **C04.cleanup.**  Right after any sweep or start-up at time `T` that ran without I/O error,
    however the history went before (lookups that noticed an expiry first, overwrites, crashes,
    earlier instances, earlier failed stores, wipes and unlinks): nothing is left to retry and no
    file exists for a chunk whose deadline is `≤ T` nor for an id this instance never stored. -/
theorem cleanup (nc : NodeCfg) (hs : SaneCfg nc) (hc : PersistCfg nc.store) (t0 : Int) (fs0 : FS)
    (ops : List HOp) (ev : HOp) (hev : ev = .op .sweep ∨ ev = .restart) (id : String) :
    let x := hrun2 nc (paramsOf nc) (offState t0 fs0, freshSpec t0) (ops ++ [ev])
    x.1.up = true → x.1.w.sys.pending = [] ∧
    ((∀ e, last x.2.s id = some e → e.deadline ≤ x.1.w.now) → aget x.1.w.sys.fs (.chunk id) = none) := by
  intro x hup
  have hx : x.1.w.sys.pending = [] ∧ x.1.cleaned = x.1.w.now := by
    simp only [x, hrun2_snoc] at hup ⊢
    rcases hev with rfl | rfl
    · refine ⟨?_, sweep_cleaned nc [] _ hup⟩
      rw [hstep, hstepOp_up] at hup
      simp only [hstep, hstepOp, hup, if_true, stepF, sysSweepF, wipeAllF_nofault]
    · exact ⟨wipeAllF_nofault, rfl⟩
  refine ⟨hx.1, fun hdead => Decidable.by_contra fun hf => ?_⟩
  obtain ⟨hsi, hrel⟩ := hrun2_inv hs hc t0 fs0 (ops ++ [ev]) hup
  have := stale_pending hsi hrel hx.2 hdead hf
  rw [hx.1] at this
  cases this

/-- **C04.failed_store.**  A store during which file-system calls fail (open refused, disk full in
    the middle of the write, unlink refused, …) ends in one of three states for the chunk's file:
    it holds exactly the record's bytes and the record is marked persisted; or it does not exist; or
    it is on the retry list and the next sweep without I/O error removes it (`cleanup`).  It is never
    silently left behind with the record not knowing about it. -/
theorem failed_store (nc : NodeCfg) (hc : PersistCfg nc.store) (t0 : Int) (fs0 : FS) (ops : List HOp)
    (id : String) (data : Bytes) (ttl : Int) (nonce : Bytes) (enc : Bool) (φ : Faults) :
    let h := hrun nc (offState t0 fs0) (ops ++ [.fail (.store id data ttl nonce enc) φ])
    h.up = true →
    (∃ r, aget h.w.sys.recs id = some r ∧ r.persisted = true ∧ aget h.w.sys.fs (.chunk id) = some r.data) ∨
    aget h.w.sys.fs (.chunk id) = none ∨ Name.chunk id ∈ h.w.sys.pending := by
  intro h hup
  have hi := inv nc hc t0 fs0 (ops ++ [.fail (.store id data ttl nonce enc) φ]) hup
  cases hf : aget h.w.sys.fs (.chunk id) with
  | none => exact Or.inr (Or.inl rfl)
  | some c =>
    by_cases hm : Name.chunk id ∈ h.w.sys.pending
    · exact Or.inr (Or.inr hm)
    · obtain ⟨r, hr, hper, hd⟩ := hi.2 id c hf hm
      exact Or.inl ⟨r, hr, hper, hd ▸ rfl⟩

/-- **C04.store_persists.**  A store during which no file-system call fails marks the record
    persisted; together with the first half of `inv` this is the positive clause "a chunk's file
    exists while the chunk is live and holds exactly the stored bytes": the record of a successfully
    stored chunk stays in the table until a sweep at or after its deadline (C01), and as long as it
    is there its file is present with exactly its bytes and no wipe is owed for it — in particular
    a retry of an earlier failed wipe of the same path never hits the new file. -/
theorem store_persists (cfg : Cfg) (hp : cfg.persistent = true) (s : Recs) (fs : FS) (pend : List Name)
    (id : String) (data : Bytes) : (putF cfg [] s fs pend id data).persisted = true := by
  simp only [putF, hp, if_true, persistF, faultAt_nil]
  split <;> rfl

/-- **C04.crash_recovery.**  Crash at the `k`-th file-system operation of any operation `o` after
    any history (including failed stores and wipes), then any number of start-up attempts that
    themselves crash after `ks[i]` operations, then one start-up that completes without I/O error:
    the directory contains no chunk file at all, nothing is left to retry, and every other file is
    what it was at the very beginning. -/
theorem crash_recovery (nc : NodeCfg) (hc : PersistCfg nc.store) (t0 : Int) (fs0 : FS)
    (ops : List HOp) (o : Op) (k : Nat) (ks : List Nat) :
    let h := hrun nc (offState t0 fs0) (ops ++ [.crash o k] ++ ks.map .crashBoot ++ [.restart])
    h.up = true ∧ (∀ id, aget h.w.sys.fs (.chunk id) = none) ∧ h.w.sys.pending = [] ∧
    (∀ n, aget h.w.sys.fs (.other n) = aget fs0 (.other n)) := by
  intro h
  -- whatever state the crashes left, the last step is a start-up on its directory
  have hh : h = hstep nc (hrun nc (offState t0 fs0) (ops ++ [.crash o k] ++ ks.map .crashBoot)) .restart := by
    simp only [h, hrun, List.foldl_append, List.foldl_cons, List.foldl_nil]
  refine ⟨hh ▸ rfl, fun id => hh ▸ boot_no_chunk hc _ id, hh ▸ wipeAllF_nofault,
    fun n => other_run nc _ (offState t0 fs0) (pendChunk_off t0 fs0) n⟩

/-- **C04.others_untouched.**  No operation, crash, I/O error or start-up ever modifies a directory
    entry that is not a `*.chunk` file. -/
theorem others_untouched (nc : NodeCfg) (t0 : Int) (fs0 : FS) (ops : List HOp) (n : String) :
    aget (hrun nc (offState t0 fs0) ops).w.sys.fs (.other n) = aget fs0 (.other n) :=
  other_run nc ops (offState t0 fs0) (pendChunk_off t0 fs0) n

/-- **C04.overwritten.**  Wiping an existing file of `size` bytes (no I/O error) is: `passes` overwrite passes,
    each writing exactly `size` zero bytes (so `passes * size` in total) in buffer-sized writes that
    leave the file all-zero with unchanged length, and only then the remove. -/
theorem overwritten (cfg : Cfg) (fs : FS) (p : Name) (bs : Bytes) (hg : aget fs p = some bs) (n : Nat) :
    (wipeF cfg [] fs p n).1 = wipeOps cfg fs p ∧
    wipeOps cfg fs p = overwriteOps p bs.length cfg.passes ++ [.remove p] ∧
    writtenBytes (overwriteOps p bs.length cfg.passes) = cfg.passes * bs.length ∧
    (1 ≤ cfg.passes → aget (applyOps fs (overwriteOps p bs.length cfg.passes)) p = some (zeros bs.length)) ∧
    aget (applyOps fs (wipeOps cfg fs p)) p = none := by
  refine ⟨(wipeF_nofault cfg fs p n).1, by simp only [wipeOps, hg], overwriteOps_written _ _ _, fun h1 => ?_,
    wipeOps_self _ _ _⟩
  rw [overwriteOps_content p hg, if_neg (by omega)]

def exCfg : NodeCfg := { store := { defaultTtl := 30, persistent := true, wipeOnExpiry := true, passes := 2 },
                         minTtl := 1, maxTtl := 3600, cleanupInterval := 5 }

example : PersistCfg exCfg.store ∧ SaneCfg exCfg := ⟨⟨rfl, rfl⟩, by decide, by decide⟩

/-- an orphan of an earlier instance and a foreign file; start-up removes the former only -/
example : (hrun exCfg (offState 0 [(.chunk "c9", [1, 2, 3]), (.other "README", [7])]) [.restart]).w.sys.fs
    = [(.other "README", [7])] := by decide

/-- store, expire, lookup notices the expiry, sweep: the file is gone and the id is reported -/
example :
    let h := hrun exCfg (offState 0 []) [.restart, .op (.store "c1" [5, 6] 1 [] false), .op (.advance 1000000000),
                                         .op (.lookup "c1")]
    h.w.sys.fs = [(.chunk "c1", [5, 6])] ∧ (step exCfg h.w .sweep).2 = .removed ["c1"] ∧
    (step exCfg h.w .sweep).1.sys.fs = [] := by decide

/-- a crash in the middle of an overwriting store leaves a half-wiped file; the next start-up clears it -/
example :
    let pre : List HOp := [.restart, .op (.store "c1" [5, 6, 7] 10 [] false)]
    let crashed := hrun exCfg (offState 0 []) (pre ++ [.crash (.store "c1" [8] 10 [] false) 1])
    crashed.w.sys.fs = [(.chunk "c1", [0, 0, 0])] ∧ crashed.up = false ∧
    (hstep exCfg crashed .restart).w.sys.fs = [] := by decide

/-- disk full in the middle of a store (call 1 = the payload write fails after 2 bytes): the partial
    file is wiped at once, the chunk stays readable from memory, marked not persisted -/
example :
    let h := hrun exCfg (offState 0 []) [.restart, .fail (.store "c1" [5, 6, 7, 8] 10 [] false) [(1, 2)]]
    h.w.sys.fs = [] ∧ h.w.sys.pending = [] ∧ (aget h.w.sys.recs "c1").map (·.persisted) = some false ∧
    get h.w.sys.recs h.w.now "c1" = some [5, 6, 7, 8] := by decide

/-- the unlink of a sweep is refused (call 3 of: open, 2 pass writes, unlink): the zeroed file stays
    and is on the retry list; the next sweep removes it -/
example :
    let h := hrun exCfg (offState 0 []) [.restart, .op (.store "c1" [5, 6] 1 [] false), .op (.advance 1000000000),
                                         .fail .sweep [(3, 0)]]
    h.w.sys.fs = [(.chunk "c1", [0, 0])] ∧ h.w.sys.pending = [.chunk "c1"] ∧ h.w.sys.recs = [] ∧
    (hstep exCfg h (.op .sweep)).w.sys.fs = [] ∧ (hstep exCfg h (.op .sweep)).w.sys.pending = [] := by decide

/-- the wipe of a 3-byte file with 2 passes: two zero writes of 3 bytes, then remove -/
example : wipeOps exCfg.store [(.chunk "c1", [5, 6, 7])] (.chunk "c1")
    = [.zero (.chunk "c1") 0 3, .zero (.chunk "c1") 0 3, .remove (.chunk "c1")] := by decide

end EphVerif.C04
