/-
C02 — every lifetime the node creates lies inside the sanitised TTL window.  All statements are about the definitions
of `Generated/C02.lean` (re-translated from the clang AST of the working tree on every run), glued by `Model/Ttl.lean`.
Durations are unbounded `Int` seconds: the C++ only compares and assigns them (no arithmetic on `int64` seconds before
the clamp), and `store_deadline_bound` shows the nanosecond deadlines stay within 24 h of `now`.
-/
import EphVerif.Lemmas.C02Window

namespace EphVerif.C02
open EphVerif.Gen.C02 EphVerif.Ttl EphVerif.C02L

/-- **C02.config** for every configuration (all field values, negative / zero / inverted bounds
    included) the node's effective limits satisfy 1 s ≤ min ≤ max ≤ 24 h, min ≤ default ≤ max,
    5 s ≤ rotation ≤ 1 h and every PoW difficulty ≤ 24 bits. -/
theorem config (cfg : Cfg) : C02Spec.ConfigOk (limits (effective cfg)) := by
  have w := window cfg
  have r := rotation_range cfg.key_rotation_interval
  unfold C02Spec.ConfigOk limits effective C02Spec.dayS C02Spec.hourS
  refine ⟨w.min_pos, w.min_le_max, w.max_le_day, w.min_le_default, w.default_le_max, ?_, ?_, ?_, ?_, ?_⟩
  · simp only [sanitize_config]; exact r.1
  · simp only [sanitize_config]; exact r.2
  · simp only [sanitize_config]; gen_consts; grind
  · simp only [sanitize_config]; gen_consts; grind
  · simp only [sanitize_config]; gen_consts; grind

/-- **C02.store** whatever TTL is requested (zero, negative, tiny, huge), each of the four
    lifetimes recorded for a store — chunk record, manifest expiry, shard record, self-announce —
    lies inside [min, max] of the effective configuration. -/
theorem store (cfg : Cfg) (ttl steady wall prevShard : Int)
    -- a key-share record already in the table was itself written with a TTL ≤ max at an earlier time
    (hprev : prevShard ≤ steady + (effective cfg).max_manifest_ttl * 1000000000) :
    C02Spec.StoreOk (effective cfg).min_manifest_ttl (effective cfg).max_manifest_ttl (storeChunk cfg ttl steady wall prevShard) := by
  have w : Window (effective cfg) := window cfg
  have hpos := w.min_pos
  -- the TTL that reaches each of the four recording sites is the clamped one
  have hc := fun x => clamp_range x _ _ w.min_pos w.min_le_max
  have r1 : (effective cfg).min_manifest_ttl ≤ store_chunk_put_ttl ttl (effective cfg) ∧
      store_chunk_put_ttl ttl (effective cfg) ≤ (effective cfg).max_manifest_ttl := by
    unfold store_chunk_put_ttl
    exact hc _
  have r2 : (effective cfg).min_manifest_ttl * 1000000000 ≤ store_chunk_manifest_expires ttl (effective cfg) wall - wall ∧
      store_chunk_manifest_expires ttl (effective cfg) wall - wall ≤ (effective cfg).max_manifest_ttl * 1000000000 := by
    have := hc (if ttl > 0 then ttl else (effective cfg).default_chunk_ttl)
    unfold store_chunk_manifest_expires
    simp only []  -- the `let`s of the translated body
    omega
  have r3 : (effective cfg).min_manifest_ttl ≤ store_chunk_shard_ttl ttl (effective cfg) ∧
      store_chunk_shard_ttl ttl (effective cfg) ≤ (effective cfg).max_manifest_ttl := by
    unfold store_chunk_shard_ttl
    exact hc _
  have r4 : (effective cfg).min_manifest_ttl ≤ store_chunk_announce_ttl ttl (effective cfg) ∧
      store_chunk_announce_ttl ttl (effective cfg) ≤ (effective cfg).max_manifest_ttl := by
    unfold store_chunk_announce_ttl
    exact hc _
  -- ChunkStore::put keeps it, and the callees add it to `now`
  have hp := put_id (effective cfg) (store_chunk_put_ttl ttl (effective cfg)) (by omega)
  unfold C02Spec.StoreOk C02Spec.DurationOk C02Spec.nsPerS storeChunk chunkStorePut
  simp only [hp]
  unfold announce_chunk_contact_ttl compute_expiry publish_shards_expires add_contact_expires
  refine ⟨⟨?_, ?_⟩, r2, ⟨?_, ?_⟩, ⟨?_, ?_⟩⟩ <;> omega

/-- the recorded deadlines are at most 24 h after `now`: no `int64` nanosecond overflow for any
    clock value below 2^63 − 86 400·10^9 -/
theorem store_deadline_bound (cfg : Cfg) (ttl steady wall : Int) :
    (storeChunk cfg ttl steady wall).chunk ≤ 86400 * 1000000000 ∧ 0 < (storeChunk cfg ttl steady wall).chunk := by
  have w : Window (effective cfg) := window cfg
  have := w.min_pos
  have := w.min_le_max
  have := w.max_le_day
  have s := store cfg ttl steady wall steady (by omega)
  unfold C02Spec.StoreOk C02Spec.DurationOk C02Spec.nsPerS at s
  have e : (storeChunk cfg ttl steady wall steady).chunk = (storeChunk cfg ttl steady wall).chunk := rfl
  omega

/-- **C02.put_noop** `ChunkStore::put`'s own floor never changes a TTL that is inside the window -/
theorem put_noop (cfg : Cfg) (d : Int)
    (h1 : (effective cfg).min_manifest_ttl ≤ d) (_h2 : d ≤ (effective cfg).max_manifest_ttl) :
    chunkstore_put_ttl d (effective cfg) = d :=
  put_id _ _ (Int.le_trans (window cfg).min_pos h1)

/-- **C02.control** for every one of the 2^64 values a TTL header can carry: if the control plane
    accepts the STORE then min ≤ header ≤ max (the `u64 → int64` conversion cannot smuggle a huge
    value in as a negative one that is then clamped into the window) -/
theorem control (cfg : Cfg) (header : Nat) (_h : header < 2 ^ 64) (ttl : Int)
    (acc : controlStore cfg header = some ttl) :
    (effective cfg).min_manifest_ttl ≤ (header : Int) ∧ (header : Int) ≤ (effective cfg).max_manifest_ttl := by
  have w : Window (effective cfg) := window cfg
  have := w.min_pos
  unfold controlStore control_store_ttl control_store_ttl_rejected toInt64 at acc
  simp only [decide_eq_true_eq] at acc
  grind

/-- the same in the specification's words -/
theorem control_spec (cfg : Cfg) (header : Nat) (h : header < 2 ^ 64) :
    C02Spec.ControlOk (effective cfg).min_manifest_ttl (effective cfg).max_manifest_ttl header (controlStore cfg header).isSome := by
  unfold C02Spec.ControlOk
  intro hs
  match hc : controlStore cfg header with
  | none => simp [hc] at hs
  | some t => exact control cfg header h t hc

/-- an inverted, partly negative configuration is repaired to a proper window … -/
example : limits (effective { default_chunk_ttl := -7, min_manifest_ttl := 900, max_manifest_ttl := 30, key_rotation_interval := 0, announce_pow_difficulty := 200, handshake_pow_difficulty := 25, store_pow_difficulty := 24 })
    = { default := 900, min := 900, max := 900, rotation := 5, announcePow := 24, handshakePow := 24, storePow := 24 } := by
  decide

/-- … a huge requested TTL is clamped to max, a negative one falls back to the default -/
example : (storeChunk { default_chunk_ttl := 60, min_manifest_ttl := 30, max_manifest_ttl := 100 } 9223372036854775807 5 7).chunk
    = 100 * 1000000000 := by decide
example : (storeChunk { default_chunk_ttl := 60, min_manifest_ttl := 30, max_manifest_ttl := 100 } (-5) 5 7).shard
    = 60 * 1000000000 := by decide

/-- the control plane accepts 30 and refuses 29, 101 and 2^63 (which the cast turns negative) -/
example : controlStore { default_chunk_ttl := 60, min_manifest_ttl := 30, max_manifest_ttl := 100 } 30 = some 30 := by decide
example : controlStore { default_chunk_ttl := 60, min_manifest_ttl := 30, max_manifest_ttl := 100 } 29 = none := by decide
example : controlStore { default_chunk_ttl := 60, min_manifest_ttl := 30, max_manifest_ttl := 100 } 101 = none := by decide
example : controlStore { default_chunk_ttl := 60, min_manifest_ttl := 30, max_manifest_ttl := 100 } 9223372036854775808 = none := by decide

end EphVerif.C02
