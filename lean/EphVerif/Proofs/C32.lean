import EphVerif.Lemmas.C32Layers

/-!
# C32 — configuration layers apply in the documented precedence

Property: *for any combination of configuration-file profiles (with `extends` chains), environment overlay and
command-line flags, each effective setting equals the value from the highest-precedence layer that sets it
(flags, then environment overrides, then the selected profile, then its ancestors, then built-in defaults), and
cyclic or missing profiles are reported as errors rather than looping or being ignored.*

`ConfigLayers.loadConfiguration` is the model of `load_configuration`: `resolve` (= `resolve_profile`),
`collectEnv` (= `collect_environment_overrides`), `mergeObjects`, `applyProfile`.  The theorems are about
arbitrary value trees, arbitrary profile graphs and arbitrary flag sets — no bound on depth, width or chain length.

**Known finding C32-1 (alias spellings).**  `apply_profile_to_options` reads each setting from the *merged* tree
through a list of alternative key spellings and takes the first spelling that is present.  When two layers spell
the same setting differently, the layer using the earlier spelling wins regardless of precedence
(`alias_counterexample`).  `precedence` therefore carries the hypothesis that the layers spell the setting one
way (`hone`); that is exactly what excludes the counterexample.
-/
namespace EphVerif.C32
open EphVerif.ConfigLayers EphVerif.C32L

/-- every key spelling `apply_profile_to_options` reads (regenerated from the source) is a non-empty path, as
`precedence` requires (`hshape`) -/
theorem spellings_shape :
    ∀ q ∈ dirPaths ++ persPaths ++ cportPaths ++ tportPaths ++ tokPaths ++ ttlPaths ++ minPaths ++ maxPaths ++ powPaths,
      q ≠ [] := by
  decide +kernel

/-- **C32.merge_lookup.**  For all trees `a`, `b` and every path `p` along which the overlay `b` has no scalar in
the way (`Clean`): the value at `p` in `merge_objects(a, b)` is `b`'s if `b` defines `p`, else `a`'s. -/
theorem merge_lookup (a b : Value) (p : List String) (hb : Clean p b) :
    lookup (mergeObjects a b) p = match lookup b p with
      | some x => some x
      | none => lookup a p := by
  rw [mergeObjects, lookup_merge p b a hb]
  cases lookup b p <;> rfl

/-- …and a scalar on the way in the overlay hides the base below it (the "unless shadowed" clause). -/
theorem merge_shadow (a : Value) (bfs : Fields) (k k' : String) (ks : List String) (s : Value)
    (hs : bfs.get k = some s) (hscalar : s.isObj = false) :
    lookup (mergeObjects a (.obj bfs)) (k :: k' :: ks) = none := by
  rw [mergeObjects, merge_obj, lookup_obj, get_mergeFields, hs]
  show lookup (combine s _) (k' :: ks) = none
  rw [combine_nonobj_left s _ hscalar, lookup_nonobj s hscalar]

theorem effective_lookup (efs : Fields) (chain : List Value) (k : String) (ks : List String)
    (hc : ∀ l ∈ layersOf efs chain, Clean (k :: ks) l) :
    lookup (effective efs chain) (k :: ks) = firstSome ((layersOf efs chain).map (lookup · (k :: ks))) := by
  obtain ⟨henv, hchain⟩ := List.forall_mem_append.mp hc
  rw [effective, collectEnv_eq, mergeObjects, lookup_merge _ _ _ (clean_chain k ks _ henv), lookup_chain k ks _ henv,
    lookup_chain k ks _ hchain, layersOf, List.map_append, firstSome_append]

/-- **C32.precedence (file layers).**  For every environment mapping, every profile chain and every setting whose
spellings are `spellings`: if the layers that set it all use the spelling `p` (hypothesis `hone`, see the known
finding) and no layer has a scalar in the way of a spelling (`hclean`), the raw value `apply_profile_to_options`
reads for the setting is the value of the highest-precedence layer that defines `p` — environment first, then the
selected profile, then its ancestors nearest first — and nothing (the built-in default stays) if no layer does. -/
theorem precedence (efs : Fields) (chain : List Value) (spellings : List (List String)) (k : String) (ks : List String)
    (hp : (k :: ks) ∈ spellings)
    (hshape : ∀ q ∈ spellings, ∃ k' ks', q = k' :: ks')
    (hclean : ∀ q ∈ spellings, ∀ l ∈ layersOf efs chain, Clean q l)
    (hone : ∀ q ∈ spellings, q ≠ k :: ks → ∀ l ∈ layersOf efs chain, lookup l q = none) :
    firstPresent (effective efs chain) spellings = firstSome ((layersOf efs chain).map (lookup · (k :: ks))) := by
  have hE : ∀ q ∈ spellings, lookup (effective efs chain) q = firstSome ((layersOf efs chain).map (lookup · q)) := by
    intro q hq
    obtain ⟨k', ks', rfl⟩ := hshape q hq
    exact effective_lookup efs chain k' ks' (hclean _ hq)
  rw [firstPresent, firstSome_single (lookup (effective efs chain)) (k :: ks) spellings ?_ hp]
  · exact hE _ hp
  · intro q hq hne
    rw [hE q hq]
    exact firstSome_none _ _ (hone q hq hne)

/-- what `apply_profile_to_options` does for each of the nine settings -/
theorem apply_ok (E : Value) (flags o : Options) (h : applyProfile E flags = .ok o) :
    fill flags.dir (getAny getString E dirPaths) (fun _ => true) = .ok o.dir ∧
    fill flags.pers (getAny getBool E persPaths) (fun _ => true) = .ok o.pers ∧
    fill flags.cport (getAny getInt E cportPaths) portOk = .ok o.cport ∧
    fill flags.tport (getAny getInt E tportPaths) portOk = .ok o.tport ∧
    fill flags.tok (getAny getString E tokPaths) (fun _ => true) = .ok o.tok ∧
    fill flags.ttl (getAny getInt E ttlPaths) positive = .ok o.ttl ∧
    fill flags.min (getAny getInt E minPaths) positive = .ok o.min ∧
    fill flags.max (getAny getInt E maxPaths) positive = .ok o.max ∧
    fill flags.pow (getAny getInt E powPaths) powOk = .ok o.pow := by
  unfold applyProfile at h
  split at h
  · cases h
  · obtain ⟨dir, h1, h⟩ := bind_ok h
    obtain ⟨pers, h2, h⟩ := bind_ok h
    obtain ⟨cport, h3, h⟩ := bind_ok h
    obtain ⟨tport, h4, h⟩ := bind_ok h
    obtain ⟨tok, h5, h⟩ := bind_ok h
    obtain ⟨ttl, h6, h⟩ := bind_ok h
    obtain ⟨mn, h7, h⟩ := bind_ok h
    obtain ⟨mx, h8, h⟩ := bind_ok h
    obtain ⟨pow, h9, h⟩ := bind_ok h
    cases h
    exact ⟨h1, h2, h3, h4, h5, h6, h7, h8, h9⟩

/-- **C32.precedence (flags).**  A setting given on the command line is never touched by the configuration file:
whatever the file contains, the effective value is the flag's. -/
theorem flags_win {α} (v : α) (read : Except Err (Option α)) (valid : α → Bool) :
    fill (some v) read valid = .ok (some v) := rfl

/-- A setting not given on the command line takes exactly the (valid) value read from the merged file layers, and
stays unset (built-in default) when no layer sets it. -/
theorem file_fills {α} (read : Except Err (Option α)) (valid : α → Bool) (x : Option α)
    (h : fill none read valid = .ok x) :
    (read = .ok none ∧ x = none) ∨ (∃ v, read = .ok (some v) ∧ valid v = true ∧ x = some v) := by
  cases read with
  | error e => cases h
  | ok r =>
    cases r with
    | none => cases h; exact .inl ⟨rfl, rfl⟩
    | some v =>
      rw [fill] at h
      split at h
      · next hv => cases h; exact .inr ⟨v, rfl, hv, rfl⟩
      · cases h

/-- the whole run, from the parsed document to the options, when the profile chain resolves -/
theorem load_ok (doc : Value) (pfs : Fields) (profileFlag : Option String) (flags : Options)
    (hprofiles : lookup doc ["profiles"] = some (.obj pfs)) (base : Value)
    (hres : resolveProfile pfs (profileFlag.getD "default") = .ok base) :
    loadConfiguration doc profileFlag none flags = applyProfile (mergeObjects base .emptyObj) flags := by
  unfold loadConfiguration
  simp only [hprofiles, hres, pure_bind, ok_bind]

/-- the same with an environment selected (`--env`), the profile named by `--profile` -/
theorem load_ok_env (doc : Value) (pfs envs efs : Fields) (profile envName : String) (flags : Options)
    (hprofiles : lookup doc ["profiles"] = some (.obj pfs))
    (henvs : lookup doc ["environments"] = some (.obj envs)) (henv : envs.get envName = some (.obj efs))
    (base : Value) (hres : resolveProfile pfs profile = .ok base) :
    loadConfiguration doc (some profile) (some envName) flags =
      applyProfile (mergeObjects base (collectEnv (.obj efs))) flags := by
  unfold loadConfiguration
  simp only [hprofiles, henvs, henv, hres, pure_bind, ok_bind]

/-- …and with the profile chosen by the environment's own `profile` entry -/
theorem load_ok_env_profile (doc : Value) (pfs envs efs : Fields) (profile envName : String) (flags : Options)
    (hprofiles : lookup doc ["profiles"] = some (.obj pfs))
    (henvs : lookup doc ["environments"] = some (.obj envs)) (henv : envs.get envName = some (.obj efs))
    (hsel : efs.get "profile" = some (.str profile))
    (base : Value) (hres : resolveProfile pfs profile = .ok base) :
    loadConfiguration doc none (some envName) flags =
      applyProfile (mergeObjects base (collectEnv (.obj efs))) flags := by
  have hget : getString (.obj efs) ["profile"] = .ok (some profile) := by
    simp only [getString, lookup, hsel]
  unfold loadConfiguration
  simp only [hprofiles, henvs, henv, hres, hget, pure_bind, ok_bind]

/-- **C32.errors (never loops).**  For every profile mapping and every name, `resolve_profile` terminates: the
recursion budget `|profiles| + 1` (one more than the number of distinct names `visiting` can hold) is never
exhausted — the result is a resolved tree or a `ConfigError`. -/
theorem resolve_total (profiles : Fields) (name : String) : resolveProfile profiles name ≠ .error .fuel :=
  resolve_fuel profiles _ [] name List.nodup_nil (List.nil_subset _) (Nat.le_add_left _ _)

/-- A resolved profile is exactly the merge of a finite `extends` chain of existing, distinct profiles: ancestors
first, the selected profile on top. -/
theorem resolve_ok_chain (profiles : Fields) (name : String) (v : Value) (h : resolveProfile profiles name = .ok v) :
    ∃ names chain, ChainOf profiles name names chain ∧ v = chainMerge chain ∧ names.Nodup := by
  obtain ⟨names, chain, hc, hv, _, hnd⟩ := resolve_ok profiles _ [] name v h
  exact ⟨names, chain, hc, hv, hnd⟩

/-- a selected profile from which no finite chain of existing, distinct profiles starts yields a `ConfigError` -/
theorem error_of_no_chain (profiles : Fields) (name : String)
    (h : ∀ names chain, ChainOf profiles name names chain → names.Nodup → False) :
    ∃ e, resolveProfile profiles name = .error e ∧ e ≠ .fuel := by
  cases hr : resolveProfile profiles name with
  | error e => exact ⟨e, rfl, fun he => resolve_total profiles name (he ▸ hr)⟩
  | ok v =>
    obtain ⟨names, chain, hc, _, hnd⟩ := resolve_ok_chain profiles name v hr
    exact (h names chain hc hnd).elim

/-- **C32.errors (cycle).**  If following `extends` links from the selected profile ever returns to it, the result
is a `ConfigError` — for every profile mapping, every cycle length. -/
theorem cycle_is_error (profiles : Fields) (name : String) (n : Nat) (hn : 0 < n)
    (hcycle : iterParent profiles n name = some name) :
    ∃ e, resolveProfile profiles name = .error e ∧ e ≠ .fuel := by
  refine error_of_no_chain profiles name fun names chain hc hnd => ?_
  -- `name` would stand at positions 0 and `n` of a chain of distinct names
  have h0 : names[0]? = some name := chain_nth hc 0
  have hlt : 0 < names.length := (List.getElem?_eq_some_iff.mp h0).1
  exact absurd ((List.getElem?_inj hlt hnd).mp (h0.trans ((chain_nth hc n).trans hcycle).symm)) (Nat.ne_of_lt hn)

/-- **C32.errors (missing).**  If the selected profile, or any profile reached from it through `extends` links, does
not exist, the result is a `ConfigError` (it is never silently ignored). -/
theorem missing_is_error (profiles : Fields) (name x : String) (m : Nat)
    (hreach : iterParent profiles m name = some x) (hmissing : profiles.get x = none) :
    ∃ e, resolveProfile profiles name = .error e ∧ e ≠ .fuel := by
  refine error_of_no_chain profiles name fun names chain hc _ => ?_
  have := chain_members_exist hc x (List.mem_of_getElem? ((chain_nth hc m).trans hreach))
  rw [hmissing] at this
  cases this

/-- the selected profile itself missing: the specific `Profile not found` error -/
theorem missing_selected (profiles : Fields) (name : String) (h : profiles.get name = none) :
    resolveProfile profiles name = .error .notFound := by
  unfold resolveProfile
  rw [resolve, h]

def exProfile : Value := .obj (.cons "control" (.obj (.cons "port" (.int 4000) .nil)) .nil)
def exEnvAlias : Value := .obj (.cons "network" (.obj (.cons "control_port" (.int 5000) .nil)) .nil)
def exEnvSame : Value := .obj (.cons "control" (.obj (.cons "port" (.int 5000) .nil)) .nil)
def exDoc (env : Value) : Value :=
  .obj (.cons "profiles" (.obj (.cons "default" exProfile .nil)) (.cons "environments" (.obj (.cons "ci" env .nil)) .nil))

/-- **C32_counterexample (known finding C32-1).**  The environment layer sets the control port (5000, spelled
`network.control_port`), the selected profile sets it too (4000, spelled `control.port`): the property's
specification allows only the environment's value, the model of the code yields the profile's. -/
theorem alias_counterexample :
    (loadConfiguration (exDoc exEnvAlias) none (some "ci") {}).toOption.map (·.cport) = some (some 4000) ∧
    ((Spec.ConfigLayers.allowed (some exEnvAlias) [exProfile] cportPaths).map fun v => Value.beq v (.int 5000)) = [true] := by
  decide +kernel

/-- with one spelling in both layers the environment wins, as `precedence` says (non-vacuity of its hypotheses) -/
theorem same_spelling_example :
    (loadConfiguration (exDoc exEnvSame) none (some "ci") {}).toOption.map (·.cport) = some (some 5000) := by
  decide +kernel

/-- flags beat everything; a three-level `extends` chain with the nearest ancestor winning; an environment-selected
profile -/
example :
    let profiles : Value := .obj
      (.cons "default" (.obj (.cons "node" (.obj (.cons "default_ttl_seconds" (.int 100) (.cons "min_ttl_seconds" (.int 10) .nil))) .nil))
      (.cons "mid" (.obj (.cons "extends" (.str "default") (.cons "node" (.obj (.cons "default_ttl_seconds" (.int 200) .nil)) .nil)))
      (.cons "leaf" (.obj (.cons "extends" (.str "mid") (.cons "announce" (.obj (.cons "pow_difficulty" (.int 7) .nil)) .nil))) .nil)))
    let doc : Value := .obj (.cons "profiles" profiles
      (.cons "environments" (.obj (.cons "ci" (.obj (.cons "profile" (.str "leaf") .nil)) .nil)) .nil))
    (loadConfiguration doc none (some "ci") { pow := some 3 }).toOption.map (fun o => (o.ttl, o.min, o.pow))
      = some (some 200, some 10, some 3) := by
  decide +kernel

/-- cycles of length 1, 2 and a missing grandparent are errors with the documented codes -/
example :
    let p1 : Fields := .cons "a" (.obj (.cons "extends" (.str "a") .nil)) .nil
    let p2 : Fields := .cons "a" (.obj (.cons "extends" (.str "b") .nil)) (.cons "b" (.obj (.cons "extends" (.str "a") .nil)) .nil)
    let p3 : Fields := .cons "a" (.obj (.cons "extends" (.str "b") .nil)) (.cons "b" (.obj (.cons "extends" (.str "zz") .nil)) .nil)
    (resolveProfile p1 "a").toOption.isNone ∧ (resolveProfile p2 "a").toOption.isNone ∧ (resolveProfile p3 "a").toOption.isNone ∧
      (match resolveProfile p2 "a" with | .error .cycle => true | _ => false) = true ∧
      (match resolveProfile p3 "a" with | .error .notFound => true | _ => false) = true := by
  decide +kernel

end EphVerif.C32
