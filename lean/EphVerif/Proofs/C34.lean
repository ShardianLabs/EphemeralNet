import EphVerif.Lemmas.C34Class
import EphVerif.Lemmas.C34Num
import EphVerif.Lemmas.C34Publish

/-!
# C34 — auto-advertise never publishes non-routable addresses unless allowed
-/
namespace EphVerif.C34
open EphVerif EphVerif.Adv EphVerif.Gen.C34 EphVerif.C34L EphVerif.AdvSpec

theorem v4_ranges (a b c d : Nat) (ha : a < 256) (hb : b < 256) (hc : c < 256) (hd : d < 256)
    (h : nonRoutable4 (ip4 a b c d)) : isPrivateOrReservedIpv4 a b c d = true := by
  unfold isPrivateOrReservedIpv4
  rcases v4_blocks a b c d ha hb hc hd h with h|h|⟨h,h1,h2⟩|h|⟨h,h1⟩|⟨h,h1,h2⟩|⟨h,h1,h2⟩|⟨h,h1⟩|⟨h,h1,h2⟩|⟨h,h1,h2⟩|⟨h,h1,h2⟩|h
  -- each block of the specification is one clause of the translated C++ test, which lists them in an order of its own
  -- (and may change it): the clause is searched for — first octet substituted, the others compared by `omega`
  all_goals first | (subst h; simp; done) | (subst h; simp; omega) | (simp only [decide_eq_true_eq]; omega)

/-- **C34.classify (IPv4)**: for every numeric IPv4 address in one of the non-routable blocks, the canonical text
(`inet_ntop`) is classified private/reserved. -/
theorem classify4 (a b c d : Nat) (ha : a < 256) (hb : b < 256) (hc : c < 256) (hd : d < 256)
    (h : nonRoutable4 (ip4 a b c d)) : isPrivHost (fmt4 a b c d) = true := by
  rw [isPrivHost_v4 _ a b c d (parseIpv4_fmt4 a b c d ha hb hc hd)]
  exact v4_ranges a b c d ha hb hc hd h

/-- **C34.classify (IPv6)**: for every numeric IPv6 address that is unspecified, loopback, unique-local, link-local,
multicast, documentation, or the IPv4-mapped form of a non-routable IPv4 address, the canonical text (`inet_ntop`,
RFC 5952) is classified private/reserved. -/
theorem classify6 (g0 g1 g2 g3 g4 g5 g6 g7 : Nat)
    (h0 : g0 < 65536) (h1 : g1 < 65536) (h2 : g2 < 65536) (h3 : g3 < 65536)
    (h4 : g4 < 65536) (h5 : g5 < 65536) (h6 : g6 < 65536) (h7 : g7 < 65536)
    (h : nonRoutable6 (ip6 g0 g1 g2 g3 g4 g5 g6 g7)) :
    isPrivHost (fmt6 [g0, g1, g2, g3, g4, g5, g6, g7]) = true := by
  rcases v6_blocks g0 g1 g2 g3 g4 g5 g6 g7 h0 h1 h2 h3 h4 h5 h6 h7 h with
    ⟨rfl, rfl, rfl, rfl, rfl, rfl, rfl, rfl⟩ | ⟨rfl, rfl, rfl, rfl, rfl, rfl, rfl, rfl⟩ | ⟨hl, hu⟩ | ⟨hl, hu⟩ | hl |
    ⟨rfl, rfl⟩ | ⟨rfl, rfl, rfl, rfl, rfl, rfl, hv4⟩
  · decide  -- `::`
  · decide  -- `::1`
  · exact isPrivHost_fmt6 (fmt6_head g0 g1 g2 g3 g4 g5 g6 g7 (by omega)) (hex16_fc00 g0 hl hu)
  · exact isPrivHost_fmt6 (fmt6_head g0 g1 g2 g3 g4 g5 g6 g7 (by omega)) (hex16_fe80 g0 hl hu)
  · exact isPrivHost_fmt6 (fmt6_head g0 g1 g2 g3 g4 g5 g6 g7 (by omega)) (hex16_ff00 g0 hl h0)
  · exact isPrivHost_fmt6 (fmt6_head2 0x2001 0xdb8 g2 g3 g4 g5 g6 g7 (by decide) (by decide))
      ⟨"2001:db8", by decide, [], rfl⟩
  · rw [fmt6_mapped]
    exact isPrivHost_mapped _ _ _ _ (by omega) (by omega) (by omega) (by omega)
      (v4_ranges _ _ _ _ (by omega) (by omega) (by omega) (by omega) hv4) _ (by decide) (by decide) (by decide)

/-- **C34.classify (names)**: `localhost` in any mixture of upper and lower case (host names are case-insensitive,
`localhost` is loopback) is classified private/reserved. -/
theorem classify_localhost (s : Str) (h : loopbackName s) : isPrivHost s = true := by
  match s, h with
  | [], h => cases h
  | c :: t, h =>
    have h0 : lowerC c = 'l' := (List.cons.inj h).1
    have hc : isDigit c = false := by
      by_cases hu : 65 ≤ c.toNat ∧ c.toNat ≤ 90
      · exact decide_eq_false (by omega)
      · rw [lowerC, if_neg hu] at h0; subst h0; decide
    exact isPrivHost_reserved_name c t hc "localhost" (by decide) h.symm

/-! ## publication

`startTransport cfg stunEnabled stun echo tp` is the node right after `Node::start_transport`: `stun` is whatever the
STUN query reported (`none` = failed), `echo` the seeded fallback address, `tp` the listener port — all arbitrary.
`autoAdvertised` = hosts of the non-manual entries of `Config::advertised_endpoints`, `autoHints` = hosts of the
non-manual (`transport`) discovery hints of a manifest the node then publishes. -/

theorem publish_filtered (cfg : Cfg) (stunEnabled : Bool) (stun : Option Str) (echo : Str) (tp : Nat)
    (hpriv : cfg.allowPrivate = false) (s : Str) (hs : isPrivHost s = true) :
    s ∉ autoAdvertised (startTransport cfg stunEnabled stun echo tp) ++ autoHints (startTransport cfg stunEnabled stun echo tp) :=
  (refresh_spec cfg echo tp _).not_published hpriv s hs

/-- **C34.publish (private advertising not allowed)**: whatever STUN reports, whatever the control host, mode and
manual endpoints are, no automatically published endpoint — neither in `advertised_endpoints` nor among the non-manual
manifest hints — is the canonical text of a non-routable IPv4 or IPv6 address. -/
theorem publish_routable (cfg : Cfg) (stunEnabled : Bool) (stun : Option Str) (echo : Str) (tp : Nat)
    (hpriv : cfg.allowPrivate = false) :
    (∀ a b c d, a < 256 → b < 256 → c < 256 → d < 256 → nonRoutable4 (ip4 a b c d) →
        fmt4 a b c d ∉ autoAdvertised (startTransport cfg stunEnabled stun echo tp) ++
          autoHints (startTransport cfg stunEnabled stun echo tp)) ∧
    (∀ g0 g1 g2 g3 g4 g5 g6 g7, g0 < 65536 → g1 < 65536 → g2 < 65536 → g3 < 65536 → g4 < 65536 → g5 < 65536 →
        g6 < 65536 → g7 < 65536 → nonRoutable6 (ip6 g0 g1 g2 g3 g4 g5 g6 g7) →
        fmt6 [g0, g1, g2, g3, g4, g5, g6, g7] ∉ autoAdvertised (startTransport cfg stunEnabled stun echo tp) ++
          autoHints (startTransport cfg stunEnabled stun echo tp)) :=
  ⟨fun a b c d ha hb hc hd hn =>
      publish_filtered cfg stunEnabled stun echo tp hpriv _ (classify4 a b c d ha hb hc hd hn),
    fun g0 g1 g2 g3 g4 g5 g6 g7 h0 h1 h2 h3 h4 h5 h6 h7 hn =>
      publish_filtered cfg stunEnabled stun echo tp hpriv _ (classify6 g0 g1 g2 g3 g4 g5 g6 g7 h0 h1 h2 h3 h4 h5 h6 h7 hn)⟩

/-- **C34.publish (loopback name)**: with private advertising not allowed, no spelling of `localhost` is published
automatically (it can only come from the control host through the local-fallback candidate). -/
theorem publish_no_loopback_name (cfg : Cfg) (stunEnabled : Bool) (stun : Option Str) (echo : Str) (tp : Nat)
    (hpriv : cfg.allowPrivate = false) (s : Str) (hs : loopbackName s) :
    s ∉ autoAdvertised (startTransport cfg stunEnabled stun echo tp) ++ autoHints (startTransport cfg stunEnabled stun echo tp) :=
  publish_filtered cfg stunEnabled stun echo tp hpriv s (classify_localhost s hs)

theorem publish_none_of {cfg : Cfg} (n : Node) (hn : AfterRefresh cfg n)
    (hw : cfg.mode = Mode.off ∨ (cfg.mode = Mode.warn ∧ n.conflict = true)) :
    autoAdvertised n = [] ∧ autoHints n = [] := by
  have hman := hn.withheld hw
  have hgate : publishAuto n = false := by
    rw [publishAuto, hn.cfg_eq]
    rcases hw with h | ⟨h, hc⟩
    · rw [h]; rfl
    · rw [h, hc]; rfl
  constructor
  · unfold autoAdvertised
    rw [List.map_eq_nil_iff, List.filter_eq_nil_iff]
    intro e he
    simp [hman e he]
  · rw [List.eq_nil_iff_forall_not_mem]
    intro h hh
    obtain ⟨e, he, hm, _⟩ := autoHints_mem _ _ hh
    rcases preferred_auto _ e he hm with ⟨ep, hep, hepm, _⟩ | ⟨hp, _⟩ | ⟨hp, _⟩
    · have := hman ep hep; rw [hepm] at this; cases this
    · rw [hgate] at hp; cases hp
    · rw [hgate] at hp; cases hp

/-- **C34.publish (mode off)**: with auto-advertise off nothing auto-discovered is published (even when private
advertising is allowed, whatever STUN reports). -/
theorem publish_off (cfg : Cfg) (stunEnabled : Bool) (stun : Option Str) (echo : Str) (tp : Nat)
    (hoff : cfg.mode = Mode.off) :
    autoAdvertised (startTransport cfg stunEnabled stun echo tp) = [] ∧
    autoHints (startTransport cfg stunEnabled stun echo tp) = [] :=
  publish_none_of _ (refresh_spec cfg echo tp _) (Or.inl hoff)

/-- **C34.publish (warn mode)**: in warn mode, when the discovered candidates conflict, they are withheld from
`advertised_endpoints` and from the manifest hints. -/
theorem publish_warn_conflict (cfg : Cfg) (stunEnabled : Bool) (stun : Option Str) (echo : Str) (tp : Nat)
    (hwarn : cfg.mode = Mode.warn) (hconf : (startTransport cfg stunEnabled stun echo tp).conflict = true) :
    autoAdvertised (startTransport cfg stunEnabled stun echo tp) = [] ∧
    autoHints (startTransport cfg stunEnabled stun echo tp) = [] :=
  publish_none_of _ (refresh_spec cfg echo tp _) (Or.inr ⟨hwarn, hconf⟩)

/-- the literals the proofs above rely on, as regenerated from the source -/
theorem generated_literals :
    "localhost" ∈ kReservedNames ∧ "::" ∈ kV6Exact ∧ "::1" ∈ kV6Exact ∧ kMappedPrefix = "::ffff:" ∧ kInvalidHost = "0.0.0.0" ∧ kPreferredMethod = "stun" ∧
    (∀ p ∈ ["fc", "fd", "fe8", "fe9", "fea", "feb", "ff", "2001:db8"], p ∈ kV6Prefixes) := by decide

-- the hypotheses are satisfiable and the conclusions are not trivially true:
example : nonRoutable4 (ip4 198 19 0 1) ∧ isPrivHost (fmt4 198 19 0 1) = true := by decide +kernel
example : ¬ nonRoutable4 (ip4 8 8 8 8) ∧ isPrivHost (fmt4 8 8 8 8) = false := by decide +kernel
example : nonRoutable6 (ip6 0 0 0 0 0 0xffff 0x0a00 1) ∧ fmt6 [0, 0, 0, 0, 0, 0xffff, 0x0a00, 1] = "::ffff:10.0.0.1".toList := by decide +kernel
example : isPrivHost (fmt6 [0x2001, 0x4860, 0x4860, 0, 0, 0, 0, 0x8888]) = false := by decide +kernel
example : loopbackName "LocalHost".toList ∧ isPrivHost "LOCALHOST".toList = true ∧ isPrivHost "localhost.".toList = false := by decide +kernel
/-- the local-fallback branch: STUN failed, control host is a routable literal → it is the one automatic endpoint -/
example : autoHints (startTransport ⟨.on, false, "45.64.61.85".toList, 47777, none, none, [⟨"m.example".toList, 1, true, []⟩]⟩ true none "198.51.100.20".toList 40000)
    = ["45.64.61.85".toList] := by decide +kernel
/-- a public STUN address *is* published in mode on … -/
example : autoHints (startTransport ⟨.on, false, sLoop, 47777, none, none, []⟩ true (some "45.64.61.85".toList) "198.51.100.20".toList 40000)
    = ["45.64.61.85".toList] := by decide +kernel
/-- … a private one is not, and none in mode off -/
example : autoHints (startTransport ⟨.on, false, sLoop, 47777, none, none, []⟩ true (some "10.1.2.3".toList) "198.51.100.20".toList 40000) = [] := by decide +kernel
example : autoHints (startTransport ⟨.off, true, sLoop, 47777, none, none, []⟩ true (some "45.64.61.85".toList) "198.51.100.20".toList 40000) = [] := by decide +kernel
/-- warn mode with a conflict (needs allow_private) -/
example : (startTransport ⟨.warn, true, "10.0.0.5".toList, 47777, none, none, []⟩ true (some "45.64.61.85".toList) "198.51.100.20".toList 40000).conflict = true := by decide +kernel

end EphVerif.C34
