/-
C19 — proof-of-work checks accept exactly the nonces that meet the target.

Every theorem is stated for an arbitrary hash function `sha : List UInt8 → List UInt8` (nothing
about SHA-256 is used), for all field values, nonces and difficulties, and for digests of every
length (so in particular for the 32-byte digests and difficulties 0…255 of the property).
The literal 24 is the cap of the property statement; `caps` ties it to the regenerated constants.
-/
import EphVerif.Lemmas.C19

namespace EphVerif.C19
open EphVerif.Pow EphVerif.Spec.Pow EphVerif.C19L EphVerif.Gen

/-- the caps in the code are the 24 of the property statement (Node.cpp ×3, StoreProof.hpp) -/
theorem caps : C19.kMaxAnnouncePowDifficulty = 24 ∧ C19.kMaxHandshakePowDifficulty = 24 ∧
    C19.kNodeMaxStorePowDifficulty = 24 ∧ C19.kMaxStorePowDifficulty = 24 := by decide

/-- announce PoW is carried (and checked) from message version 3 on; file names are cut at 255 -/
theorem misc_constants : C19.kAnnounceMinPowVersion = 3 ∧ C19.kMaxFilenameLength = 255 := by decide

/-- `digest` has at least `k` leading zero bits iff, read as a big-endian number, it is below
    `2^(bits − k)` -/
theorem lz_spec (digest : List UInt8) (k : Nat) (hk : k ≤ 8 * digest.length) :
    k ≤ lz digest ↔ beVal digest < 2 ^ (8 * digest.length - k) := by
  have := bitLength_beVal_le digest
  rw [← bitLength_le_iff, lz]
  omega

/-- 32-byte form used in the property text -/
theorem lz_spec32 (digest : List UInt8) (h : digest.length = 32) (k : Nat) (hk : k ≤ 255) :
    k ≤ lz digest ↔ beVal digest < 2 ^ (256 - k) := by
  have := lz_spec digest k (by omega)
  rwa [h] at this

example : lz [0, 0, 0x1f, 0xff] = 19 := by decide +kernel
example : (19 ≤ lz [0, 0, 0x1f, 0xff]) ∧ ¬ (20 ≤ lz [0, 0, 0x1f, 0xff]) := by decide +kernel

theorem counters (digest : List UInt8) (d : Nat) :
    clzNode digest = lz digest ∧ clzStore digest = lz digest ∧ clzCli digest = lz digest ∧
    (meetsDifficulty digest d = true ↔ d ≤ lz digest) := by
  refine ⟨clzNode_eq_lz digest, clzStore_eq_lz digest, clzCli_eq_lz digest, ?_⟩
  rw [meets_eq, decide_eq_true_iff]

theorem counters_agree (digest : List UInt8) (d : Nat) :
    (d ≤ clzNode digest ↔ d ≤ clzStore digest) ∧ (d ≤ clzNode digest ↔ d ≤ clzCli digest) ∧
    (d ≤ clzNode digest ↔ meetsDifficulty digest d = true) := by
  obtain ⟨h1, h2, h3, h4⟩ := counters digest d
  rw [h1, h2, h3, h4]; simp

section accept
variable (sha : List UInt8 → List UInt8)

theorem accept_announce (a : AnnounceFields) (nonce d : Nat) :
    announcePowValid sha a nonce d = true ↔ meets sha (encAnnounce a nonce) d := by
  rw [announcePowValid, zero_or_le, clzNode_eq_lz, decide_eq_true_iff, meets]

theorem accept_handshake (h : HandshakeFields) (nonce d : Nat) :
    handshakePowValid sha h nonce d = true ↔ meets sha (encHandshake h nonce) d := by
  rw [handshakePowValid, zero_or_le, clzNode_eq_lz, decide_eq_true_iff, meets]

theorem accept_transport_cli (h : HandshakeFields) (nonce d : Nat) :
    transportPowValid sha h nonce d = true ↔ meets sha (encHandshake h nonce) d := by
  rw [transportPowValid, zero_or_le, clzCli_eq_lz, decide_eq_true_iff, meets]
  rfl

/-- store surface: the validator itself caps the difficulty at 24 -/
theorem accept_store (s : StoreFields) (nonce d : Nat) :
    storePowValid sha s nonce d = true ↔ meets sha (encStore s nonce) (capped d) := by
  rw [storePowValid, clzStore_eq_lz, caps.2.2.2, capTo_eq_min, meets]
  by_cases h0 : d = 0 <;> simp [h0, capped]

theorem accept_token (t : TokenFields) (nonce d : Nat) :
    tokenValid sha t nonce d = true ↔ meets sha (encToken t nonce) d := by
  rw [tokenValid, meets_eq, decide_eq_true_iff, meets]

/-- a node configured with `configured` bits accepts an announce (message version ≥ 3) exactly
    when the digest has `min configured 24` leading zero bits -/
theorem accept_node_announce (configured version : Nat) (hv : 3 ≤ version) (a : AnnounceFields) (nonce : Nat) :
    nodeVerifyAnnounce sha configured version a nonce = true ↔ meets sha (encAnnounce a nonce) (capped configured) := by
  rw [nodeVerifyAnnounce, nodeAnnounceDifficulty, caps.1, misc_constants.1, capTo_eq_min,
    if_neg (by omega : ¬ version < 3), ← accept_announce, announcePowValid]
  -- the node's own test for difficulty 0 repeats the validator's
  by_cases h0 : (capped configured == 0) = true
  · rw [if_pos h0, if_pos h0]
  · rw [if_neg h0]

/-- below version 3 the nonce is not on the wire: such announces are refused whenever work is required -/
theorem node_announce_old_version (configured version : Nat) (hv : version < 3) (a : AnnounceFields) (nonce : Nat) :
    nodeVerifyAnnounce sha configured version a nonce = decide (capped configured = 0) := by
  rw [nodeVerifyAnnounce, nodeAnnounceDifficulty, caps.1, misc_constants.1, capTo_eq_min, if_pos hv]
  by_cases h0 : capped configured = 0 <;> simp [h0]

theorem accept_node_handshake (configured : Nat) (h : HandshakeFields) (nonce : Nat) :
    nodeVerifyHandshake sha configured h nonce = true ↔ meets sha (encHandshake h nonce) (capped configured) := by
  rw [nodeVerifyHandshake, nodeHandshakeDifficulty, caps.2.1, capTo_eq_min, accept_handshake]

theorem cli_node_same_preimage (h : HandshakeFields) (nonce : Nat) :
    encTransportCli h nonce = encHandshake h nonce := rfl

theorem cli_node_agree (h : HandshakeFields) (nonce d : Nat) :
    transportPowValid sha h nonce d = handshakePowValid sha h nonce d :=
  Bool.eq_iff_iff.mpr ((accept_transport_cli sha h nonce d).trans (accept_handshake sha h nonce d).symm)

end accept

section solver
variable (sha : List UInt8 → List UInt8)

def draws {σ : Type} (next : σ → Nat × σ) : Nat → σ → List Nat
  | 0, _ => []
  | k + 1, s => (next s).1 :: draws next k (next s).2

theorem search_eq_find {σ : Type} (valid : Nat → Bool) (next : σ → Nat × σ) :
    ∀ (fuel : Nat) (s : σ), search valid next fuel s = (draws next fuel s).find? valid
  | 0, _ => rfl
  | fuel + 1, s => by
    rw [search, draws, List.find?_cons, ← search_eq_find valid next fuel]
    obtain ⟨c, s'⟩ := next s
    dsimp only
    cases valid c <;> rfl

theorem search_sound {σ : Type} {valid : Nat → Bool} {next : σ → Nat × σ} {fuel : Nat} {s : σ} {n : Nat}
    (h : search valid next fuel s = some n) : valid n = true :=
  List.find?_some (search_eq_find valid next fuel s ▸ h)

theorem search_complete {σ : Type} (valid : Nat → Bool) (next : σ → Nat × σ) (fuel : Nat) (s : σ)
    (h : search valid next fuel s = none) : ∀ c ∈ draws next fuel s, valid c = false := by
  rw [search_eq_find, List.find?_eq_none] at h
  exact fun c hc => Bool.eq_false_iff.mpr (h c hc)

theorem search_first {σ : Type} (valid : Nat → Bool) (next : σ → Nat × σ) (fuel : Nat) (s : σ) (n : Nat)
    (h : search valid next fuel s = some n) :
    ∃ pre post, draws next fuel s = pre ++ n :: post ∧ ∀ c ∈ pre, valid c = false := by
  rw [search_eq_find, List.find?_eq_some_iff_append] at h
  obtain ⟨_, pre, post, he, hp⟩ := h
  exact ⟨pre, post, he, fun c hc => by simpa using hp c hc⟩

/-- the shape of every solver: difficulty 0 needs no work (nonce 0, which the validator accepts like any
    other), otherwise the answer is a candidate that passed the validator -/
theorem guarded_search_sound {σ : Type} {valid : Nat → Bool} {next : σ → Nat × σ} {fuel : Nat} {s : σ} {d n : Nat}
    (h0 : d = 0 → valid 0 = true) (h : (if d == 0 then some 0 else search valid next fuel s) = some n) :
    valid n = true := by
  split at h
  · next hd => cases h; exact h0 (eq_of_beq hd)
  · exact search_sound h

theorem solver_announce (startOf : Nat → Nat) (a : AnnounceFields) (d n : Nat)
    (h : computeAnnouncePow sha startOf a d = some n) : announcePowValid sha a n d = true :=
  guarded_search_sound (valid := fun n => announcePowValid sha a n d) (fun h0 => by simp [announcePowValid, h0]) h

theorem solver_handshake (startOf : Nat → Nat) (hf : HandshakeFields) (d n : Nat)
    (h : computeHandshakePow sha startOf hf d = some n) : handshakePowValid sha hf n d = true :=
  guarded_search_sound (valid := fun n => handshakePowValid sha hf n d) (fun h0 => by simp [handshakePowValid, h0]) h

/-- the CLI's handshake work is accepted by the node's validator -/
theorem solver_transport_cli (startOf : Nat → Nat) (hf : HandshakeFields) (d n : Nat)
    (h : computeTransportPow sha startOf hf d = some n) : handshakePowValid sha hf n d = true := by
  rw [← cli_node_agree]
  exact guarded_search_sound (valid := fun n => transportPowValid sha hf n d)
    (fun h0 => by simp [transportPowValid, h0]) h

/-- store work (solved by the CLI with the library solver) is accepted by the daemon's validator
    at the same configured difficulty -/
theorem solver_store {σ : Type} (init : Nat → σ) (next : σ → Nat × σ) (s : StoreFields) (d maxAttempts n : Nat)
    (h : computeStorePow sha init next s d maxAttempts = some n) : storePowValid sha s n d = true := by
  -- the solver validates at the capped difficulty, where the validator caps once more
  have hv := guarded_search_sound (valid := fun n => storePowValid sha s n (capTo C19.kMaxStorePowDifficulty d))
    (fun h0 => by simp [storePowValid, capTo, h0]) h
  rw [accept_store] at hv ⊢
  rwa [caps.2.2.2, capTo_eq_min, capped, capped, Nat.min_assoc, Nat.min_self] at hv

theorem solver_token (t : TokenFields) (d maxAttempts n : Nat)
    (h : solveToken sha t d maxAttempts = some n) : tokenValid sha t n d = true := by
  unfold solveToken at h
  by_cases h0 : d = 0
  · simp [tokenValid, meetsDifficulty, h0]
  · simp only [beq_iff_eq, h0, if_false] at h
    split at h
    · cases h
    · exact search_sound (valid := fun n => tokenValid sha t n d) h

-- non-vacuity: solvers do return nonces (toy hashes: every digest is all zero bytes / one 0x01 byte)
example : solveToken (fun _ => [0, 0]) ⟨[], [], [1]⟩ 16 5 = some 0 := by decide
example : computeStorePow (fun _ => [0, 0]) id (fun s => (s, s + 1)) ⟨[], 0, []⟩ 9 0 = some 0 := by decide
example : computeHandshakePow (fun _ => [0, 0, 0, 0, 0, 0, 0, 0]) id ⟨[], [], 2⟩ 3 = some 0 := by decide
example : solveToken (fun _ => [1]) ⟨[], [], [1]⟩ 8 3 = none := by decide

end solver

/-- what the C++ types guarantee about an announce payload -/
structure AnnounceWF (a : AnnounceFields) : Prop where
  chunk : a.chunkId.length < 2 ^ 64
  peer : a.peerId.length < 2 ^ 64
  endpoint : a.endpoint.length < 2 ^ 64
  uri : a.manifestUri.length < 2 ^ 64
  shards : a.shards.length < 2 ^ 64
  ttl : -9223372036854775808 ≤ a.ttl ∧ a.ttl < 9223372036854775808

theorem binding_announce (a a' : AnnounceFields) (n n' : Nat) (ha : AnnounceWF a) (ha' : AnnounceWF a')
    (hn : n < 2 ^ 64) (hn' : n' < 2 ^ 64) (h : encAnnounce a n = encAnnounce a' n') : a = a' ∧ n = n' := by
  unfold encAnnounce at h
  obtain ⟨e1, h⟩ := lp8_append_inj ha.chunk ha'.chunk h
  obtain ⟨e2, h⟩ := lp8_append_inj ha.peer ha'.peer h
  obtain ⟨e3, h⟩ := lp8_append_inj ha.endpoint ha'.endpoint h
  obtain ⟨e4, h⟩ := lp8_append_inj ha.uri ha'.uri h
  obtain ⟨e5, h⟩ := lp8_append_inj ha.shards ha'.shards h
  obtain ⟨e6, h⟩ := be8_append_inj (u64OfInt_lt _) (u64OfInt_lt _) h
  have e7 := be8_inj hn hn' h
  have e6' := u64OfInt_inj ha.ttl ha'.ttl e6
  -- all fields agree
  cases a; cases a'
  dsimp only at e1 e2 e3 e4 e5 e6'
  subst e1 e2 e3 e4 e5 e6'
  exact ⟨rfl, e7⟩

theorem binding_handshake (x x' : HandshakeFields) (n n' : Nat)
    (h1 : x.initiator.length < 2 ^ 64) (h1' : x'.initiator.length < 2 ^ 64)
    (h2 : x.responder.length < 2 ^ 64) (h2' : x'.responder.length < 2 ^ 64)
    (hp : x.initiatorPublic < 2 ^ 64) (hp' : x'.initiatorPublic < 2 ^ 64)
    (hn : n < 2 ^ 64) (hn' : n' < 2 ^ 64) (h : encHandshake x n = encHandshake x' n') : x = x' ∧ n = n' := by
  unfold encHandshake at h
  obtain ⟨e1, h⟩ := lp8_append_inj h1 h1' h
  obtain ⟨e2, h⟩ := lp8_append_inj h2 h2' h
  obtain ⟨e3, h⟩ := be8_append_inj hp hp' h
  have e4 := be8_inj hn hn' h
  cases x; cases x'
  dsimp only at e1 e2 e3
  subst e1 e2 e3
  exact ⟨rfl, e4⟩

/-- store: raw 32-byte chunk id, fixed-width size, prefixed hint, fixed-width nonce.  No bound on
    the hint is needed: the nonce at the end has fixed width, so the hint is delimited on both sides
    even where the 4-byte length saturates. -/
theorem binding_store (s s' : StoreFields) (n n' : Nat) (hc : s.chunkId.length = s'.chunkId.length)
    (hs : s.payloadSize < 2 ^ 64) (hs' : s'.payloadSize < 2 ^ 64)
    (hn : n < 2 ^ 64) (hn' : n' < 2 ^ 64) (h : encStore s n = encStore s' n') : s = s' ∧ n = n' := by
  unfold encStore lp4 at h
  have h1 := List.append_inj h hc
  obtain ⟨e2, h2⟩ := be8_append_inj hs hs' h1.2
  rw [List.append_assoc, List.append_assoc] at h2
  have h3 := List.append_inj h2 (by simp)
  have h4 := List.append_inj' h3.2 (by simp)
  have e4 := be8_inj hn hn' h4.2
  have e1 := h1.1
  have e3 := h4.1
  cases s; cases s'
  dsimp only at e1 e2 e3
  subst e1 e2 e3
  exact ⟨rfl, e4⟩

/-- bootstrap token: two 32-byte ids, the endpoint, fixed-width nonce -/
theorem binding_token (t t' : TokenFields) (n n' : Nat) (hc : t.chunkId.length = t'.chunkId.length)
    (hh : t.chunkHash.length = t'.chunkHash.length)
    (hn : n < 2 ^ 64) (hn' : n' < 2 ^ 64) (h : encToken t n = encToken t' n') : t = t' ∧ n = n' := by
  unfold encToken at h
  have h1 := List.append_inj h hc
  have h2 := List.append_inj h1.2 hh
  have h3 := List.append_inj' h2.2 (by simp)
  have e4 := be8_inj hn hn' h3.2
  have e1 := h1.1
  have e2 := h2.1
  have e3 := h3.1
  cases t; cases t'
  dsimp only at e1 e2 e3
  subst e1 e2 e3
  exact ⟨rfl, e4⟩

-- non-vacuity of the hypotheses of the binding theorems
example : AnnounceWF ⟨[1], [2], [3], [4], [5], -1⟩ := by
  constructor <;> simp <;> decide

theorem wire_identity (v : List UInt8) (h : ∀ b ∈ v, b ≠ 10 ∧ b ≠ 13) : wireValue v = v := by
  induction v with
  | nil => rfl
  | cons x xs ih =>
    have hx := h x List.mem_cons_self
    have ih := ih fun b hb => h b (List.mem_cons_of_mem x hb)
    unfold wireValue at ih ⊢
    rw [List.takeWhile_cons, if_pos (by simpa using hx.1), List.filter_cons, if_pos (by simpa using hx.2), ih]

/-- for every path (any bytes, CR/LF included) the daemon derives from the PATH field it receives
    the very filename hint the CLI hashed, so a CLI-solved store nonce is checked against the same
    preimage -/
theorem cli_daemon_hint_agree (path : List UInt8) : daemonHint path = cliHint path := by
  unfold daemonHint cliHint
  rw [wire_identity]
  intro b hb
  simp only [cliWirePath, List.mem_filter, Bool.and_eq_true, bne_iff_ne, ne_eq] at hb
  exact ⟨hb.2.1, hb.2.2⟩

/-- why the CLI has to strip CR/LF first: without it the two sides disagree, e.g. on `a\rb` -/
theorem hint_disagrees_without_strip :
    sanitizeFilenameHint (wireValue [97, 13, 98]) ≠ sanitizeFilenameHint [97, 13, 98] := by decide

end EphVerif.C19
