/-
C08, group (C), continued: `Spec.hmacSha256` reproduces RFC 4231 test cases 1-4 (6 and 7, the
long-key cases, are in Proofs/C08VectorsHmacLong.lean; case 5 is about truncated output, which
the code does not offer).  Checked by evaluation inside the Lean kernel (`decide +kernel`) of
`C08Eval.hmac`, equal to `Spec.hmacSha256` for every input (Lemmas/C08Eval.lean).
-/
import EphVerif.Lemmas.C08Eval

namespace EphVerif.C08

/-- RFC 4231 test case 1: `b0344c61d8db38535ca8afceaf0bf12b881dc200c9833da726e9376c2e32cff7` -/
theorem vector_hmac_rfc4231_1 :
    Spec.hmacSha256
      [0x0b, 0x0b, 0x0b, 0x0b, 0x0b, 0x0b, 0x0b, 0x0b, 0x0b, 0x0b, 0x0b, 0x0b, 0x0b, 0x0b, 0x0b, 0x0b, 0x0b,
      0x0b, 0x0b, 0x0b]
      [0x48, 0x69, 0x20, 0x54, 0x68, 0x65, 0x72, 0x65] =
      [0xb0, 0x34, 0x4c, 0x61, 0xd8, 0xdb, 0x38, 0x53, 0x5c, 0xa8, 0xaf, 0xce, 0xaf, 0x0b, 0xf1, 0x2b, 0x88,
      0x1d, 0xc2, 0x00, 0xc9, 0x83, 0x3d, 0xa7, 0x26, 0xe9, 0x37, 0x6c, 0x2e, 0x32, 0xcf, 0xf7] := by
  rw [C08Eval.hmac_eq]
  decide +kernel

/-- RFC 4231 test case 2: `5bdcc146bf60754e6a042426089575c75a003f089d2739839dec58b964ec3843` -/
theorem vector_hmac_rfc4231_2 :
    Spec.hmacSha256
      [0x4a, 0x65, 0x66, 0x65]
      [0x77, 0x68, 0x61, 0x74, 0x20, 0x64, 0x6f, 0x20, 0x79, 0x61, 0x20, 0x77, 0x61, 0x6e, 0x74, 0x20, 0x66,
      0x6f, 0x72, 0x20, 0x6e, 0x6f, 0x74, 0x68, 0x69, 0x6e, 0x67, 0x3f] =
      [0x5b, 0xdc, 0xc1, 0x46, 0xbf, 0x60, 0x75, 0x4e, 0x6a, 0x04, 0x24, 0x26, 0x08, 0x95, 0x75, 0xc7, 0x5a,
      0x00, 0x3f, 0x08, 0x9d, 0x27, 0x39, 0x83, 0x9d, 0xec, 0x58, 0xb9, 0x64, 0xec, 0x38, 0x43] := by
  rw [C08Eval.hmac_eq]
  decide +kernel

/-- RFC 4231 test case 3: `773ea91e36800e46854db8ebd09181a72959098b3ef8c122d9635514ced565fe` -/
theorem vector_hmac_rfc4231_3 :
    Spec.hmacSha256
      [0xaa, 0xaa, 0xaa, 0xaa, 0xaa, 0xaa, 0xaa, 0xaa, 0xaa, 0xaa, 0xaa, 0xaa, 0xaa, 0xaa, 0xaa, 0xaa, 0xaa,
      0xaa, 0xaa, 0xaa]
      [0xdd, 0xdd, 0xdd, 0xdd, 0xdd, 0xdd, 0xdd, 0xdd, 0xdd, 0xdd, 0xdd, 0xdd, 0xdd, 0xdd, 0xdd, 0xdd, 0xdd,
      0xdd, 0xdd, 0xdd, 0xdd, 0xdd, 0xdd, 0xdd, 0xdd, 0xdd, 0xdd, 0xdd, 0xdd, 0xdd, 0xdd, 0xdd, 0xdd, 0xdd,
      0xdd, 0xdd, 0xdd, 0xdd, 0xdd, 0xdd, 0xdd, 0xdd, 0xdd, 0xdd, 0xdd, 0xdd, 0xdd, 0xdd, 0xdd, 0xdd] =
      [0x77, 0x3e, 0xa9, 0x1e, 0x36, 0x80, 0x0e, 0x46, 0x85, 0x4d, 0xb8, 0xeb, 0xd0, 0x91, 0x81, 0xa7, 0x29,
      0x59, 0x09, 0x8b, 0x3e, 0xf8, 0xc1, 0x22, 0xd9, 0x63, 0x55, 0x14, 0xce, 0xd5, 0x65, 0xfe] := by
  rw [C08Eval.hmac_eq]
  decide +kernel

/-- RFC 4231 test case 4: `82558a389a443c0ea4cc819899f2083a85f0faa3e578f8077a2e3ff46729665b` -/
theorem vector_hmac_rfc4231_4 :
    Spec.hmacSha256
      [0x01, 0x02, 0x03, 0x04, 0x05, 0x06, 0x07, 0x08, 0x09, 0x0a, 0x0b, 0x0c, 0x0d, 0x0e, 0x0f, 0x10, 0x11,
      0x12, 0x13, 0x14, 0x15, 0x16, 0x17, 0x18, 0x19]
      [0xcd, 0xcd, 0xcd, 0xcd, 0xcd, 0xcd, 0xcd, 0xcd, 0xcd, 0xcd, 0xcd, 0xcd, 0xcd, 0xcd, 0xcd, 0xcd, 0xcd,
      0xcd, 0xcd, 0xcd, 0xcd, 0xcd, 0xcd, 0xcd, 0xcd, 0xcd, 0xcd, 0xcd, 0xcd, 0xcd, 0xcd, 0xcd, 0xcd, 0xcd,
      0xcd, 0xcd, 0xcd, 0xcd, 0xcd, 0xcd, 0xcd, 0xcd, 0xcd, 0xcd, 0xcd, 0xcd, 0xcd, 0xcd, 0xcd, 0xcd] =
      [0x82, 0x55, 0x8a, 0x38, 0x9a, 0x44, 0x3c, 0x0e, 0xa4, 0xcc, 0x81, 0x98, 0x99, 0xf2, 0x08, 0x3a, 0x85,
      0xf0, 0xfa, 0xa3, 0xe5, 0x78, 0xf8, 0x07, 0x7a, 0x2e, 0x3f, 0xf4, 0x67, 0x29, 0x66, 0x5b] := by
  rw [C08Eval.hmac_eq]
  decide +kernel

end EphVerif.C08
