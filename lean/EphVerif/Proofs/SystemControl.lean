/-
SystemControl — the control plane end to end: `eph store` → daemon → `eph list` / `eph fetch`.

A composition of proved properties; nothing of the components is re-proved.  Imported:
C27 (`gate`, `gate_stream`, `token_compare_exact`), C28 (`admit_*`, the handler model), C29
(`roundtrip`, `list`), C19 (`cli_daemon_hint_agree`, `wire_identity`, `solver_store`), C02
(`control`), C01 (`listing`, `reads_exact`), C11 (`roundtrip`, `held_bytes`), C30 (`only_matching`,
`honest_local`), C31 (`name_cli`, `child_cli`).
-/
import EphVerif.Lemmas.SystemControlFrame
import EphVerif.Lemmas.SystemControlExample

namespace EphVerif.SystemControl
open EphVerif EphVerif.Control EphVerif.System.Control

section
variable {ν : Type} (sha : Control.Bytes → Control.Bytes) (ops : NodeOps ν) (cfg : Config)

/-- **cli_store_accepted.**  For every file path (any bytes), non-empty payload within the cap, TTL choice inside the
    window, configured token (any bytes without CR/LF), every candidate stream from which the library solver returns a
    nonce, and a free rate slot: the bytes `ControlClient::send` writes for `eph store` are parsed (C28's parser), pass the
    token gate (C27), the TTL window (C02's generated test), the proof-of-work validator (C19: the daemon derives the very
    hint the CLI hashed and accepts the solver's nonce) and `store_chunk` runs with that payload, TTL and hint. -/
theorem cli_store_accepted {σ : Type} (now : Int) (addr : Control.Bytes) (st : ServerState ν) (c : CliStore)
    (init : Nat → σ) (next : σ → Nat × σ) (maxAttempts nonce : Nat)
    (htok : c.token = cfg.token) (hw : CliStoreWireOk c nonce)
    (hpay : c.payload ≠ []) (hcap : c.payload.length ≤ cfg.cap) (h64 : c.payload.length < 18446744073709551616)
    (httl : TtlOk cfg c.ttl) (hmax : cfg.maxTtl < 9223372036854775808)
    (hsolve : Pow.computeStorePow sha init next (cliWork sha c) (cliDifficulty cfg.powDifficulty) maxAttempts = some nonce)
    (hrate : (allowStore now (st.storeHist (rateIdentity cfg addr))).1 = true) :
    handleClient sha ops cfg now addr st
        (clientBytes (cliStoreHeaders c nonce ++ [(ascii "PAYLOAD-LENGTH", toDec c.payload.length)]) c.payload) =
      (afterStore ops cfg now addr st c.payload (ttlOf cfg c.ttl) (Pow.cliHint c.path),
       some { success := true, code := "OK_STORE", stored := some (c.payload, ttlOf cfg c.ttl, Pow.cliHint c.path) }) := by
  unfold handleClient
  rw [cli_store_bytes_parse hw hpay hcap h64]
  simp only [cli_store_admitted sha ops cfg (cliStoreRequest_spec c nonce) htok hcap httl hmax hsolve hw.nonce hrate]

/-- the same for every order in which the client's map emits its fields: any parsed request with the CLI's lookups -/
theorem cli_store_accepted_any_order {σ : Type} (now : Int) (addr : Control.Bytes) (st : ServerState ν) (c : CliStore) (req : Request)
    (init : Nat → σ) (next : σ → Nat × σ) (maxAttempts nonce : Nat)
    (hr : IsCliStore c nonce req) (htok : c.token = cfg.token) (hcap : c.payload.length ≤ cfg.cap)
    (httl : TtlOk cfg c.ttl) (hmax : cfg.maxTtl < 9223372036854775808)
    (hsolve : Pow.computeStorePow sha init next (cliWork sha c) (cliDifficulty cfg.powDifficulty) maxAttempts = some nonce)
    (hn64 : nonce < 18446744073709551616)
    (hrate : (allowStore now (st.storeHist (rateIdentity cfg addr))).1 = true) :
    (handleRequest sha ops cfg now addr st req).2.code = "OK_STORE" ∧
      Admitted sha cfg req (handleRequest sha ops cfg now addr st req).2 := by
  have h := cli_store_admitted sha ops cfg hr htok hcap httl hmax hsolve hn64 hrate
  have hc : (handleRequest sha ops cfg now addr st req).2.code = "OK_STORE" := by rw [h]
  exact ⟨hc, C28.admit_request sha ops cfg now addr st req hc⟩

end

/-- **cli_store_response_intact.**  The OK_STORE response (CODE, MANIFEST, SIZE, TTL, SOURCE in any order) reaches the
    CLI as sent: the manifest URI it prints is the one the daemon issued (C29.roundtrip). -/
theorem cli_store_response_intact (limit : Nat) (manifestUri source : Control.Bytes) (size ttl : Nat) (emitted : Fields)
    (hlines : LinesOk clientMaxLine (ascii "MANIFEST") manifestUri ∧ LinesOk clientMaxLine (ascii "SOURCE") source)
    (hsize : size < 18446744073709551616) (httl : ttl < 18446744073709551616)
    (hperm : emitted.Perm (storeResponse manifestUri source size ttl).wireFields) :
    let r := parseResponse limit (serialise true emitted [])
    r.success = true ∧ getField r.fields (ascii "MANIFEST") = some manifestUri ∧
      getField r.fields (ascii "CODE") = some (ascii "OK_STORE") ∧ getField r.fields (ascii "SIZE") = some (toDec size) ∧
      r.hasPayload = false := by
  have he := storeResponse_emittable limit manifestUri source size ttl hlines hsize httl
  intro r
  have hr : r = { success := true, fields := emitted, hasPayload := false, payload := [] } :=
    C29.roundtrip limit (storeResponse manifestUri source size ttl) emitted he hperm
  have hget {k v : Control.Bytes} (hm : (k, v) ∈ (storeResponse manifestUri source size ttl).fields) :
      getField emitted k = some v := getField_of_perm hperm he.nodup hm
  rw [hr]
  exact ⟨rfl, hget (by simp [storeResponse]), hget (by simp [storeResponse]), hget (by simp [storeResponse]), rfl⟩

/-- **cli_store_ttl_window.**  Conversely, over all 2^64 values a TTL header can carry: whenever the handler's TTL test
    lets a header through, the header lies inside the window as a number (C02.control, generated from the source;
    `cfg` being what `sanitize_config` leaves of some configuration). -/
theorem cli_store_ttl_window (cfg : Config) (c : Gen.C02.Cfg) (hc : agreesWith cfg c) (n : Nat) (h : n < 18446744073709551616)
    (hadm : ttlOutOfRange cfg (secondsOfU64 n) = false) : cfg.minTtl ≤ (n : Int) ∧ (n : Int) ≤ cfg.maxTtl := by
  have hd := ttl_decision_eq hc h
  rw [hadm, if_neg Bool.false_ne_true] at hd
  rw [hc.1, hc.2.1]
  exact C02.control c n h _ hd.symm

section
open EphVerif.ChunkStore (World NodeCfg FS nodeList runModel runSpec fresh freshSpec paramsOf SaneCfg storesId)

/-- **store_then_list.**  The daemon's chunk store as C01 models it, after any history `pre`, an admitted STORE of `payload`
    (C01's `nstore` with the TTL the control plane admitted), and any later history `post` that does not store the same id again
    (lookups, fetches, peer requests, listings, sweeps, ticks, clock advances, stores of other chunks): what `eph list`
    prints from the LIST response — for every emission order of its three fields — is the count line followed by exactly one line
    per row of the snapshot (C29.list), and the stored chunk's id is among the rows exactly while
    `now < (instant of the STORE) + effective TTL` (C01.listing). -/
theorem store_then_list (nc : NodeCfg) (hs : SaneCfg nc) (t0 : Int) (fs : FS) (pre post : List StoreSpec.Op)
    (idOf : Control.Bytes → String) (sealOf : Control.Bytes → StoreSpec.Bytes × StoreSpec.Bytes)
    (payload : Control.Bytes) (ttl : Int) (hint : Option Control.Bytes) (limit : Nat) (emitted : Fields)
    (hpost : ∀ o ∈ post, storesId (idOf payload) o = false) :
    let w := runModel nc ((chunkStoreOps nc idOf sealOf).store (runModel nc (fresh t0 fs) pre) payload ttl hint) post
    let tStore := (runSpec (paramsOf nc) (freshSpec t0) pre).now
    (∀ e ∈ listSnapshot w, EntryValid e) → (listSnapshot w).length < 18446744073709551616 →
    emitted.Perm (handleList (listSnapshot w)).wireFields →
      printList (parseResponse limit (serialise true emitted [])) =
        (ascii "Local chunks: " ++ toDec (listSnapshot w).length) :: (listSnapshot w).map cliLine ∧
      (idOf payload ∈ (nodeList w.sys.recs w.now).map (·.1) ↔
        w.now < tStore + StoreSpec.effNode (paramsOf nc) ttl * StoreSpec.nsPerSec) := by
  intro w tStore hvalid hcount hperm
  refine ⟨C29.list limit (listSnapshot w) emitted hvalid hcount hperm, ?_⟩
  -- the daemon's store is C01's model after `pre ++ [nstore …] ++ post`: C01.listing, at C01's instant
  rw [show w = _ from store_extends_history nc idOf sealOf t0 fs pre post payload ttl hint]
  refine (C01.listing nc hs t0 fs _ (idOf payload)).trans ?_
  rw [(C01.reads_exact nc hs t0 fs _ (idOf payload)).1]
  exact live_after_nstore _ _ pre post _ _ _ _ ttl hpost

end

section
open EphVerif.StorePipeline (NodeState fetchChunk storeChunk)

/-- **store_then_fetch (daemon side).**  The daemon's node as C11 models it; after an admitted STORE of `payload` (any key
    and nonce draws with a non-zero 32-byte key), the CLI's `FETCH MANIFEST:<uri> STREAM:client` with the configured token is
    answered OK_FETCH with exactly the stored payload (C27: the gate lets it through; C11.roundtrip: the local lookup
    decrypts to the payload), provided the URI decodes to the chunk's id, its registration succeeds and leaves the lookup of
    that chunk as it was, a rate slot is free and the payload is within the cap. -/
theorem store_then_fetch_daemon (pcfg : StorePipeline.Config) (hcfg : C11.ShardCfg pcfg) (wall : Int) (draws : Control.Bytes → Draws)
    (rkFetch : Control.Bytes) (decode : Control.Bytes → Option Control.Bytes) (ingest : NodeState → Control.Bytes → Option NodeState)
    (cfg : Config) (now now' : Int) (addr : Control.Bytes) (st : ServerState NodeState)
    (payload : Control.Bytes) (ttl : Int) (hint : Option Control.Bytes) (uri : Control.Bytes) (req : Request) (node' : NodeState)
    (hkey : C11.ChunkKey (draws payload).key) :
    let ops := pipelineOps pcfg wall draws rkFetch decode ingest
    let st1 := afterStore ops cfg now addr st payload ttl hint
    IsCliFetch cfg.token uri req → decode uri = some (Spec.sha256 payload) →
    ingest st1.node uri = some node' →
    (∀ rk, fetchChunk node' (Spec.sha256 payload) rk = fetchChunk st1.node (Spec.sha256 payload) rk) →
    (allowFetch now' (st1.fetchHist (rateIdentity cfg addr))).1 = true → payload.length ≤ cfg.cap →
    (handleRequest Spec.sha256 ops cfg now' addr st1 req).2 = { success := true, code := "OK_FETCH", streamed := some payload } := by
  intro ops st1 hr hdec hing hframe hrate hcap
  obtain ⟨r, _, hstore, _, hlocal, _, _⟩ := C11.roundtrip pcfg hcfg st.node wall (Spec.sha256 payload) payload ttl
    (draws payload).key (draws payload).nonce (draws payload).rk (draws payload).rd hkey
  have hnode : st1.node = r.node := by
    show (pipelineOps pcfg wall draws rkFetch decode ingest).store st.node payload ttl hint = r.node
    simp only [pipelineOps, hstore]
  have hfetch : ops.fetch node' (Spec.sha256 payload) = some payload := by
    show (match fetchChunk node' (Spec.sha256 payload) rkFetch with | .value o => o | _ => none) = some payload
    rw [hframe rkFetch, hnode, hlocal rkFetch]
  rw [cli_fetch_streams Spec.sha256 ops cfg hr hdec hing hfetch hrate hcap]

/-- **store_then_fetch (CLI side).**  The manifest issued for the stored payload carries `h = SHA-256(payload)` (C11.held_bytes).
    Whatever order the daemon's response fields are emitted in, `eph fetch` receives the payload itself from the local
    daemon (C29.roundtrip).  For every discovery mode, every list of hint paths with arbitrary priorities and whatever any
    endpoint answers: a file is written only with bytes hashing to `h` (C30.only_matching); and when no direct path
    delivers and no direct-only mode was requested, the file written is exactly the stored payload and the command succeeds
    (C30.honest_local). -/
theorem store_then_fetch_cli (pcfg : StorePipeline.Config) (hcfg : C11.ShardCfg pcfg) (stA : NodeState) (wall : Int)
    (payload : Control.Bytes) (ttl : Int) (d : Draws) (hkey : C11.ChunkKey d.key) (hn : d.nonce.length = 12)
    (limit : Nat) (emitted : Fields) (hlim : payload.length ≤ limit) (h64 : payload.length < 18446744073709551616)
    (hperm : emitted.Perm (fetchResponse payload).wireFields) :
    ∃ r, storeChunk pcfg stA wall (Spec.sha256 payload) payload ttl d.key d.nonce d.rk d.rd = .value r ∧
      r.manifest.chunkHash = Spec.sha256 payload ∧
      respOf (parseResponse limit (serialise true emitted payload)) = .payload payload ∧
      (∀ (mode : CliFetch.Mode) (paths : List CliFetch.Path) (li : Nat) (loc : CliFetch.Resp) (b : Control.Bytes),
        (CliFetch.fetch Spec.sha256 mode r.manifest.chunkHash paths li loc).file = some b → Spec.sha256 b = Spec.sha256 payload) ∧
      (∀ (mode : CliFetch.Mode) (paths : List CliFetch.Path) (li : Nat),
        (CliFetch.run Spec.sha256 r.manifest.chunkHash (CliFetch.directOrder mode paths)).1 = .next → mode.directOnly = false →
        (CliFetch.fetch Spec.sha256 mode r.manifest.chunkHash paths li
            (respOf (parseResponse limit (serialise true emitted payload)))).file = some payload ∧
        (CliFetch.fetch Spec.sha256 mode r.manifest.chunkHash paths li
            (respOf (parseResponse limit (serialise true emitted payload)))).exit = 0) := by
  obtain ⟨r, _, hstore, _, _, _, _, _, _, hhash, _⟩ := C11.held_bytes pcfg hcfg stA wall (Spec.sha256 payload) payload ttl
    d.key d.nonce d.rk d.rd hkey hn
  have hresp := fetch_response_intact hlim h64 hperm
  refine ⟨r, hstore, hhash, hresp, ?_, ?_⟩
  · intro mode paths li loc b hw
    rw [hhash] at hw
    exact C30.only_matching Spec.sha256 mode _ paths li loc b hw
  · intro mode paths li hdirect hmode
    rw [hresp, hhash] at *
    exact C30.honest_local Spec.sha256 mode _ paths li payload hdirect hmode rfl

/-- **store_then_fetch (where the file lands).**  Whatever file name the manifest suggests and whatever directory was chosen:
    the name `eph fetch` uses is empty (then the hex chunk id is used) or safe, and the file it creates is a direct child of
    the chosen directory carrying exactly that name (C31). -/
theorem store_then_fetch_name (dir candidate : Control.Bytes) :
    Spec.Filename.acceptable (Filename.cliSanitize candidate) = true ∧
    (Filename.cliSanitize candidate ≠ [] →
      Filename.parentPath (Filename.join dir (Filename.cliSanitize candidate)) = Filename.normDir dir ∧
      Filename.filename (Filename.join dir (Filename.cliSanitize candidate)) = Filename.cliSanitize candidate) :=
  ⟨C31.name_cli candidate, C31.child_cli dir candidate⟩

end

section
variable {ν : Type} (sha : Control.Bytes → Control.Bytes) (ops : NodeOps ν) (cfg : Config)

/-- **unauthenticated_is_inert.**  A daemon with a configured token `t`; any history of clock advances and connections
    (any addresses, any bytes).  Deleting every connection that does not present `TOKEN:t` — unauthenticated STORE, FETCH,
    STOP and anything else, malformed streams included — changes neither the final instant and state of the daemon
    (chunks, manifests, files, rate buckets, stop counter, transport flag: it keeps running exactly as it would) nor the
    reply to any authenticated connection.  So everything the theorems above say about what an authenticated client obtains from a state
    holds for the state reached through any such interleaving (C27.gate as a frame property). -/
theorem unauthenticated_is_inert (t : Control.Bytes) (ht : cfg.token = some t) (evs : List Event) (now : Int) (st : ServerState ν) :
    (runView sha ops cfg now st evs).2 = (runView sha ops cfg now st (evs.filter (authenticated t))).2 ∧
    (runView sha ops cfg now st evs).1.filter (fun p => authenticated t p.1) =
      (runView sha ops cfg now st (evs.filter (authenticated t))).1 :=
  runView_frame sha ops cfg t ht evs now st

/-- in particular a history made of unauthenticated connections only leaves the daemon as it was: nothing stored,
    registered or written, no rate slot used, not stopped -/
theorem only_unauthenticated_changes_nothing (t : Control.Bytes) (ht : cfg.token = some t) (conns : List (Control.Bytes × Control.Bytes))
    (hun : ∀ c ∈ conns, Spec.Control.presentsToken (splitBy 10 c.2 []) t = false) (now : Int) (st : ServerState ν) :
    (runView sha ops cfg now st (conns.map fun c => Event.connect c.1 c.2)).2 = (now, st) := by
  have h := (runView_frame sha ops cfg t ht (conns.map fun c => Event.connect c.1 c.2) now st).1
  have hf : (conns.map fun c => Event.connect c.1 c.2).filter (authenticated t) = [] := by
    rw [List.filter_eq_nil_iff]
    intro e he
    obtain ⟨c, hc, rfl⟩ := List.mem_map.mp he
    simp [authenticated, hun c hc]
  rw [h, hf]
  rfl

/-- the histories of C28.rate likewise -/
theorem unauthenticated_is_inert_events (t : Control.Bytes) (ht : cfg.token = some t) (evs : List Event) (now : Int) (st : ServerState ν) :
    (runEvents sha ops cfg now st [] evs).1 = (runEvents sha ops cfg now st [] (evs.filter (authenticated t))).1 ∧
    (runEvents sha ops cfg now st [] evs).2.1 = (runEvents sha ops cfg now st [] (evs.filter (authenticated t))).2.1 := by
  have h := (runView_frame sha ops cfg t ht evs now st).1
  rw [← runEvents_final sha ops cfg evs now st [], ← runEvents_final sha ops cfg _ now st []] at h
  exact Prod.mk.inj h

end

/-! ## non-vacuity (kernel evaluation with the real SHA-256, ChaCha20 and Shamir models; the inputs are in
`Lemmas/SystemControlExample.lean`) -/

namespace Example

/-- the hypotheses of `cli_store_accepted` are met: the solver (candidates 0, 1, 2, …) returns 14 at difficulty 4, … -/
example : Pow.computeStorePow Spec.sha256 (fun _ => (0 : Nat)) Pow.countingStream (cliWork Spec.sha256 cA)
    (cliDifficulty cfgA.powDifficulty) 0 = some 14 := solveA

/-- … the inputs fit the framing and the window, … -/
example : CliStoreWireOk cA 14 ∧ TtlOk cfgA cA.ttl ∧ cA.token = cfgA.token ∧ Pow.cliHint cA.path = some (ascii "ab.txt") :=
  ⟨wireA, ttlA, rfl, by decide⟩

/-- … and the conclusion is what the model computes on those bytes; the solver's nonce matters (13 is refused) -/
example :
    (handleClient Spec.sha256 C28.unitOps cfgA 0 (ascii "127.0.0.1") (ServerState.init ()) (bytesA 14)).2.map (·.code)
      = some "OK_STORE" ∧
    (handleClient Spec.sha256 C28.unitOps cfgA 0 (ascii "127.0.0.1") (ServerState.init ()) (bytesA 13)).2.map (·.code)
      = some "ERR_STORE_POW_INVALID" := by
  have h14 := cli_store_accepted Spec.sha256 C28.unitOps cfgA 0 (ascii "127.0.0.1") (ServerState.init ()) cA _ _ 0 14 rfl wireA
    (by decide) (by decide) (by decide) ttlA (by decide) solveA (by decide)
  rw [bytesA, h14, sha256_eval]
  exact ⟨rfl, by decide +kernel⟩

example : (∀ e ∈ listSnapshot wList, EntryValid e) ∧ (listSnapshot wList).length = 1 ∧
    printList (parseResponse 4096 (serialise true (handleList (listSnapshot wList)).wireFields [])) =
      [ascii "Local chunks: 1",
       ascii "  ID=aaaaaaaaaaaaaaaaaaaaaaaaaaaaaaaaaaaaaaaaaaaaaaaaaaaaaaaaaaaaaaaa size=2 bytes, state=encrypted, ttl=40s"] := by
  have hvalid : ∀ e ∈ listSnapshot wList, EntryValid e := by
    rw [snapshotA]
    exact List.forall_mem_singleton.mpr ⟨by decide, by decide, by decide, by decide⟩
  refine ⟨hvalid, by rw [snapshotA]; rfl, ?_⟩
  -- what is printed is C29.list's; only the rendering of the one row is evaluated
  rw [C29.list 4096 _ _ hvalid (by rw [snapshotA]; decide) (.refl _), snapshotA]
  repeat rw [ascii_ofList]
  decide +kernel

example : C11.ShardCfg pcfg ∧ C11.ChunkKey draws.key ∧ draws.nonce.length = 12 ∧ IsCliFetch cfgA.token (ascii "eph://m") fetchReq :=
  ⟨shardP, keyP, by decide, isFetchReq⟩

/-- `store_then_fetch_daemon` at these inputs: the URI decodes to the chunk's id, registration leaves the node as it is -/
example : (handleRequest Spec.sha256 opsP cfgA 5 (ascii "127.0.0.1")
    (afterStore opsP cfgA 0 (ascii "127.0.0.1") (ServerState.init {}) (ascii "hi") 45 none) fetchReq).2.streamed
      = some (ascii "hi") := by
  unfold opsP
  rw [store_then_fetch_daemon pcfg shardP 0 (fun _ => draws) _ _ _ cfgA 0 5 _ _ _ 45 none _ fetchReq _ keyP isFetchReq
    (if_pos rfl) rfl (fun _ => rfl) (by decide) (by decide)]

/-- `unauthenticated_is_inert`: a STOP without the token, a FETCH with OUT and a wrong token, then the authenticated STORE:
    the store is answered as if it had come alone, and the daemon has not been stopped -/
example :
    let evs := [Event.connect (ascii "10.0.0.9") (ascii "COMMAND:STOP\n\n"),
                Event.connect (ascii "10.0.0.9") (ascii "COMMAND:FETCH\nTOKEN:tK\nMANIFEST:eph://m\nOUT:/tmp/x\n\n"),
                Event.connect (ascii "127.0.0.1") (bytesA 14)]
    (evs.map (authenticated (ascii "tk"))) = [false, false, true] ∧
    ((runView Spec.sha256 C28.unitOps cfgA 0 (ServerState.init ()) evs).1.map fun p => p.2.map (·.code)) =
      [some "ERR_STOP_UNAUTHENTICATED", some "ERR_FETCH_UNAUTHENTICATED", some "OK_STORE"] ∧
    (runView Spec.sha256 C28.unitOps cfgA 0 (ServerState.init ()) evs).2.2.stopCalls = 0 ∧
    (runView Spec.sha256 C28.unitOps cfgA 0 (ServerState.init ()) evs).2.2.transportStopped = false := by
  have hauth : [ascii "COMMAND:STOP\n\n", ascii "COMMAND:FETCH\nTOKEN:tK\nMANIFEST:eph://m\nOUT:/tmp/x\n\n", bytesA 14].map
      (fun i => Spec.Control.presentsToken (splitBy 10 i []) (ascii "tk")) = [false, false, true] := by
    repeat rw [ascii_ofList]
    decide +kernel
  simp only [List.map_cons, List.map_nil, List.cons.injEq, and_true] at hauth
  -- the first two connections leave the state alone, the third is `cli_store_accepted`'s; the refusals are evaluated
  have h1 := unauthenticated_connection_inert Spec.sha256 C28.unitOps cfgA (ascii "tk") rfl 0 (ascii "10.0.0.9")
    (ServerState.init ()) _ hauth.1
  have h2 := unauthenticated_connection_inert Spec.sha256 C28.unitOps cfgA (ascii "tk") rfl 0 (ascii "10.0.0.9")
    (ServerState.init ()) _ hauth.2.1
  have h3 := cli_store_accepted Spec.sha256 C28.unitOps cfgA 0 (ascii "127.0.0.1") (ServerState.init ()) cA _ _ 0 14 rfl wireA
    (by decide) (by decide) (by decide) ttlA (by decide) solveA (by decide)
  simp only [runView, h1, h2, bytesA, h3, List.map_cons, List.map_nil, authenticated, hauth]
  repeat rw [ascii_ofList]
  decide +kernel

end Example

end EphVerif.SystemControl
