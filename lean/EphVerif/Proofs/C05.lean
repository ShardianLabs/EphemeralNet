/-
C05 — a cleanup tick removes all expired state and reports each expiry once.  Property theorems about
`Model/NodeCleanup.lean` (the node's expiry bookkeeping: chunk store × provider locators × routing table × key-share
table × manifest cache × swarm plans × notification queue), judged by `Spec/NodeCleanup.lean`.  All statements quantify
over every configuration, start time, constant wall-clock offset and history (TTLs of any sign, any tie-break hint).
-/
import EphVerif.Lemmas.C05Run

namespace EphVerif.C05
open EphVerif.NodeCleanup EphVerif.C05L
open EphVerif.ChunkStore (aget)
open EphVerif.C05Spec (judgeDump judgeAudit N Ev count)

/-! ### (T) what the proofs rely on in the source, regenerated on every run -/

/-- the cleanup branch is gated by `elapsed >= cleanup_interval`; it pushes a notification and withdraws
    the node's own announcement for every id the chunk-store sweep returns, sweeps the DHT, prunes
    manifest cache and swarm plans (`wall_now >= expires_at`); every expiry test in the shard-table
    sweep, the locator sweep, `expired()`, `shard_record` and the TTL audit is `now >= expires_at` -/
theorem constants :
    EphVerif.Gen.C05.tickGateIsGe = true ∧ EphVerif.Gen.C05.tickNotifiesInSweepLoop = true ∧
    EphVerif.Gen.C05.tickWithdrawsSelf = true ∧ EphVerif.Gen.C05.tickSweepsDht = true ∧
    EphVerif.Gen.C05.tickPrunesManifests = true ∧ EphVerif.Gen.C05.manifestPruneIsGe = true ∧
    EphVerif.Gen.C05.tickPrunesPlans = true ∧ EphVerif.Gen.C05.shardSweepIsGe = true ∧
    EphVerif.Gen.C05.locatorSweepIsGe = true ∧ EphVerif.Gen.C05.contactExpiredIsGe = true ∧
    EphVerif.Gen.C05.shardRecordExpiredIsGe = true ∧ EphVerif.Gen.C05.auditLocalIsGe = true ∧
    EphVerif.Gen.C05.auditLocatorIsGe = true ∧ EphVerif.Gen.C05.auditContactIsGe = true := by
  decide

/-- a tick enters the cleanup branch exactly when `cleanup_interval` (seconds) has elapsed since the
    previous cleanup — at the boundary, not one nanosecond later -/
theorem tick_cleans_iff (cfg : Cfg) (s : State) :
    gate cfg s = true ↔ s.now - s.lastCleanup ≥ cfg.node.cleanupInterval * 1000000000 :=
  gate_iff cfg s

/-! ### C05.clean -/

/-- **After any history, nothing the node holds had expired by the time of the most recent cleanup.**
    For every list of chunk names `ks` the dump of the node — local chunks, locators with their holders,
    routing contacts, key-share records, cached manifests, swarm plans — passes the specification's
    judgement at `T = lastCleanup`: no entry with expiry `≤ T` (wall `≤ T + offset` for manifests), every
    plan belongs to a manifest that is still cached (and live), and the node is a holder only of chunks it
    still stores. -/
theorem clean (cfg : Cfg) (t0 : Int) (ops : List Op) (hw : OpsWf cfg ops) (ks : List String)
    (nameOf : Routing.Id → String) :
    judgeDump cfg.self (reach cfg t0 ops).s.lastCleanup ((reach cfg t0 ops).s.lastCleanup + cfg.wallOff)
      (dumpOf ks nameOf (reach cfg t0 ops).s) = none :=
  judgeDump_of_inv (inv_run (inv_init cfg t0) ops hw).at ks nameOf

/-- **The literal statement.**  Take any history `pre`, let a tick run the cleanup at time `T`, and let
    anything at all happen afterwards at the same instant (`post`: more stores, manifests, announcements,
    lookups, scheduler passes that re-ingest manifests, ticks, drains, audits).  Then the node holds no
    chunk, provider contact, locator, key-share record, cached manifest or swarm plan with expiry `≤ T`,
    it is announced only for chunks it still stores (its announcement of every expired local chunk is
    withdrawn), and the TTL audit reports no expired local chunk, locator or contact and no orphaned
    announcement. -/
theorem clean_after_tick (cfg : Cfg) (t0 : Int) (pre post : List Op) (hw : OpsWf cfg (pre ++ Op.tick :: post))
    (hgate : gate cfg (reach cfg t0 pre).s = true) (hstill : ∀ op ∈ post, Still op)
    (ks : List String) (nameOf : Routing.Id → String) :
    let T := (reach cfg t0 pre).s.now
    let s := (reach cfg t0 (pre ++ Op.tick :: post)).s
    s.now = T ∧ s.lastCleanup = T ∧
    judgeDump cfg.self T (T + cfg.wallOff) (dumpOf ks nameOf s) = none ∧
    judgeAudit (audit cfg ks s) = none := by
  intro T s
  have hinv : Inv cfg s := inv_run (inv_init cfg t0) _ hw
  obtain ⟨tn, tl⟩ := tick_clock cfg (reach cfg t0 pre).s
  rw [hgate, if_pos rfl] at tl
  obtain ⟨hn, hl⟩ := still_run cfg (exec cfg (reach cfg t0 pre) Op.tick) post hstill (tl.trans tn.symm)
  have hs : s = (run cfg (exec cfg (reach cfg t0 pre) Op.tick) post).s :=
    congrArg Run.s (reach_append cfg t0 pre (Op.tick :: post))
  have hnow : s.now = T := hs ▸ hn.trans tn
  have hlast : s.lastCleanup = T := hs ▸ hl.trans tn
  exact ⟨hnow, hlast, hlast ▸ judgeDump_of_inv hinv.at ks nameOf,
    judgeAudit_of_inv ((hlast.trans hnow.symm) ▸ hinv.at) ks⟩

/-- the node's own announcement exists only for a chunk it stores and that had not expired at the most
    recent cleanup: the announcement of every expired local chunk is withdrawn (even when the announcement
    itself would have lived longer than the record) -/
theorem withdrawn (cfg : Cfg) (t0 : Int) (ops : List Op) (hw : OpsWf cfg ops) (c : String) (l : Providers.Loc)
    (hl : (reach cfg t0 ops).s.locs c = some l) (hself : ∃ h ∈ l.holders, h.peer = cfg.self) :
    ∃ r, (c, r) ∈ (reach cfg t0 ops).s.recs ∧ (reach cfg t0 ops).s.lastCleanup < r.expires := by
  have hinv : Inv cfg (reach cfg t0 ops).s := inv_run (r := Run.init cfg t0) (inv_init cfg t0) ops hw
  obtain ⟨r, hr⟩ := hinv.self c l hl hself
  exact ⟨r, hr, hinv.recs (c, r) hr⟩

/-! ### C05.once -/

/-- **Every notification is a report the specification demands, and every demanded report is a
    notification.**  After any history, for every id, the number of times it occurs in the concatenation of
    everything drained so far plus the still queued notifications equals the number of times the abstract
    node reported it — where the abstract node knows only stores, ticks and the clock, reports an id at a
    cleanup iff the deadline of its *current* copy is `≤` the cleanup time, and then forgets the copy.
    Lookups, probes, manifests, announcements, drains and audits are invisible to it: which of them noticed
    the expiry first cannot matter. -/
theorem once (cfg : Cfg) (hs : ChunkStore.SaneCfg cfg.node) (t0 : Int) (ops : List Op) (c : String) :
    count c (reach cfg t0 ops).notified =
      (C05Spec.run (paramsOf cfg) (N.init t0) (ops.map evOf)).reported.get c :=
  (sim_run hs (sim_init cfg t0) ops).reported c

/-- the specification's cleanup, spelled out: at a tick that cleans, an id is reported once more iff its
    current copy is due, and afterwards no copy is due (a second tick cannot report it again) -/
theorem spec_cleanup (p : C05Spec.Params) (n : N) (c : String) (h : C05Spec.cleans p n = true) :
    (C05Spec.step p n .tick).reported.get c = n.reported.get c + (if C05Spec.due n c then 1 else 0) ∧
    C05Spec.due (C05Spec.step p n .tick) c = false := by
  simp only [C05Spec.step, h, if_true]
  constructor
  · by_cases hd : C05Spec.due n c = true <;> simp [hd]
  · cases hcg : n.copies.get c with
    | none => simp [C05Spec.due, hcg]
    | some d => by_cases hle : d ≤ n.now <;> simp [C05Spec.due, hcg, hle]

theorem spec_no_cleanup (p : C05Spec.Params) (n : N) (h : C05Spec.cleans p n = false) : C05Spec.step p n .tick = n := by
  simp [C05Spec.step, h]

/-- every report consumes a store: an id is never reported more often than it was stored — in
    particular never an id that was not stored, and an id stored once is reported at most once -/
theorem spec_reported_le_stores (p : C05Spec.Params) (t0 : Int) (evs : List Ev) (c : String) :
    (C05Spec.run p (N.init t0) evs).reported.get c ≤ stores c evs := by
  rw [Sys.reported_init]
  exact Sys.sweptEpochs_le_stores p c t0 t0 evs

theorem notified_le_stores (cfg : Cfg) (hs : ChunkStore.SaneCfg cfg.node) (t0 : Int) (ops : List Op) (c : String) :
    count c (reach cfg t0 ops).notified ≤ stores c (ops.map evOf) := by
  rw [once cfg hs]; exact spec_reported_le_stores _ _ _ _

def cfgEx : Cfg :=
  { node := { store := { defaultTtl := 3, persistent := false, wipeOnExpiry := true, passes := 1 },
              minTtl := 2, maxTtl := 10, cleanupInterval := 1 },
    rebalance := 1800, self := "self", selfId := List.replicate 32 1, wallOff := 1700000000000000000 }

def t0Ex : Int := 1000000000000
def p1 : Routing.Id := List.replicate 31 1 ++ [2]

/-- two local chunks, a remote manifest and a provider contact, all expiring by `t0 + 2 s`; the expiry of
    `c1` is first noticed by a lookup, that of `c2`'s provider entry by a probe -/
def preEx : List Op :=
  [.store "c1" 2 none, .store "c2" 2 none, .ingest "c3" 1700001002000000000 false,
   .announce "c2" 1700001002000000000 false "p1" p1 "10.0.0.9:4000" 2 none,
   .adv 2000000000, .lookup "c1", .probe "c2"]

example : ChunkStore.SaneCfg cfgEx.node := ⟨by decide, by decide⟩
example : OpsWf cfgEx (preEx ++ [.tick, .drain, .adv 1000000000, .tick, .drain]) := by
  intro op hop
  simp only [preEx, List.cons_append, List.nil_append, List.mem_cons, List.not_mem_nil, or_false] at hop
  rcases hop with h | h | h | h | h | h | h | h | h | h | h | h <;> subst h <;> simp [OpWf, cfgEx]

/-- before the tick the node does hold expired state (so the cleanup has something to do) … -/
example : judgeDump "self" (t0Ex + 2000000000) (t0Ex + 2000000000 + cfgEx.wallOff)
    (dumpOf ["c1", "c2", "c3"] (fun _ => "p1") (reach cfgEx t0Ex preEx).s) = some "expired-chunk" := by decide +kernel

/-- … the tick is a cleanup tick … -/
example : gate cfgEx (reach cfgEx t0Ex preEx).s = true := by decide +kernel

/-- … and afterwards nothing at all is left, whichever of lookup / probe / sweep noticed first -/
example : let s := (reach cfgEx t0Ex (preEx ++ [.tick])).s
    s.recs = [] ∧ s.shards = [] ∧ s.cache = [] ∧ s.plans = [] ∧ Routing.allContacts s.routes = [] ∧
    s.locs "c1" = none ∧ s.locs "c2" = none ∧ s.notes = ["c2", "c1"] := by decide +kernel

/-- lookup between deadline and tick: still exactly one notification per chunk, none at the next tick -/
example : (reach cfgEx t0Ex (preEx ++ [.tick, .drain, .adv 1000000000, .tick, .drain])).drained = ["c2", "c1"] ∧
    (reach cfgEx t0Ex (preEx ++ [.tick, .drain, .adv 1000000000, .tick, .drain])).s.notes = [] := by decide +kernel

/-- a chunk stored again after its deadline but before any cleanup is replaced, not reported; its second
    copy is reported once when it expires -/
example : (reach cfgEx t0Ex [.store "c1" 2 none, .adv 2500000000, .lookup "c1", .store "c1" 2 none, .tick, .drain]).drained = [] ∧
    (reach cfgEx t0Ex [.store "c1" 2 none, .adv 2500000000, .lookup "c1", .store "c1" 2 none, .tick, .drain,
      .adv 2000000000, .tick, .drain, .adv 1000000000, .tick, .drain]).drained = ["c1"] := by decide +kernel

/-- the node's own announcement outliving the record (announced 4 s, stored 2 s) is withdrawn by the tick
    although it has not expired, while the other provider of the chunk stays -/
example : let s := (reach cfgEx t0Ex [.store "c1" 2 none, .reannounce "c1" 4 none,
      .announce "c1" 1700001008000000000 false "p1" p1 "10.0.0.9:4000" 6 none, .adv 2000000000, .tick]).s
    (s.locs "c1").map (fun l => l.holders.map (·.peer)) = some ["p1"] ∧ s.recs = [] := by decide +kernel

/-- repair C11-1 in the model: a manifest for a chunk the node holds is adopted only if it stands for the same
    content and key (`same`); otherwise cache, key shares and plan keep the lifetimes of the local store, while the
    announcing provider is still recorded -/
example :
    (reach cfgEx t0Ex [.store "c1" 2 none, .ingest "c1" 1700001009000000000 false]).s.cache = [("c1", 1700001002000000000)] ∧
    (reach cfgEx t0Ex [.store "c1" 2 none, .ingest "c1" 1700001009000000000 true]).s.cache = [("c1", 1700001009000000000)] ∧
    (let s := (reach cfgEx t0Ex [.store "c1" 2 none, .announce "c1" 1700001009000000000 false "p1" p1 "10.0.0.9:4000" 5 none]).s
     s.cache = [("c1", 1700001002000000000)] ∧ (s.locs "c1").map (fun l => l.holders.map (·.peer)) = some ["self", "p1"]) := by
  decide +kernel

/-- the cleanup gate at the boundary: one nanosecond before `cleanup_interval` has elapsed the expired chunk
    is not swept, at the boundary it is -/
example : (reach cfgEx t0Ex [.store "c1" 2 none, .adv 1500000000, .tick, .adv 999999999, .tick]).s.notes = [] ∧
    (reach cfgEx t0Ex [.store "c1" 2 none, .adv 1500000000, .tick, .adv 1000000000, .tick]).s.notes = ["c1"] := by
  decide +kernel

end EphVerif.C05
