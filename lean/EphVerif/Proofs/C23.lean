/-
C23 — upload concurrency limits hold and slots are always released.

All theorems are about `Model/Uploads.lean` (the upload scheduler of `Node`, after
fixes/C23-duplicate-start-slot-leak.patch) and quantify over every configuration, every
history of requests / acknowledgements / ticks at arbitrary instants, and every answer of the
environment (session key present, send succeeds, chunk servable) at every step.
-/
import EphVerif.Lemmas.C23Uploads

namespace EphVerif.C23
open EphVerif.Uploads

def acked (e : Step) : Option (String × String) :=
  match e.op with
  | .ack p c => some (p, c)
  | _ => none

/-- the upload scheduler runs during the step (a refused request returns before it) -/
def scheduled (e : Step) : Bool :=
  match e.op with
  | .request p c => e.env.hasKey p && e.env.servable c
  | _ => true

/-- The specification's ledger of running uploads along a history: started by the chunk frames
    the node emits, ended by acknowledgements and by the timeout (`C23Spec.advance`). -/
def ledgerAfter (cfg : Cfg) : State → C23Spec.Ledger → List Step → C23Spec.Ledger
  | _, L, [] => L
  | s, L, e :: rest =>
    ledgerAfter cfg (step cfg s e).1
      (C23Spec.advance cfg.timeout e.now L (acked e) (scheduled e) (sentOf (step cfg s e).2)) rest

/-- One step of the scheduler changes `active_uploads_` exactly as the specification's ledger
    changes: acknowledged transfer removed, timed-out transfers removed when the scheduler runs,
    every chunk frame sent starts (or restarts) its transfer. -/
theorem refines_step {cfg : Cfg} {s : State} (h : Inv cfg s) (e : Step) :
    toLedger (step cfg s e).1.active
      = C23Spec.advance cfg.timeout e.now (toLedger s.active) (acked e) (scheduled e) (sentOf (step cfg s e).2) := by
  unfold step acked scheduled C23Spec.advance
  cases e.op with
  | request p c =>
    simp only [handleRequest]
    cases hk : e.env.hasKey p
    · rfl
    · cases hs : e.env.servable c
      · show toLedger s.active = C23Spec.startAll (toLedger s.active) e.now (sentOf (nackFrames e.env p c))
        unfold nackFrames
        split <;> rfl
      · exact process_ledger (s := { s with queue := s.queue ++ [⟨p, c⟩] }) h.uniq e.env e.now
  | ack p c =>
    show toLedger (process cfg e.env e.now (noteEnd s p c)).1.active = _
    rw [process_ledger (inv_noteEnd h p c).uniq, noteEnd_active, toLedger_erase]
    rfl
  | tick => exact process_ledger h.uniq e.env e.now

theorem refines {cfg : Cfg} (hist : List Step) :
    ∀ {s : State}, Inv cfg s → toLedger (run cfg s hist).active = ledgerAfter cfg s (toLedger s.active) hist := by
  induction hist with
  | nil => intro s _; rfl
  | cons e rest ih =>
    intro s h
    simp only [run, ledgerAfter]
    rw [ih (inv_step h e), refines_step h e]

/-- **C23.limits** — at every point of every history the number of running uploads is at most
    `upload_max_parallel_transfers` and, per peer, at most `upload_max_transfers_per_peer`, when
    the respective limit is non-zero (0 = unlimited, as `can_accept_more_uploads` /
    `can_dispatch_upload` read it).  Stated for the model's map and, through `refines`, for the
    specification's ledger of running uploads. -/
theorem limits (cfg : Cfg) (t0 : Int) (hist : List Step) :
    let s := run cfg (State.init t0) hist
    let L := ledgerAfter cfg (State.init t0) [] hist
    (0 < cfg.maxParallel → s.active.length ≤ cfg.maxParallel ∧ L.length ≤ cfg.maxParallel) ∧
    (0 < cfg.maxPerPeer → ∀ p, countPeer p s.active ≤ cfg.maxPerPeer ∧ C23Spec.running L p ≤ cfg.maxPerPeer) := by
  intro s L
  have hi : Inv cfg s := inv_run hist (inv_init cfg t0)
  have hL : toLedger s.active = L := refines hist (inv_init cfg t0)
  refine ⟨fun hG => ⟨hi.glob hG, ?_⟩, fun hP p => ⟨hi.count p ▸ hi.peer hP p, ?_⟩⟩
  · rw [← hL, toLedger, List.length_map]
    exact hi.glob hG
  · rw [← hL, running_toLedger, ← hi.count p]
    exact hi.peer hP p

/-- **C23.nack** — a request from a peer with a session (key registered and transport send
    succeeding) for a chunk the node cannot serve now is answered with exactly one negative
    acknowledgement for that chunk, and nothing is queued or started. -/
theorem nack (cfg : Cfg) (env : Env) (now : Int) (st : State) (p c : String)
    (hkey : env.hasKey p = true) (hlink : env.linkUp p = true) (hno : env.servable c = false) :
    handleRequest cfg env now st p c = (st, [Frame.nack p c]) := by
  simp [handleRequest, nackFrames, sendOk, hkey, hlink, hno]

/-- a request queued while servable is refused with a negative acknowledgement when its turn comes
    and the chunk can no longer be served (`dispatch_upload`) -/
theorem nack_at_dispatch (env : Env) (now : Int) (st : State) (r : Req)
    (hkey : env.hasKey r.peer = true) (hlink : env.linkUp r.peer = true) (hno : env.servable r.chunk = false) :
    dispatch env now st r = (st, [Frame.nack r.peer r.chunk]) := by
  simp [dispatch, nackFrames, sendOk, hkey, hlink, hno]

/-- **C23.release (invariant)** — at every point of every history each peer's in-use slot counter
    equals its number of running uploads, in the model's map and in the specification's ledger. -/
theorem slots (cfg : Cfg) (t0 : Int) (hist : List Step) (p : String) :
    let s := run cfg (State.init t0) hist
    s.perPeer p = countPeer p s.active ∧
    s.perPeer p = C23Spec.running (ledgerAfter cfg (State.init t0) [] hist) p := by
  intro s
  have hi : Inv cfg s := inv_run hist (inv_init cfg t0)
  have hL : toLedger s.active = ledgerAfter cfg (State.init t0) [] hist := refines hist (inv_init cfg t0)
  refine ⟨hi.count p, ?_⟩
  rw [← hL, running_toLedger]
  exact hi.count p

/-- **C23.release** — once every upload started towards `p` has been acknowledged or has timed out
    (the specification's ledger holds no running transfer of `p`), `p`'s slot count is zero. -/
theorem release (cfg : Cfg) (t0 : Int) (hist : List Step) (p : String)
    (hnone : C23Spec.running (ledgerAfter cfg (State.init t0) [] hist) p = 0) :
    (run cfg (State.init t0) hist).perPeer p = 0 :=
  (slots cfg t0 hist p).2.trans hnone

/-- what "timed out" delivers: after any step in which the scheduler ran at `now`, every transfer
    still running that was not (re)started in this very step is younger than the timeout -/
theorem timeout_enforced (timeout now : Int) (L : C23Spec.Ledger) (ak : Option (String × String))
    (ht : 0 < timeout) (x : C23Spec.Xfer)
    (hx : x ∈ C23Spec.advance timeout now L ak true []) : now - x.started < timeout := by
  simp only [C23Spec.advance, C23Spec.startAll, if_true, C23Spec.expire] at hx
  have : ¬ timeout ≤ 0 := by omega
  simp only [this, if_false, List.mem_filter, Bool.not_eq_true', decide_eq_false_iff_not] at hx
  omega

def envAll : Env := ⟨fun _ => true, fun _ => true, fun _ => true⟩
def cfgDup : Cfg := ⟨3, 2, 2000000000, 30000000000⟩

def dupHistory : List Step :=
  [⟨.request "p1" "c1", 0, envAll⟩, ⟨.request "p1" "c1", 0, envAll⟩,
   ⟨.ack "p1" "c1", 1, envAll⟩, ⟨.ack "p1" "c1", 2, envAll⟩]

def runOld (cfg : Cfg) (st : State) : List Step → State
  | [] => st
  | s :: rest => runOld cfg (step cfg st s true).1 rest

/-- the duplicate request is dispatched too (its step emits a chunk frame) while the two hold one slot … -/
example : (step cfgDup (step cfgDup (State.init 0) ⟨.request "p1" "c1", 0, envAll⟩).1 ⟨.request "p1" "c1", 0, envAll⟩).2
      = [Frame.chunk "p1" "c1"]
    ∧ (run cfgDup (State.init 0) (dupHistory.take 2)).perPeer "p1" = 1 := by decide
/-- … the hypothesis of `release` is met after the acknowledgements and the slot count is 0 … -/
example : C23Spec.running (ledgerAfter cfgDup (State.init 0) [] dupHistory) "p1" = 0
    ∧ (run cfgDup (State.init 0) dupHistory).perPeer "p1" = 0 := by decide
/-- … whereas the code before the repair leaves one slot in use for ever (the defect found) -/
theorem old_code_leaks_slot :
    (runOld cfgDup (State.init 0) dupHistory).active = [] ∧ (runOld cfgDup (State.init 0) dupHistory).perPeer "p1" = 1 := by
  decide

/-- limits are reached, not just respected: per-peer limit 2 with three requested chunks -/
example : (run cfgDup (State.init 0)
    [⟨.request "p1" "c1", 0, envAll⟩, ⟨.request "p1" "c2", 0, envAll⟩, ⟨.request "p1" "c3", 0, envAll⟩]).perPeer "p1" = 2 := by
  decide
/-- a timeout frees the slot at the first scheduler run at or after `started + timeout` -/
example : (run cfgDup (State.init 0)
    [⟨.request "p1" "c1", 0, envAll⟩, ⟨.tick, 29999999999, envAll⟩]).perPeer "p1" = 1
  ∧ (run cfgDup (State.init 0)
    [⟨.request "p1" "c1", 0, envAll⟩, ⟨.tick, 30000000000, envAll⟩]).perPeer "p1" = 0 := by decide
/-- `nack` hypotheses are satisfiable -/
example : handleRequest cfgDup ⟨fun _ => true, fun _ => true, fun _ => false⟩ 0 (State.init 0) "p1" "c9"
    = (State.init 0, [Frame.nack "p1" "c9"]) := nack _ _ _ _ _ _ rfl rfl rfl

end EphVerif.C23
