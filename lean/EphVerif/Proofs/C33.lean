import EphVerif.Lemmas.C33

/-!
# C33 — STUN responses are parsed exactly and safely

Property: *for any datagram, STUN response parsing never reads outside it, and it reports an address only for a
Binding Success response whose transaction id matches, taken from a well-formed MAPPED-ADDRESS or
XOR-MAPPED-ADDRESS attribute and decoded exactly as RFC 5389 specifies for IPv4 and IPv6.*

`Stun.parse` is the model of `parse_stun_response` (checked reads, constants regenerated from the source),
`StunSpec.mappedAddress` the RFC 5389 specification.  No bound on the datagram length.
-/
namespace EphVerif.C33
open EphVerif EphVerif.Stun EphVerif.Gen.C33 EphVerif.C33L

/-! ## generated-constant obligations: the literal numbers of RFC 5389 -/

theorem cookie_eq : kStunMagicCookie = 0x2112A442 := by decide
theorem header_eq : kHeaderMin = 20 ∧ kHeaderSize = 20 ∧ kBodyOffset = 20 ∧ kTxidOffset = 8 := by decide
theorem binding_success_eq : kBindingSuccess = 0x0101 := by decide
theorem attr_types_eq : kAttrMapped = 0x0001 ∧ kAttrXorMapped = 0x0020 ∧ kAttrXorMapped2 = 0x0020 := by decide
theorem families_eq : kFamilyV4 = 1 ∧ kFamilyV6 = 2 ∧ kAddrMinLen = 4 ∧ kV4MinLen = 8 ∧ kV6MinLen = 20 := by decide
theorem attr_header_counted : kAttrHdrInBound = 4 ∧ kPortXorShift = 16 := by decide

/-- **C33.exact** (functional form).  For every datagram `d` and every 12-byte transaction id, the parser's result is the
RFC 5389 answer: `none` unless `d` is a Binding Success response (type `0x0101`) whose declared length fits the datagram
and whose transaction id equals `tx`; otherwise the RFC decoding of the first (wire order) MAPPED-ADDRESS /
XOR-MAPPED-ADDRESS attribute inside the declared message length that carries a family-1 or family-2 address. -/
theorem exact (d tx : List UInt8) (htx : tx.length = 12) :
    parse d tx = ofSpec (StunSpec.mappedAddress d tx) := by
  unfold parse StunSpec.mappedAddress
  delta kHeaderMin kHeaderSize kBindingSuccess kTxidOffset kBodyOffset
  by_cases h20 : d.length < 20
  · rw [if_pos h20, isOurSuccess_short d tx h20]; rfl
  · obtain ⟨t0, t1, l0, l1, r0, r1, r2, r3, hdecl, hsucc⟩ := header d tx (Nat.le_of_not_lt h20)
    rw [if_neg h20, r0, r1, r2, r3, hsucc, htx]
    show (if StunSpec.be16 t0 t1 ≠ 257 ∨ d.length < 20 + StunSpec.be16 l0 l1 then _ else _) = _
    by_cases hhdr : StunSpec.be16 t0 t1 ≠ 257 ∨ d.length < 20 + StunSpec.be16 l0 l1
    · rw [if_pos hhdr, if_neg (by simp only [Bool.and_eq_true, decide_eq_true_eq]; omega)]; rfl
    · have hfit : 20 + StunSpec.be16 l0 l1 ≤ d.length := by omega
      rw [if_neg hhdr, rdN_eq d 8 12 (by omega), decide_eq_true (by omega : StunSpec.be16 t0 t1 = 257),
        decide_eq_true hfit, Bool.true_and, Bool.true_and]
      show (if (d.drop 8).take 12 ≠ tx then _ else _) = _
      by_cases heq : (d.drop 8).take 12 = tx
      · rw [if_neg (not_not_intro heq), if_pos (beq_iff_eq.mpr heq), StunSpec.body, hdecl]
        exact loop_eq d tx htx _ _ hfit
      · rw [if_pos heq, if_neg (by rwa [beq_iff_eq])]; rfl

/-- **C33.exact** (the "only … iff" reading of the property).  An address is reported iff the datagram is a Binding
Success response to our transaction (`isOurSuccess`) and the attribute list inside the declared message length splits as
`pre ++ a :: post` where no attribute of `pre` is a usable address attribute, and the reported triple is the RFC 5389
decoding of `a` — i.e. the *first* usable MAPPED-ADDRESS / XOR-MAPPED-ADDRESS attribute in wire order. -/
theorem exact_iff (d tx : List UInt8) (htx : tx.length = 12) (f : Nat) (b : List UInt8) (p : Nat) :
    parse d tx = Out.addr f b p ↔
      StunSpec.isOurSuccess d tx = true ∧
      ∃ pre a post, StunSpec.attrs (StunSpec.body d) = pre ++ a :: post ∧
        (∀ x ∈ pre, StunSpec.addrOfAttr tx x = none) ∧ StunSpec.addrOfAttr tx a = some ⟨f, b, p⟩ := by
  rw [exact d tx htx, ofSpec_eq_addr, StunSpec.mappedAddress]
  by_cases hs : StunSpec.isOurSuccess d tx = true
  · rw [if_pos hs, List.findSome?_eq_some_iff]
    exact ⟨fun ⟨pre, a, post, h1, h2, h3⟩ => ⟨hs, pre, a, post, h1, h3, h2⟩,
      fun ⟨_, pre, a, post, h1, h2, h3⟩ => ⟨pre, a, post, h1, h3, h2⟩⟩
  · rw [if_neg hs]
    exact ⟨nofun, fun h => absurd h.1 hs⟩

/-- **C33.safe**.  For every datagram (no length bound) and every 12-byte transaction id, no read of the parser falls
outside the datagram or the transaction-id array. -/
theorem safe (d tx : List UInt8) (htx : tx.length = 12) : parse d tx ≠ Out.oob := by
  rw [exact d tx htx]
  cases StunSpec.mappedAddress d tx <;> nofun

/-- Nothing is ever reported for a message that is not a Binding Success response with our transaction id. -/
theorem only_our_success (d tx : List UInt8) (htx : tx.length = 12) (h : StunSpec.isOurSuccess d tx = false) :
    parse d tx = Out.none := by
  rw [exact d tx htx, StunSpec.mappedAddress, h]; rfl

/-! ## non-vacuity: concrete datagrams through model and specification -/

private def tx0 : List UInt8 := [0,1,2,3,4,5,6,7,8,9,10,11]
private def hdr (len : UInt8) : List UInt8 := [1, 1, 0, len, 0x21, 0x12, 0xA4, 0x42] ++ tx0

/-- XOR-MAPPED-ADDRESS, IPv4 10.8.8.8:4660, after an 5-byte SOFTWARE attribute padded to 8 -/
example : parse (hdr 24 ++ [0x80, 0x22, 0, 5, 1, 2, 3, 4, 5, 0, 0, 0] ++ [0, 0x20, 0, 8, 0, 1, 0x33, 0x26, 0x2b, 0x1a, 0xac, 0x4a]) tx0
    = Out.addr 1 [10, 8, 8, 8] 4660 := by decide +kernel
/-- the witness of the repaired defect: the value overruns the declared length (8) but not the datagram -/
example : parse (hdr 8 ++ [0, 1, 0, 8, 0, 1, 0x12, 0x34, 8, 8, 8, 8]) tx0 = Out.none := by decide +kernel
example : StunSpec.mappedAddress (hdr 12 ++ [0, 1, 0, 8, 0, 1, 0x12, 0x34, 8, 8, 8, 8]) tx0 = some ⟨1, [8, 8, 8, 8], 4660⟩ := by decide +kernel
/-- wire-order precedence: MAPPED-ADDRESS first wins over a later XOR-MAPPED-ADDRESS -/
example : parse (hdr 24 ++ [0, 1, 0, 8, 0, 1, 0x12, 0x34, 8, 8, 8, 8] ++ [0, 0x20, 0, 8, 0, 1, 0x33, 0x26, 0x2b, 0x1a, 0xac, 0x4a]) tx0
    = Out.addr 1 [8, 8, 8, 8] 4660 := by decide +kernel
example : tx0.length = 12 := rfl

end EphVerif.C33
