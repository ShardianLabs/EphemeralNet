/-
System-level lifetime statements: the TTL results C01, C02, C03, C05, C06 composed, about the C05 node model of a node
constructed from an arbitrary **raw** configuration through the *generated* `sanitize_config` (`Sys.sysCfg raw e`) and
every history (`OpsSys`: announcing peers are not the node itself; a re-announcement uses a TTL `≤ max_manifest_ttl`).
`e.cleanup` = `Config::cleanup_interval`, **which the code does not sanitise**.  Imported, not re-proved: C02 `config` /
`store` / `store_deadline_bound`, C03 `cap`, C01 `reads_exact` / `dead_unreachable` (through `Sys.agree_reach`), C06
`refines_at` / `sweep_safe` (through `Sys.lagree_reach`), C05 `clean` / `clean_after_tick` / `once`.
-/
import EphVerif.Lemmas.C05SysRead
import EphVerif.Proofs.C05

namespace EphVerif.SystemLifetime
open EphVerif.NodeCleanup EphVerif.C05L EphVerif.Sys
open EphVerif.ChunkStore (aget)
open EphVerif.C05Spec (judgeDump judgeAudit count)

/-- all component models count time in `Int` nanoseconds and TTLs in `Int` seconds; the five spellings of
    10⁹ agree, and 24 h is `86400 · 10⁹` ns -/
theorem units : NodeCleanup.ns = 1000000000 ∧ ChunkStore.nsPerSec = 1000000000 ∧ C02Spec.nsPerS = 1000000000 ∧
    C03Spec.nsPerS = 1000000000 ∧ C05Spec.nsPerSec = 1000000000 ∧ C02Spec.dayS * C02Spec.nsPerS = dayNs :=
  ⟨rfl, rfl, rfl, rfl, rfl, by decide⟩

/-- for every raw configuration the node works inside `1 s ≤ min ≤ max ≤ 24 h` (C02.config), so the
    hypotheses of the component theorems (`SaneCfg`) hold and the longest lifetime is at most a day -/
theorem window (raw : Raw) (e : Env) :
    1 ≤ (sysCfg raw e).node.minTtl ∧ (sysCfg raw e).node.minTtl ≤ (sysCfg raw e).node.maxTtl ∧
    (sysCfg raw e).node.maxTtl ≤ 86400 ∧ maxNs (sysCfg raw e) ≤ dayNs ∧ ChunkStore.SaneCfg (sysCfg raw e).node :=
  ⟨(sane raw e.cleanup).1, (sane raw e.cleanup).2, max_le_day raw e, maxNs_le_day raw e, sane raw e.cleanup⟩

/-- the hand-written TTL functions of the node model are the generated ones (`prevShard`: the deadline of a key-share
    record already in the table, which `publish_shards` ignores — any value) -/
theorem ttl_functions_agree (raw : Raw) (e : Env) (ttl t W E prevShard : Int) :
    ChunkStore.nodeTtl (sysCfg raw e).node ttl = Gen.C02.store_chunk_put_ttl ttl (Ttl.effective raw) ∧
    manifestTtl (sysCfg raw e) W E = Gen.C02.manifest_ttl E (Ttl.effective raw) W ∧
    advertised (sysCfg raw e) ttl t = Gen.C02.announce_advertised_ttl ttl t (Ttl.effective raw) ∧
    storeLifetimes (sysCfg raw e) ttl = Ttl.storeChunk raw ttl W E prevShard :=
  ⟨nodeTtl_bridge raw e.cleanup ttl, manifestTtl_bridge raw e W E, advertised_bridge raw e ttl t,
   storeLifetimes_bridge raw e ttl W E prevShard⟩

/-- **Ephemerality bound, state form.**  Whatever the raw configuration, the inputs and the history: in the
    state reached, with `T` the time of the most recent cleanup,

    * every chunk record, locator, locator holder, routing contact and key-share record has a deadline `d`
      with `T < d ≤ now + max_ttl·10⁹ ≤ now + 24 h` — applied to the state right after the operation that
      created the entry at time `t`, this is `d ≤ t + 24 h` (C02.store, C03.cap through `Sys.Young`), and it
      is physically gone once a cleanup has run at or after `d` (C05.clean);
    * every cached manifest expires after `T` (wall clock) and every plan belongs to a cached manifest —
      but see `remote_manifest_outlives_day`: a cached manifest lives as long as the manifest itself says;
    * the read side: a chunk lookup that hits returns a record with `now < d` (C01.reads_exact), a provider
      lookup returns only holders with `now < d` (C06.refines_at), the key-share lookup succeeds only with
      `now < d`. -/
theorem ephemerality_bound (raw : Raw) (e : Env) (t0 : Int) (ops : List Op) (hw : OpsSys (sysCfg raw e) ops) :
    let s := (C05.reach (sysCfg raw e) t0 ops).s
    (∀ x ∈ s.recs, s.lastCleanup < x.2.expires ∧ x.2.expires ≤ s.now + dayNs) ∧
    (∀ c l, s.locs c = some l → (s.lastCleanup < l.exp ∧ l.exp ≤ s.now + dayNs) ∧
      ∀ h ∈ l.holders, s.lastCleanup < h.exp ∧ h.exp ≤ s.now + dayNs) ∧
    (∀ x ∈ Routing.allContacts s.routes, s.lastCleanup < x.exp ∧ x.exp ≤ s.now + dayNs) ∧
    (∀ x ∈ s.shards, s.lastCleanup < x.2 ∧ x.2 ≤ s.now + dayNs) ∧
    (∀ x ∈ s.cache, s.lastCleanup + e.wallOff < x.2) ∧
    (∀ x ∈ s.plans, (aget s.cache x.1).isSome = true) ∧
    (∀ c r, ChunkStore.getRecord s.recs s.now c = some r → s.now < r.expires) ∧
    (∀ c a, a ∈ (Providers.findProviders s.locs s.now c).2 → s.now < a.exp ∧ a.exp ≤ s.now + dayNs) ∧
    (∀ c, shardLive s c = true → ∃ d, aget s.shards c = some d ∧ s.now < d) := by
  intro s
  have hi : Inv (sysCfg raw e) s := inv_run (inv_init _ t0) ops hw.wf
  have hy : Young (sysCfg raw e) s := young_run raw e (young_init _ t0) ops hw
  have hd : Deadlines (fun d => s.lastCleanup < d ∧ d ≤ s.now + dayNs) s :=
    hi.at.deadlines.and ((young_iff.mp hy).mono fun _ h => Int.le_trans h (Int.add_le_add_left (maxNs_le_day raw e) _))
  refine ⟨hd.recs, hd.locs, fun x hx => ?_, hd.shards, hi.cache, hi.plans, fun c r => chunk_read_live raw e t0 ops,
    fun c a ha => ?_, fun c => (shardLive_iff s c).mp⟩
  · obtain ⟨i, hx⟩ := mem_allContacts hx
    exact hd.routes i x hx
  · obtain ⟨l, hl, hmem⟩ := mem_findProviders_result ha
    exact ⟨provider_read_live _ t0 ops ha, ((hd.locs c l hl).2 a hmem).2⟩

/-- **Ephemerality of one local store, literally.**  Take any history `pre`, a `store_chunk` of `c` with any
    requested TTL at time `t`, and any continuation `post` that does not store `c` again.  With
    `d := t + (chunk lifetime C02 computes from the generated functions)`:
    `t < d ≤ t + 24 h` (C02.store_deadline_bound); whenever a record of `c` is held its deadline is `d`
    (C01's refinement invariant); from `d` on no lookup, fetch or listing serves it (C01.dead_unreachable);
    and once a cleanup has run at or after `d` the record is physically gone (C05's invariant). -/
theorem chunk_ephemeral (raw : Raw) (e : Env) (t0 : Int) (pre post : List Op) (c : String) (ttl : Int)
    (hint : Option (List String)) (hw : OpsSys (sysCfg raw e) (pre ++ Op.store c ttl hint :: post))
    (hpost : ∀ op ∈ post, storesC c op = false) :
    let t := (C05.reach (sysCfg raw e) t0 pre).s.now
    let d := t + (Ttl.storeChunk raw ttl t (t + e.wallOff)).chunk
    let s := (C05.reach (sysCfg raw e) t0 (pre ++ Op.store c ttl hint :: post)).s
    (t < d ∧ d ≤ t + dayNs) ∧
    (∀ r, (c, r) ∈ s.recs → r.expires = d) ∧
    (d ≤ s.now → ChunkStore.getRecord s.recs s.now c = none ∧ ChunkStore.nodeFetch s.recs s.now c = none ∧
      ∀ x, (c, x) ∉ (ChunkStore.nodeList s.recs s.now).map (fun y => (y.1, y.2.1))) ∧
    (d ≤ s.lastCleanup → ∀ r, (c, r) ∉ s.recs) := by
  intro t d s
  have hb := C02.store_deadline_bound raw ttl t (t + e.wallOff)
  obtain ⟨en, hlast, hdl⟩ := last_after_store raw e t0 pre post c ttl hint hpost
  have hrel := node_rel raw e t0 (pre ++ Op.store c ttl hint :: post)
  have hag := agree_reach (sysCfg raw e) rfl t0 (pre ++ Op.store c ttl hint :: post)
  have hi : Inv (sysCfg raw e) s := inv_run (inv_init _ t0) _ hw.wf
  have hexp : ∀ r, (c, r) ∈ s.recs → r.expires = d := fun r hr => by
    obtain ⟨e', he', _, _, hd'⟩ := hrel.sound c r (hag.recs ▸ ChunkStore.aget_of_mem (hag.recs ▸ hrel.uniq) hr)
    rw [hlast] at he'
    cases he'
    exact hd'.symm.trans hdl
  refine ⟨⟨by simp only [d]; omega, by simp only [d, dayNs]; omega⟩, hexp, fun hdead => ?_, fun hcl r hr => ?_⟩
  · have hd := C01.dead_unreachable (sysCfg raw e).node (sane raw e.cleanup) t0 [] _ c en hlast
      (by rw [hdl, ← hrel.now_eq, ← hag.now]; exact hdead)
    simp only at hd
    rw [← hag.recs, ← hag.now] at hd
    exact ⟨hd.2.1, hd.2.2.1, hd.2.2.2.2⟩
  · have h1 : s.lastCleanup < r.expires := hi.recs (c, r) hr
    have h2 := hexp r hr
    omega

/-- **Provider lookups of the node are exactly the abstract directory of C06** (each provider's most recent
    announcement, unless withdrawn or cut, and not yet expired; at most 20), on the provider-directory history
    `Sys.locHist` that the node history amounts to (C06.refines_at through `Sys.lagree_reach`). -/
theorem provider_lookup_exact (cfg : Cfg) (t0 : Int) (ops : List Op) (c : String) :
    let s := (C05.reach cfg t0 ops).s
    let st := (C06L.run (C06L.init t0) (locHist cfg (State.init cfg t0) ops)).1
    List.Perm (Providers.findProviders s.locs s.now c).2 (C06Spec.find st.s s.now c) ∧
    (Providers.findProviders s.locs s.now c).2.length ≤ 20 := by
  intro s st
  have hl := lagree_reach cfg t0 ops
  have h := C06.refines_at t0 (locHist cfg (State.init cfg t0) ops) c
  simp only [hl.t, hl.now] at h
  exact ⟨h.1, h.2.2⟩

/-- **A cleanup is invisible to provider lookups** (C06.sweep_safe): a tick whose cleanup finds no expired
    local chunk is, for the provider directory, a bare sweep — the abstract directory after it is the one
    before it, so every later lookup answers as if the tick had not happened. -/
theorem cleanup_keeps_directory (cfg : Cfg) (t0 : Int) (pre : List Op)
    (hgate : gate cfg (C05.reach cfg t0 pre).s = true)
    (hnone : (ChunkStore.sweep (C05.reach cfg t0 pre).s.recs (C05.reach cfg t0 pre).s.now).2 = []) :
    (C06L.run (C06L.init t0) (locHist cfg (State.init cfg t0) (pre ++ [Op.tick]))).1.s =
      (C06L.run (C06L.init t0) (locHist cfg (State.init cfg t0) pre)).1.s := by
  have happ := locHist_append cfg (State.init cfg t0) pre [Op.tick] []
  have hs : (run cfg ⟨State.init cfg t0, []⟩ pre).s = (C05.reach cfg t0 pre).s := rfl
  rw [happ, hs]
  have hops : locHist cfg (C05.reach cfg t0 pre).s [Op.tick] = [Providers.Op.sweep] := by
    simp only [locHist, locOps, hgate, if_true, hnone, List.map_nil, List.nil_append, List.append_nil]
  rw [hops]
  exact (C06.sweep_safe t0 (locHist cfg (State.init cfg t0) pre) []).1

/-- **When the physical removal happens.**  A tick runs the cleanup exactly when `cleanup_interval` has elapsed
    since the previous cleanup (C05.tick_cleans_iff); after a tick that cleans at `T` nothing with deadline
    `≤ T` is held and the audit is healthy (C05.clean_after_tick).  Hence an entry with deadline `d` is
    physically absent after the first tick at a time `≥ max d (lastCleanup + cleanup_interval)`: the node
    never *holds* anything for longer than `24 h + cleanup_interval + (the delay until the next tick)` —
    **provided `cleanup_interval` is bounded, which nothing in the code ensures** (`stale_forever`). -/
theorem removed_by_first_cleanup (raw : Raw) (e : Env) (t0 : Int) (pre : List Op)
    (hw : OpsSys (sysCfg raw e) (pre ++ [Op.tick])) (ks : List String) (nameOf : Routing.Id → String) :
    let s0 := (C05.reach (sysCfg raw e) t0 pre).s
    let s := (C05.reach (sysCfg raw e) t0 (pre ++ [Op.tick])).s
    (gate (sysCfg raw e) s0 = true ↔ s0.now ≥ s0.lastCleanup + e.cleanup * 1000000000) ∧
    (gate (sysCfg raw e) s0 = true →
      s.now = s0.now ∧ s.lastCleanup = s0.now ∧
      judgeDump (sysCfg raw e).self s0.now (s0.now + e.wallOff) (dumpOf ks nameOf s) = none ∧
      judgeAudit (audit (sysCfg raw e) ks s) = none) := by
  intro s0 s
  refine ⟨?_, ?_⟩
  · rw [C05.tick_cleans_iff]
    show s0.now - s0.lastCleanup ≥ e.cleanup * 1000000000 ↔ _
    omega
  · intro hg
    exact C05.clean_after_tick (sysCfg raw e) t0 pre [] hw.wf hg (List.forall_mem_nil _) ks nameOf

/-- **No resurrection.**  After a tick that cleans at `T`, whatever happens next — any operations at all,
    including new stores, manifests and announcements, at any later times — the node never again holds
    anything with deadline `≤ T`: the time of the latest cleanup only grows and every operation creates
    only entries that end after the instant of their creation. -/
theorem no_resurrection (cfg : Cfg) (t0 : Int) (pre post : List Op) (hw : OpsWf cfg (pre ++ Op.tick :: post))
    (hgate : gate cfg (C05.reach cfg t0 pre).s = true) (ks : List String) (nameOf : Routing.Id → String) :
    let T := (C05.reach cfg t0 pre).s.now
    let s := (C05.reach cfg t0 (pre ++ Op.tick :: post)).s
    T ≤ s.lastCleanup ∧ judgeDump cfg.self T (T + cfg.wallOff) (dumpOf ks nameOf s) = none := by
  intro T s
  obtain ⟨hwp, hwt⟩ := List.forall_mem_append.mp hw
  obtain ⟨hi, hle⟩ := inv_run_cleaning_tick (r := C05.reach cfg t0 pre) (inv_run (inv_init _ t0) pre hwp) hgate post
    (List.forall_mem_cons.mp hwt).2
  rw [← C05.reach_append] at hi hle
  exact ⟨hle, judgeDump_of_inv (hi.at.mono hle) ks nameOf⟩

/-- **Frame.**  Without a store / ingest / announce / re-announce / key-share re-publication nothing appears at
    all: after any sequence of clock advances, provider probes, ticks, drains and audits the node holds a
    subset of what it held before (same ids, same deadlines; a plan may only have been recomputed). -/
theorem quiet_frame (cfg : Cfg) (t0 : Int) (pre post : List Op) (hq : ∀ op ∈ post, Quiet op) :
    Sub (C05.reach cfg t0 (pre ++ post)).s (C05.reach cfg t0 pre).s := by
  rw [C05.reach_append]
  exact quiet_run cfg _ post hq

/-- **Notification accounting.**  For every raw configuration and history, the number of notifications for an
    id (drained so far plus still queued) equals the number of its *store epochs that ended by expiry and
    were swept*: a `store_chunk` of the id at time `t` (deadline `d = t + effective TTL`) counts iff a tick
    that runs the cleanup at some `T ≥ d` occurs before the id is stored again (`Sys.sweptEpochs`).  An epoch
    that is overwritten first, or whose expiry no cleanup has seen yet, counts nothing; lookups, probes,
    manifests and announcements never count. -/
theorem notification_accounting (raw : Raw) (e : Env) (t0 : Int) (ops : List Op) (c : String) :
    count c (C05.reach (sysCfg raw e) t0 ops).notified =
      sweptEpochs (paramsOf (sysCfg raw e)) c t0 t0 (ops.map evOf) := by
  rw [C05.once (sysCfg raw e) (sane raw e.cleanup) t0 ops c, reported_init]

/-! ### finding-level observations (not violations of C01–C06) -/

def rawEx : Raw := { default_chunk_ttl := 3, min_manifest_ttl := 2, max_manifest_ttl := 10 }
def rawBad : Raw := { default_chunk_ttl := -5, min_manifest_ttl := 0, max_manifest_ttl := -7 }
def envEx : Env := { cleanup := 1, rebalance := 1800, self := "self", selfId := List.replicate 32 1, wallOff := 1700000000000000000 }
/-- `cleanup_interval` = 10¹² s (≈ 31 700 years): accepted as is -/
def envLazy : Env := { envEx with cleanup := 1000000000000 }
def t0Ex : Int := 1000000000000

/-- **`cleanup_interval` is not sanitised.**  With a huge interval the cleanup branch never runs: ten years
    after its deadline the chunk record (and its key shares, manifest, plan, announcement) is still
    physically held — although unreadable, as C01 guarantees.  The `24 h + cleanup interval` retention bound
    is therefore only as good as the configured interval. -/
theorem stale_forever :
    let s := (C05.reach (sysCfg rawEx envLazy) t0Ex
      [.store "c1" 2 none, .adv 315360000000000000, .tick, .lookup "c1", .tick]).s
    s.recs.map (fun x => (x.1, x.2.expires - s.now)) = [("c1", -315359998000000000)] ∧
    s.shards ≠ [] ∧ s.cache ≠ [] ∧ s.plans ≠ [] ∧ s.notes = [] ∧
    ChunkStore.getRecord s.recs s.now "c1" = none := by decide +kernel

/-- **A cached manifest lives as long as the manifest says.**  A manifest learned from a peer with an expiry ten
    years ahead is accepted; its key shares are capped at `max_ttl` (C03.cap) and are gone after a day's worth
    of cleanups, but the manifest itself (key shards included) and its swarm plan stay cached: two days and
    a cleanup later the cache entry still has more than 24 h to live.  `ephemerality_bound` therefore bounds
    cached manifests only from below. -/
theorem remote_manifest_outlives_day :
    let s := (C05.reach (sysCfg rawEx envEx) t0Ex
      [.ingest "c9" (1700001000000000000 + 315360000000000000) false, .adv 172800000000000, .tick]).s
    s.shards = [] ∧ s.lastCleanup = s.now ∧
    s.cache.map (fun x => decide (x.2 > s.now + envEx.wallOff + dayNs)) = [true] ∧ s.plans.map (·.1) = ["c9"] := by
  decide +kernel

/-- the sanitiser at work: nonsense bounds become the window 1 s .. 1 s -/
example : (sysCfg rawBad envEx).node.minTtl = 1 ∧ (sysCfg rawBad envEx).node.maxTtl = 1 ∧
    (sysCfg rawBad envEx).node.store.defaultTtl = 1 := by decide +kernel

def histEx : List Op :=
  [.store "c1" 2 none, .store "c2" 0 none, .ingest "c3" 1700001002000000000 false,
   .announce "c2" 1700001004000000000 false "p1" (List.replicate 31 1 ++ [2]) "10.0.0.9:4000" 99 none,
   .reannounce "c1" 4 none, .adv 2000000000, .lookup "c1", .probe "c2", .tick, .drain,
   .store "c1" 2 none, .adv 500000000, .store "c1" 2 none, .adv 3000000000, .tick, .drain]

example : OpsSys (sysCfg rawEx envEx) histEx := by
  intro op hop
  simp only [histEx, List.mem_cons, List.not_mem_nil, or_false] at hop
  rcases hop with h | h | h | h | h | h | h | h | h | h | h | h | h | h | h | h <;> subst h <;>
    first | trivial | (show (4 : Int) ≤ _; decide +kernel) | (show "p1" ≠ "self"; decide)

/-- three store epochs of `c1` (one swept, one overwritten while live, one swept), one of `c2`: the accounting
    counts 2 and 1, and that is what was notified -/
example : sweptEpochs (paramsOf (sysCfg rawEx envEx)) "c1" t0Ex t0Ex (histEx.map evOf) = 2 ∧
    sweptEpochs (paramsOf (sysCfg rawEx envEx)) "c2" t0Ex t0Ex (histEx.map evOf) = 1 ∧
    (C05.reach (sysCfg rawEx envEx) t0Ex histEx).drained = ["c1", "c1", "c2"] := by decide +kernel

/-- the hypotheses of `chunk_ephemeral` are satisfiable and its deadline is the clamped one
    (requested 99 999 s, granted `max_ttl` = 10 s) -/
example : (∀ op ∈ [Op.adv 10000000000, .lookup "c1", .tick], storesC "c1" op = false) ∧
    (Ttl.storeChunk rawEx 99999 t0Ex (t0Ex + envEx.wallOff)).chunk = 10000000000 := by decide +kernel

/-- an accepted far-future manifest: key shares capped at `max_ttl` = 10 s after the arrival -/
example : (C05.reach (sysCfg rawEx envEx) t0Ex [.ingest "c9" (1700001000000000000 + 315360000000000000) false]).s.shards =
    [("c9", t0Ex + 10000000000)] := by decide +kernel

/-- quiet operations after a cleanup keep the state empty; `Quiet` is inhabited by the interesting ones -/
example : ∀ op ∈ [Op.adv 5, .probe "c1", .tick, .drain, .audit], Quiet op := by
  intro op hop
  simp only [List.mem_cons, List.not_mem_nil, or_false] at hop
  rcases hop with h | h | h | h | h <;> subst h <;> trivial

end EphVerif.SystemLifetime
