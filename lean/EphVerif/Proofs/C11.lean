/-
C11 — stored content round-trips and tampered replicas are never accepted.

Model: `EphVerif.StorePipeline` (Model/StorePipeline.lean: Node::store_chunk / fetch_chunk / receive_chunk /
export_chunk_record and the CLI's decrypt_chunk_with_manifest, composed from the models of Sha256 (C08),
ChaCha20 + CryptoManager (C09) and Shamir (C10)).  Spec functions: `Spec.sha256` (FIPS 180-4),
`Spec.chacha20` (RFC 8439).

Every theorem quantifies over all payloads, chunk ids, requested TTLs, shard configurations that fit the
`uint8_t` fields (so 1 ≤ t ≤ n ≤ 255 after `store_chunk`'s `max`), nonces, Shamir coefficient draws `rd`, previous
node states, and over the replacement keys `rk…` a temporary `CryptoManager` would draw.  The chunk key is any
32-byte string other than the all-zero one; that excluded point is characterised by `zero_key*` below.
-/
import EphVerif.Lemmas.C11Pipeline
import EphVerif.Lemmas.C08Eval

namespace EphVerif.C11
open EphVerif EphVerif.StorePipeline EphVerif.C11L EphVerif.Gen

def ShardCfg (cfg : Config) : Prop := cfg.shardThreshold ≤ 255 ∧ cfg.shardTotal ≤ 255

/-- a chunk key as the property speaks of it: 32 bytes, not all zero -/
def ChunkKey (key : Bytes) : Prop := key.length = 32 ∧ key ≠ List.replicate 32 0

/-- the block counter the cipher is started with: the little-endian 32-bit integer in `id[0..3]` -/
def counterOf (id : Bytes) : UInt32 := Spec.ChaCha.le32 (id.getD 0 0) (id.getD 1 0) (id.getD 2 0) (id.getD 3 0)

/-- (T) 255 is what the width of the source's shard-count fields admits -/
theorem ShardCfg.bits {cfg : Config} (h : ShardCfg cfg) :
    cfg.shardThreshold < 2 ^ C11.kShardCountBits ∧ cfg.shardTotal < 2 ^ C11.kShardCountBits :=
  ⟨Nat.lt_succ_of_le h.1, Nat.lt_succ_of_le h.2⟩

theorem ChunkKey.notZero {key : Bytes} (h : ChunkKey key) : ChaCha20.allZero key = false :=
  Bool.eq_false_iff.2 fun hz => h.2 (h.1 ▸ (C09.allZero_iff key).1 hz)

/-- `receive_chunk` and the CLI function perform their steps in this order: every effect (manifest cache, shard
    table, announcement, chunk store, seed ledger, broadcast) and the `return plaintext` come after the hash
    comparison, the comparison after the digest, the digest after the decryption. -/
theorem gen_order :
    C11.receiveSteps = ["decode", "validate", "ttl", "combine", "decrypt", "digest", "compare", "cache", "publish",
      "announce", "put", "clear", "seed", "broadcast", "return"] ∧
    C11.cliSteps = ["validate", "combine", "decrypt", "digest", "compare", "return"] ∧
    (∀ e ∈ ["cache", "publish", "announce", "put", "clear", "seed", "broadcast", "return"],
      C11.receiveSteps.idxOf "compare" < C11.receiveSteps.idxOf e ∧ e ∈ C11.receiveSteps) :=
  ⟨rfl, rfl, by decide +kernel⟩

/-- the data flow of the four functions: the content hash is the digest of the *payload* (store) and is compared
    with the digest of the *decrypted* bytes (receive, CLI); the cipher is keyed with the manifest's / the caller's
    chunk id and the manifest's / the record's nonce; what is kept is the sealed bytes / the received replica. -/
theorem gen_roles :
    C11.storeHashRole = "payload" ∧ C11.storeEncryptRole = "payload" ∧ C11.storeEncryptIdRole = "id" ∧
    C11.storeManifestNonceRole = "sealed" ∧ C11.storePutDataRole = "sealed" ∧ C11.storePutNonceRole = "sealed" ∧
    C11.storeSplitRole = "key" ∧
    C11.receiveHashRole = "decrypted" ∧ C11.receiveCompareRole = "digest!=manifest.chunk_hash" ∧
    C11.receiveDecryptIdArg = "manifest.chunk_id" ∧ C11.receiveDecryptNonceArg = "manifest.nonce" ∧
    C11.receiveCombineThresholdArg = "manifest.threshold" ∧ C11.receivePutDataRole = "ciphertext" ∧
    C11.receiveReturnRole = "decrypted" ∧
    C11.fetchDecryptIdRole = "id" ∧ C11.fetchNonceRole = "record" ∧ C11.fetchDataRole = "record" ∧
    C11.cliHashRole = "decrypted" ∧ C11.cliCompareRole = "digest!=manifest.chunk_hash" ∧
    C11.cliDecryptIdArg = "manifest.chunk_id" ∧ C11.cliDecryptNonceArg = "manifest.nonce" ∧
    C11.cliCombineThresholdArg = "manifest.threshold" ∧ C11.cliReturnRole = "decrypted" :=
  ⟨rfl, rfl, rfl, rfl, rfl, rfl, rfl, rfl, rfl, rfl, rfl, rfl, rfl, rfl, rfl, rfl, rfl, rfl, rfl, rfl, rfl, rfl, rfl⟩

theorem gen_sizes :
    C11.kKeyBytes = 32 ∧ C11.kNonceBytes = 12 ∧ C11.kShardValueBytes = 32 ∧ C11.kShardCountBits = 8 ∧
    C11.kStoreMinThreshold = 1 ∧ C11.kMinAllowedManifestTtl = 1 := by
  decide

/-- **C11, second sentence.** `store_chunk` succeeds; the bytes held for the chunk (`export_chunk_record`) are the
    RFC 8439 ChaCha20 encryption of the payload under the chunk key, the recorded nonce and the counter `LE32(id[0..3])`;
    the manifest carries that id, that nonce, the FIPS 180-4 SHA-256 of the *payload*, `t = max(1, shard_threshold)`,
    `n = max(t, shard_total)` and `n` shares; its first `t` shares — indeed any selection of its shares whose first `t`
    members have distinct indices, in any order — reconstruct exactly the chunk key. -/
theorem held_bytes (cfg : Config) (hcfg : ShardCfg cfg) (st : NodeState) (wallNowNs : Int) (id payload : Bytes) (ttl : Int)
    (key nonce rk : Bytes) (rd : Nat → Nat) (hkey : ChunkKey key) (hn : nonce.length = 12) :
    ∃ r held, storeChunk cfg st wallNowNs id payload ttl key nonce rk rd = .value r ∧
      exportRecord r.node id = some held ∧
      held.data = Spec.chacha20 key nonce (counterOf id) payload ∧ held.nonce = nonce ∧ held.encrypted = true ∧
      r.manifest.chunkId = id ∧ r.manifest.nonce = nonce ∧ r.manifest.chunkHash = Spec.sha256 payload ∧
      r.manifest.threshold = max 1 cfg.shardThreshold ∧
      r.manifest.totalShares = max (max 1 cfg.shardThreshold) cfg.shardTotal ∧
      r.manifest.shards.length = r.manifest.totalShares ∧
      1 ≤ r.manifest.threshold ∧ r.manifest.threshold ≤ r.manifest.totalShares ∧ r.manifest.totalShares ≤ 255 ∧
      Shamir.combine r.manifest.shards r.manifest.threshold = .ok (toNats key) ∧
      ∀ sel : List Shamir.Share, (∀ s ∈ sel, s ∈ r.manifest.shards) → r.manifest.threshold ≤ sel.length →
        ((sel.take r.manifest.threshold).map (·.index)).Nodup →
        Shamir.combine sel r.manifest.threshold = .ok (toNats key) := by
  obtain ⟨shares, hstore, hlen, hrec, hsel⟩ := store_ok cfg hcfg.1 hcfg.2 st wallNowNs id payload ttl key nonce rk hkey.1 rd
  obtain ⟨b1, b2, b3⟩ := eff_bounds cfg hcfg.1 hcfg.2
  exact ⟨_, recordOf cfg id payload ttl key nonce rk, hstore, find_upsert _ _ _,
    (C09.manager_encrypt_spec key id payload nonce rk hkey.notZero hkey.1 hn).1, rfl, rfl, rfl, rfl, C08.sha_digest payload,
    rfl, rfl, hlen, b1, b2, b3, hrec.combine, hsel⟩

/-- **C11, first sentence.** For every payload, id, requested TTL, shard configuration, non-zero chunk key, nonce and
    coefficient draws, with `r` the result of `store_chunk` on node A and `held` the bytes A holds:
    * the local lookup `fetch_chunk(id)` on A returns the payload;
    * on any other node B (any state, any configuration) `receive_chunk(manifest, held)` at any time at which B's TTL
      window admits the manifest returns the payload, B then holds exactly `held` under `id`, lists itself as
      provider, and B's own `fetch_chunk(id)` returns the payload;
    * the CLI's `decrypt_chunk_with_manifest(manifest, held)` returns the payload.
    The manifest is taken as it comes out of the URI codec (`wire`: expiry in whole seconds). -/
theorem roundtrip (cfg : Config) (hcfg : ShardCfg cfg) (stA : NodeState) (wallNowNs : Int) (id payload : Bytes) (ttl : Int)
    (key nonce rk : Bytes) (rd : Nat → Nat) (hkey : ChunkKey key) :
    ∃ r held, storeChunk cfg stA wallNowNs id payload ttl key nonce rk rd = .value r ∧
      exportRecord r.node id = some held ∧
      (∀ rk1, fetchChunk r.node id rk1 = .value (some payload)) ∧
      (∀ (cfgB : Config) (stB : NodeState) (now' ttl' : Int) (rk2 : Bytes),
        manifestTtl (wire r.manifest).expiresNs now' cfgB.minTtl cfgB.maxTtl = some ttl' →
        (receiveChunk cfgB stB now' (some (wire r.manifest)) held.data rk2).2 = .accepted payload ∧
        (exportRecord (receiveChunk cfgB stB now' (some (wire r.manifest)) held.data rk2).1 id).map (·.data) = some held.data ∧
        (find (receiveChunk cfgB stB now' (some (wire r.manifest)) held.data rk2).1.announced id).isSome = true ∧
        ∀ rk3, fetchChunk (receiveChunk cfgB stB now' (some (wire r.manifest)) held.data rk2).1 id rk3 = .value (some payload)) ∧
      (∀ rk4, decryptChunkWithManifest (wire r.manifest) held.data rk4 = .accepted payload) := by
  obtain ⟨shares, hstore, _, hrec, _⟩ := store_ok cfg hcfg.1 hcfg.2 stA wallNowNs id payload ttl key nonce rk hkey.1 rd
  have hopen := opens_sealed cfg wallNowNs id payload ttl nonce rk hkey.notZero hrec
  exact ⟨_, recordOf cfg id payload ttl key nonce rk, hstore, find_upsert _ _ _, fetch_sealed (keyed_after_store hrec) hkey.notZero,
    fun cfgB stB now' ttl' rk2 httl => opens_receive cfgB stB httl rk2 hopen, fun rk4 => cli_accepts (hopen rk4)⟩

/-- The TTL hypothesis of `roundtrip` is met, for instance, by a node with the same TTL window as the publisher
    (`0 < min ≤ max`) that receives the replica at the instant of the store, when the wall clock shows a whole second:
    it then grants the clamped TTL of the store. -/
theorem admitted_same_instant (cfg : Config) (hmin : 0 < cfg.minTtl) (hmm : cfg.minTtl ≤ cfg.maxTtl)
    (wallNowNs : Int) (hnow : 0 ≤ wallNowNs) (hsec : wallNowNs % 1000000000 = 0) (id payload : Bytes) (ttl : Int)
    (nonce : Bytes) (shares : List Shamir.Share) :
    manifestTtl (wire (manifestOf cfg wallNowNs id payload ttl nonce shares)).expiresNs wallNowNs cfg.minTtl cfg.maxTtl
      = some (sanitizedTtl cfg ttl) := by
  obtain ⟨h1, h2⟩ : cfg.minTtl ≤ sanitizedTtl cfg ttl ∧ sanitizedTtl cfg ttl ≤ cfg.maxTtl := clampChunkTtl_mem _ hmin hmm
  have he : (wire (manifestOf cfg wallNowNs id payload ttl nonce shares)).expiresNs
      = wallNowNs + sanitizedTtl cfg ttl * 1000000000 := by
    show Int.tdiv (wallNowNs + sanitizedTtl cfg ttl * 1000000000) 1000000000 * 1000000000 = _
    rw [Int.tdiv_eq_ediv_of_nonneg (by omega)]
    omega
  rw [he]
  exact manifestTtl_whole wallNowNs hmin h1 h2

/-- **C11, third sentence (receive_chunk).** Whatever manifest (decoded or not) and replica bytes arrive, in whatever
    state: either `receive_chunk` accepts — then the manifest decoded, had `0 < t ≤ #shards`, was admitted by the TTL
    window, its first `t` shares combined to some key, the returned bytes are the decryption of the replica under that
    key with the manifest's id and nonce, **their SHA-256 equals the manifest's content hash**, and the new state is
    the old one plus exactly the accept effects for that manifest — or it does not accept (`nullopt` or an exception
    out of `Shamir::combine`) and the node state is unchanged: nothing stored, announced, cached or returned. -/
theorem tamper (cfg : Config) (st : NodeState) (wallNowNs : Int) (decoded : Option Manifest) (ct rk : Bytes) :
    (∃ m ttl pt keyN, decoded = some m ∧ 0 < m.threshold ∧ m.threshold ≤ m.shards.length ∧
        manifestTtl m.expiresNs wallNowNs cfg.minTtl cfg.maxTtl = some ttl ∧
        Shamir.combine m.shards m.threshold = .ok keyN ∧
        ChaCha20.decrypt_with_key (ofNats keyN) m.chunkId ct m.nonce rk = some pt ∧
        Spec.sha256 pt = m.chunkHash ∧
        receiveChunk cfg st wallNowNs decoded ct rk = (acceptEffects st m ttl ct, .accepted pt)) ∨
    ((receiveChunk cfg st wallNowNs decoded ct rk).1 = st ∧
      (receiveChunk cfg st wallNowNs decoded ct rk).2.isAccepted = false) := by
  rcases receive_cases cfg st wallNowNs decoded ct rk with ⟨m, ttl, pt, hd, a3, ⟨keyN, ⟨a1, a2, a4⟩, a5, a6⟩, hr⟩ | h
  · exact .inl ⟨m, ttl, pt, keyN, hd, a1, a2, a3, a4, a5, (C08.sha_digest pt).symm.trans a6, hr⟩
  · exact .inr h

/-- … in the form the property states it: a replica whose decryption (under the key the manifest's shares
    reconstruct) does not hash to the manifest's content hash is not returned and leaves the node exactly as it was. -/
theorem tamper_rejected (cfg : Config) (st : NodeState) (wallNowNs : Int) (m : Manifest) (ct rk : Bytes)
    (hbad : ∀ keyN pt, Shamir.combine m.shards m.threshold = .ok keyN →
      ChaCha20.decrypt_with_key (ofNats keyN) m.chunkId ct m.nonce rk = some pt → Spec.sha256 pt ≠ m.chunkHash) :
    (receiveChunk cfg st wallNowNs (some m) ct rk).1 = st ∧
    (receiveChunk cfg st wallNowNs (some m) ct rk).2.isAccepted = false := by
  rcases tamper cfg st wallNowNs (some m) ct rk with ⟨m', ttl, pt, keyN, hd, _, _, _, a4, a5, a6, _⟩ | h
  · cases hd
    exact absurd a6 (hbad keyN pt a4 a5)
  · exact h

/-- … and with the cipher spelled out: when the shares reconstruct a non-zero 32-byte key `k` and the manifest carries
    a 12-byte nonce, the test is `SHA-256(ChaCha20_k,nonce,LE32(id)(replica)) = content hash`. -/
theorem tamper_rejected_spec (cfg : Config) (st : NodeState) (wallNowNs : Int) (m : Manifest) (ct rk : Bytes) (key : Bytes)
    (hkey : ChunkKey key) (hn : m.nonce.length = 12)
    (hcomb : Shamir.combine m.shards m.threshold = .ok (toNats key))
    (hbad : Spec.sha256 (Spec.chacha20 key m.nonce (counterOf m.chunkId) ct) ≠ m.chunkHash) :
    (receiveChunk cfg st wallNowNs (some m) ct rk).1 = st ∧
    (receiveChunk cfg st wallNowNs (some m) ct rk).2.isAccepted = false := by
  refine tamper_rejected cfg st wallNowNs m ct rk ?_
  intro keyN pt h1 h2
  rw [hcomb] at h1
  cases h1
  rw [ofNats_toNats, C09.manager_decrypt_spec key m.chunkId ct m.nonce rk hkey.notZero hkey.1 hn] at h2
  cases h2
  exact hbad

/-- frame corollary: the chunk store, the provider list, the shard table and the manifest cache of the node can differ
    after `receive_chunk` only if the replica was accepted (hence hashed correctly) -/
theorem stored_or_announced_only_if_verified (cfg : Config) (st : NodeState) (wallNowNs : Int) (decoded : Option Manifest)
    (ct rk : Bytes)
    (hchg : (receiveChunk cfg st wallNowNs decoded ct rk).1 ≠ st) :
    ∃ m pt, decoded = some m ∧ (receiveChunk cfg st wallNowNs decoded ct rk).2 = .accepted pt ∧ Spec.sha256 pt = m.chunkHash := by
  rcases tamper cfg st wallNowNs decoded ct rk with ⟨m, ttl, pt, keyN, hd, _, _, _, _, _, a6, hr⟩ | h
  · exact ⟨m, pt, hd, by rw [hr], a6⟩
  · exact absurd h.1 hchg

/-- **the CLI** returns bytes only if they hash to the manifest's content hash (it has no state to change) -/
theorem tamper_cli (m : Manifest) (data rk : Bytes) :
    (∃ pt keyN, 0 < m.threshold ∧ m.threshold ≤ m.shards.length ∧ Shamir.combine m.shards m.threshold = .ok keyN ∧
        ChaCha20.decrypt_with_key (ofNats keyN) m.chunkId data m.nonce rk = some pt ∧ Spec.sha256 pt = m.chunkHash ∧
        decryptChunkWithManifest m data rk = .accepted pt) ∨
    (decryptChunkWithManifest m data rk).isAccepted = false := by
  rcases cli_cases m data rk with ⟨pt, ⟨keyN, ⟨a1, a2, a4⟩, a5, a6⟩, hr⟩ | h
  · exact .inl ⟨pt, keyN, a1, a2, a4, a5, (C08.sha_digest pt).symm.trans a6, hr⟩
  · exact .inr h

/-! ## manifests that arrive without the chunk cannot poison a held chunk

`Node::ingest_manifest` (control FETCH, `request_chunk`, the dispatch of a pending fetch) and the accepting branch of
`handle_announce` take a manifest with nothing to check it against.  On the tree before
fixes/C11-ingest-must-not-poison-held-chunk.patch they overwrote the key-share record and cached manifest of a chunk the
node itself holds, after which `fetch_chunk` decrypted the held bytes under another key and returned the result as a hit
(witness corpus/C11/observation-ingest-poisons-lookup.ops).  The repaired code (`Gen.C11.ingestGuard = announceGuard =
"held-key"`: `gen_guards`, used through `guard_ingest` / `guard_announce`) adopts such a manifest for a held chunk only if it stands for
the same content hash and the same key. -/

theorem gen_guards : C11.ingestGuard = "held-key" ∧ C11.announceGuard = "held-key" := by decide

/-- **held-chunk-poisoned never happens.**  If a node holds an encrypted chunk and reads it with key `k`, then after any
    sequence of ingested / announced manifests (arbitrary content, arbitrary times) it still holds the same record, still
    reads it with `k`, and `fetch_chunk` returns exactly what it returned before. -/
theorem held_chunk_not_poisoned (cfg : Config) (st : NodeState) (id : Bytes) (record : Record) (k : List Nat)
    (h : KeyedBy st id record k) (ops : List Forged) :
    KeyedBy (runForged cfg st ops) id record k ∧ ∀ rk, fetchChunk (runForged cfg st ops) id rk = fetchChunk st id rk :=
  ⟨runForged_keeps_key cfg h ops, fun rk => by rw [fetchChunk_keyed (runForged_keeps_key cfg h ops), fetchChunk_keyed h]⟩

/-- the publisher: after `store_chunk`, whatever manifests are ingested or announced afterwards, the local lookup returns
    the payload -/
theorem store_then_forged (cfg : Config) (hcfg : ShardCfg cfg) (st : NodeState) (wallNowNs : Int) (id payload : Bytes) (ttl : Int)
    (key nonce rk : Bytes) (rd : Nat → Nat) (hkey : ChunkKey key) (ops : List Forged) :
    ∃ r, storeChunk cfg st wallNowNs id payload ttl key nonce rk rd = .value r ∧
      ∀ rk1, fetchChunk (runForged cfg r.node ops) id rk1 = .value (some payload) := by
  obtain ⟨shares, hstore, _, hrec, _⟩ := store_ok cfg hcfg.1 hcfg.2 st wallNowNs id payload ttl key nonce rk hkey.1 rd
  exact ⟨_, hstore, fetch_sealed (runForged_keeps_key cfg (keyed_after_store hrec) ops) hkey.notZero⟩

/-- the importer: after an accepted replica (returned bytes `pt`), whatever manifests are ingested or announced
    afterwards, its lookup returns `pt` for as long as the record is held (non-zero reconstructed key) -/
theorem replica_then_forged (cfg : Config) (st : NodeState) (wallNowNs : Int) (m : Manifest) (ct rk pt : Bytes) (ttl : Int)
    (hr : receiveChunk cfg st wallNowNs (some m) ct rk = (acceptEffects st m ttl ct, .accepted pt))
    (hstable : ∀ keyN rk', Shamir.combine m.shards m.threshold = .ok keyN →
      ChaCha20.decrypt_with_key (ofNats keyN) m.chunkId ct m.nonce rk' = ChaCha20.decrypt_with_key (ofNats keyN) m.chunkId ct m.nonce rk)
    (ops : List Forged) :
    ∀ rk1, fetchChunk (runForged cfg (receiveChunk cfg st wallNowNs (some m) ct rk).1 ops) m.chunkId rk1 = .value (some pt) := by
  intro rk1
  obtain ⟨_, keyN, hrec, hdec, _⟩ := receive_accepted hr
  rw [hr, fetchChunk_keyed (runForged_keeps_key cfg (keyed_after_accept st ttl ct hrec) ops)]
  exact congrArg _ ((hstable keyN rk1 hrec.combine).trans hdec)

/-! ## the excluded point: an all-zero chunk key

`CryptoManager::generate_key()` fills 32 bytes from `std::random_device`; the all-zero outcome has probability 2⁻²⁵⁶ and
is the only input on which `store_chunk` can fail to round-trip: `encrypt_with_key` / `decrypt_with_key` hand the key
to a temporary `CryptoManager`, whose constructor replaces an all-zero key by a freshly drawn one (C09
`manager_zero_key`).  The manifest's shares still reconstruct the all-zero key, so every later decryption draws yet
another key.  `tamper` needs no key hypothesis: whatever comes out is still compared with the content hash. -/

/-- with the all-zero key the held bytes are sealed under the hidden replacement key `rk`, and a local lookup decrypts
    them under whatever key `rk1` its own temporary manager draws -/
theorem zero_key (cfg : Config) (hcfg : ShardCfg cfg) (st : NodeState) (wallNowNs : Int) (id payload : Bytes) (ttl : Int)
    (nonce rk : Bytes) (rd : Nat → Nat) :
    ∃ r held, storeChunk cfg st wallNowNs id payload ttl (List.replicate 32 0) nonce rk rd = .value r ∧
      exportRecord r.node id = some held ∧
      held.data = (ChaCha20.encrypt rk id payload nonce).data ∧
      Shamir.combine r.manifest.shards r.manifest.threshold = .ok (List.replicate 32 0) ∧
      ∀ rk1, fetchChunk r.node id rk1 = .value (ChaCha20.decrypt rk1 id (ChaCha20.encrypt rk id payload nonce).data nonce) := by
  obtain ⟨shares, hstore, _, hrec, _⟩ :=
    store_ok cfg hcfg.1 hcfg.2 st wallNowNs id payload ttl (List.replicate 32 0) nonce rk List.length_replicate rd
  have hz : ChaCha20.allZero (List.replicate 32 0) = true := by decide
  have hdata : sealedData (List.replicate 32 0) id payload nonce rk = (ChaCha20.encrypt rk id payload nonce).data :=
    congrArg (·.data) (C09.manager_zero_key (List.replicate 32 0) id payload [] nonce rk rk hz).1
  refine ⟨_, recordOf cfg id payload ttl (List.replicate 32 0) nonce rk, hstore, find_upsert _ _ _, hdata, hrec.combine, fun rk1 => ?_⟩
  rw [fetchChunk_keyed (keyed_after_store hrec), ofNats_toNats]
  exact congrArg _ ((C09.manager_zero_key _ id payload _ nonce rk rk1 hz).2.trans (congrArg (ChaCha20.decrypt rk1 id · nonce) hdata))

/-- a concrete instance in which the local lookup does *not* return the payload: key 0, replacement keys 01…01
    (store) and 02…02 (fetch), payload `41` -/
theorem zero_key_counterexample :
    ∃ r, storeChunk ⟨1, 1, 30, 21600, 21600⟩ {} 0 (List.replicate 32 0) [0x41] 60 (List.replicate 32 0) (List.replicate 12 0)
          (List.replicate 32 1) (fun _ => 0) = .value r ∧
      fetchChunk r.node (List.replicate 32 0) (List.replicate 32 2) ≠ .value (some [0x41]) := by
  obtain ⟨r, _, hs, _, _, _, hf⟩ := zero_key ⟨1, 1, 30, 21600, 21600⟩ ⟨by decide, by decide⟩ {} 0 (List.replicate 32 0)
    [0x41] 60 (List.replicate 12 0) (List.replicate 32 1) (fun _ => 0)
  refine ⟨r, hs, fun h => C09.manager_zero_key_counterexample.2 ?_⟩
  rw [hf] at h
  exact Outcome.value.inj h

/-- the hypotheses of `roundtrip` / `held_bytes` are satisfiable: RFC 8439's key and nonce, the default 3-of-5 -/
example : ChunkKey Spec.ChaCha.Vectors.key ∧ Spec.ChaCha.Vectors.nonce242.length = 12 ∧
    ShardCfg ⟨3, 5, 30, 21600, 21600⟩ ∧ ShardCfg ⟨255, 255, 1, 86400, 3600⟩ ∧ ShardCfg ⟨0, 0, 30, 21600, 21600⟩ := by
  refine ⟨⟨by decide, by decide⟩, by decide, ⟨by decide, by decide⟩, ⟨by decide, by decide⟩, ⟨by decide, by decide⟩⟩

/-- the TTL hypothesis of `roundtrip`: a one-hour store at wall time 1 700 001 000 s received at that instant is granted
    3600 s; the same with a requested TTL equal to the 30 s minimum at wall time …000.5 s is *refused* (the URI carries
    whole seconds, 29 s remain) -/
example :
    manifestTtl (wire (manifestOf ⟨3, 5, 30, 21600, 21600⟩ 1700001000000000000 [] [] 3600 [] [])).expiresNs
      1700001000000000000 30 21600 = some 3600 ∧
    manifestTtl (wire (manifestOf ⟨3, 5, 30, 21600, 21600⟩ 1700001000500000000 [] [] 30 [] [])).expiresNs
      1700001000500000000 30 21600 = none := by
  decide

/-- `tamper_rejected_spec` bites: for the RFC key and nonce, id 0 and payload `41`, flipping one bit of the one-byte
    replica changes the hash of its decryption (while the untouched replica decrypts to the payload's hash) -/
example :
    let key := Spec.ChaCha.Vectors.key
    let nonce := Spec.ChaCha.Vectors.nonce242
    let id : Bytes := List.replicate 32 0
    let held := Spec.chacha20 key nonce (counterOf id) [0x41]
    Spec.sha256 (Spec.chacha20 key nonce (counterOf id) held) = Spec.sha256 [0x41] ∧
    Spec.sha256 (Spec.chacha20 key nonce (counterOf id) (held.map (· ^^^ 1))) ≠ Spec.sha256 [0x41] := by
  intro key nonce id held
  refine ⟨congrArg _ (C09.spec_involution key nonce _ _ (by decide) (by decide)), ?_⟩
  simp only [held, Spec.chacha20_eq, C08Eval.sha256_eq]
  decide +kernel

end EphVerif.C11
