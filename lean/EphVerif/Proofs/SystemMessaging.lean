/-
System-level composition: handshake (C12) → signed message (C13 ∘ C15, C16) → transport frame (C14),
with the cryptographic functions first as their standards (RFC 2104 HMAC-SHA256, FIPS 180-4 SHA-256,
RFC 8439 ChaCha20) and then as the models of the C++ (`HmacSha256::compute/verify`, `Sha256::digest`,
`ChaCha20::apply`), which C08 and C09 prove equal to the standards.

What is and is not claimed about tampering: ChaCha20 is a keystream XOR, so it gives **no
integrity** (`malleability`): any change to a frame's ciphertext is delivered by the transport as the
correspondingly changed plaintext, without the session noticing.  Integrity comes from the HMAC
inside the payload: the changed plaintext is rejected by `decode_signed` unless it is itself a
correctly tagged buffer (`tampered_frame`): impossible when only the tag was hit, an HMAC collision
when only the body was hit, in general a forged (body, tag) pair.  That HMAC-SHA256 admits no
feasible forgery is a cryptographic assumption and is not claimed.
-/
import EphVerif.Lemmas.SystemMessagingExample

namespace EphVerif.System
open EphVerif.Message EphVerif.MessageSpec

/-- ∀ faithful m (version 1..4, tag = kind, fields in range, nonce carried), ∀ key:
    `decodeSigned (encodeSigned m key) key = ok m` with RFC 2104 HMAC-SHA256 as the MAC.
    (`C15.roundtrip ∘ C13.sign_then_verify`, instantiated by `C13.hmac_length`.) -/
theorem signed_roundtrip_hmac : SignedRoundtrip hmac (decodeSigned hmac) :=
  signedRoundtrip_of_mac32 hmac C13.hmac_length

/-- for every sendable message and any version byte the receiver gets `arrives m` (nearest version,
    nonce from version 3) — the unconditional form -/
theorem signed_roundtrip_hmac_any_version (m : Msg) (key : Bytes) (h : Sendable m) :
    decodeSigned hmac (encodeSigned hmac m key) key = .ok (arrives m) := by
  rw [C13.sign_then_verify C13.hmac_length]
  exact C15.roundtrip_any_version m h

/-- ∀ identities A, B (scalars below 2^32), PoW settings and nonces: if each accepts the other's
    handshake (C12's model of `Node::perform_handshake`, SHA-256 and HMAC-SHA256 as in the code),
    then the two session keys are one 32-byte key, and every faithful message A signs with its key
    is accepted by B with B's key as exactly that message. -/
theorem session_message_accepted : SessionAccepts EphVerif.Spec.sha256 hmac (decodeSigned hmac) := by
  intro A B bitsA bitsB nonceA nonceB kA kB hA hB h1 h2
  obtain rfl := C12.key EphVerif.Spec.sha256 hmac A B bitsA bitsB nonceA nonceB kA kB hA hB h1 h2
  exact ⟨C12.key_length EphVerif.Spec.sha256 hmac C13.hmac_length A bitsA B.peerId B.pub nonceB kA h1, rfl,
    fun m => signed_roundtrip_hmac m kA⟩

/-- the message of a session verified under any other key `k'` (another session's, a stale one, an
    attacker's) is accepted only if `HMAC(k', encoding) = HMAC(k, encoding)` — an explicit cross-key
    collision (`C13.accepted_tag`); nothing else about `k'` matters -/
theorem session_message_wrong_session : WrongSessionCollides hmac (decodeSigned hmac) :=
  wrongSession_of_mac32 hmac C13.hmac_length

/-- … so under a key without that collision the message is rejected (never `oob`: C16) -/
theorem session_message_wrong_session_rejected (m : Msg) (k k' : Bytes)
    (hnc : hmac k' (encode m) ≠ hmac k (encode m)) : decodeSigned hmac (encodeSigned hmac m k) k' = .reject := by
  cases h : decodeSigned hmac (encodeSigned hmac m k) k' with
  | reject => rfl
  | oob => exact absurd h ((C16.total hmac).2 _ _)
  | ok m' => exact absurd (session_message_wrong_session m m' k k' h).1 hnc

/-- generic form: any 32-byte-tag MAC, frames as `SessionManager::send` writes them -/
theorem transport_carries_of (mac : Bytes → Bytes → Bytes) (hmac32 : C13.Mac32 mac) :
    TransportCarries mac (decodeSigned mac) Frames.encodeFrame := by
  intro tk sk sends chunks htk hn hf hsize hchunks
  have hst := frames_stream tk (sends.map fun s => (s.1, encodeSigned mac s.2 sk)) chunks htk
    (by intro f hf'; obtain ⟨s, hs, rfl⟩ := List.mem_map.mp hf'; exact hn s hs)
    (by intro f hf'; obtain ⟨s, hs, rfl⟩ := List.mem_map.mp hf'; exact hsize s hs)
    (by rw [hchunks, List.flatMap_map])
  refine ⟨?_, hst.2⟩
  rw [hst.1, List.map_map, List.map_map]
  apply List.map_congr_left
  intro s hs
  exact signedRoundtrip_of_mac32 mac hmac32 s.2 sk (hf s hs)

/-- ∀ transport key (32 bytes), signing key, list of (12-byte frame nonce, faithful message) whose
    signed encodings fit a frame, and ∀ cutting of the TCP stream into pieces: the reader thread
    (C14) delivers payloads which `decode_signed` turns into exactly the messages sent, once each, in
    order; the session stays up.  In the code signing key and transport key are the same session key;
    the theorem does not need that. -/
theorem transport_carries_signed_messages : TransportCarries hmac (decodeSigned hmac) Frames.encodeFrame :=
  transport_carries_of hmac C13.hmac_length

/-- **ChaCha20 gives no integrity.** Flipping the bits `d` of a frame's ciphertext flips exactly the
    bits `d` of what the receiver decrypts — for every key, nonce, counter and difference. -/
theorem malleability (key nonce : Bytes) (counter : UInt32) (payload d : Bytes) (hd : d.length = payload.length)
    (hk : key.length = 32) (hn : nonce.length = 12) :
    EphVerif.Spec.chacha20 key nonce counter
        (List.zipWith (· ^^^ ·) (EphVerif.Spec.chacha20 key nonce counter payload) d)
      = List.zipWith (· ^^^ ·) payload d := by
  rw [chacha20_malleable key nonce counter _ d (by rw [Frames.Cipher.chacha20_length key nonce counter payload hk hn, hd]),
    Frames.Cipher.chacha20_involution key nonce counter payload hk hn]

theorem tampered_frame_of (mac : Bytes → Bytes → Bytes) (hmac32 : C13.Mac32 mac) :
    TamperVerdict mac (decodeSigned mac) Frames.encodeFrame (fun k n c => Frames.cipher k n 0 c) := by
  intro tk sk nonce m pre post ct' chunks htk hnonce hpp hsize p p' hlen hne hchunks r
  have hp'len : p'.length = p.length := (cipher_length tk nonce ct' htk hnonce).trans hlen
  -- the tampered stream is the well-formed stream of pre ++ [(nonce, p')] ++ post
  have hframe := tampered_frame_is_frame tk nonce ct' p.length htk hnonce hlen
  have hst := frames_stream tk (pre ++ [(nonce, p')] ++ post) chunks htk
    (forall_mem_insert (fun f hf => (hpp f hf).1) hnonce)
    (forall_mem_insert (fun f hf => (hpp f hf).2) (hp'len ▸ hsize))
    (by
      rw [hchunks, hframe]
      simp only [List.flatMap_append, List.flatMap_cons, List.flatMap_nil, List.append_nil]
      rfl)
  -- the same plaintext would be the same frame
  have hne' : p' ≠ p := fun heq => hne (by rw [hframe, ← heq])
  exact ⟨⟨by simpa using hst.1, hst.2⟩, hne', hp'len, forged_verdict hmac32 m sk p' hne'⟩

/-- any change to the ciphertext of one frame of a stream of signed messages, with the real HMAC:
    delivered unnoticed by the transport, then rejected by `decode_signed` unless the changed
    plaintext carries a valid HMAC tag of its own (see `TamperVerdict` for the three refinements) -/
theorem tampered_frame : TamperVerdict hmac (decodeSigned hmac) Frames.encodeFrame (fun k n c => Frames.cipher k n 0 c) :=
  tampered_frame_of hmac C13.hmac_length

/-! ## (4) the same statements for the implementation models

`Model/Hmac.lean` (`compute`, `verify`), `Model/Sha256.lean` (`digest`) and `Model/ChaCha20.lean`
(`apply`) are the transcriptions of `src/crypto/*.cpp` that C08 and C09 tie to the code by their own
differential runs and prove equal to the standards.  Chain: code ⇄ model (C08/C09 harness) ;
model = standard (`C08.hmac`, `C08.verify`, `C08.sha_digest`, `C09.apply_spec`) ; standard-level
composition (above) ; hence the composition for the models (below). -/

theorem implementation_level_signed_roundtrip : SignedRoundtrip EphVerif.Model.Hmac.compute decodeSignedViaVerify := by
  rw [hmac_impl, decodeSignedViaVerify_eq]; exact signed_roundtrip_hmac

theorem implementation_level_session :
    SessionAccepts EphVerif.Model.Sha256.digest EphVerif.Model.Hmac.compute decodeSignedViaVerify := by
  rw [hmac_impl, sha_impl, decodeSignedViaVerify_eq]; exact session_message_accepted

theorem implementation_level_wrong_session : WrongSessionCollides EphVerif.Model.Hmac.compute decodeSignedViaVerify := by
  rw [hmac_impl, decodeSignedViaVerify_eq]; exact session_message_wrong_session

/-- frames written with `ChaCha20::apply` (C09's model) -/
theorem implementation_level_transport : TransportCarries EphVerif.Model.Hmac.compute decodeSignedViaVerify implFrame := by
  rw [hmac_impl, decodeSignedViaVerify_eq]
  intro tk sk sends chunks htk hn hf hsize hchunks
  apply transport_carries_signed_messages tk sk sends chunks htk hn hf hsize
  rw [hchunks]
  exact flatMap_implFrame tk sends _ _ htk hn

/-- tampering, with frames written and decrypted by `ChaCha20::apply` -/
theorem implementation_level_tamper :
    TamperVerdict EphVerif.Model.Hmac.compute decodeSignedViaVerify implFrame implDecrypt := by
  rw [hmac_impl, decodeSignedViaVerify_eq]
  intro tk sk nonce m pre post ct' chunks htk hnonce hpp hsize p p' hlen hne hchunks
  have hdec : p' = Frames.cipher tk nonce 0 ct' := cipher_impl tk nonce ct' htk hnonce
  have := tampered_frame tk sk nonce m pre post ct' chunks htk hnonce hpp hsize hlen
    (by rw [← implFrame_eq tk nonce _ htk hnonce]; exact hne)
    (by
      rw [hchunks, flatMap_implFrame tk pre _ _ htk fun f hf => (hpp f (List.mem_append_left _ hf)).1,
        flatMap_implFrame tk post _ _ htk fun f hf => (hpp f (List.mem_append_right _ hf)).1])
  rw [hdec]
  exact this

/-- **(4) in one statement**: (1), (2), (2'), (3), (3') hold word for word with the implementation
    models in the roles of hash, MAC, verification, frame cipher and frame decryption. -/
theorem implementation_level :
    SignedRoundtrip EphVerif.Model.Hmac.compute decodeSignedViaVerify ∧
    SessionAccepts EphVerif.Model.Sha256.digest EphVerif.Model.Hmac.compute decodeSignedViaVerify ∧
    WrongSessionCollides EphVerif.Model.Hmac.compute decodeSignedViaVerify ∧
    TransportCarries EphVerif.Model.Hmac.compute decodeSignedViaVerify implFrame ∧
    TamperVerdict EphVerif.Model.Hmac.compute decodeSignedViaVerify implFrame implDecrypt :=
  ⟨implementation_level_signed_roundtrip, implementation_level_session, implementation_level_wrong_session,
    implementation_level_transport, implementation_level_tamper⟩

/-- the reader thread of C14's model decrypts with the RFC 8439 function; that is `ChaCha20::apply` -/
theorem reader_decrypts_with_apply (key nonce ct : Bytes) (hk : key.length = 32) (hn : nonce.length = 12) :
    Frames.cipher key nonce EphVerif.Gen.C14.recvCounter ct = EphVerif.ChaCha20.apply key nonce ct 0 :=
  (cipher_impl key nonce ct hk hn).symm

/-! ## non-vacuity: concrete small instances meet the hypotheses of (1)–(3); the tampered frames of
(3') are evaluated by the kernel with the real HMAC-SHA256 / ChaCha20 specifications (no `native_decide`).
The inputs (`sampleMsg`, `sampleKey`, …) and `faithful_samples`: `Lemmas/SystemMessagingExample.lean` -/

set_option maxRecDepth 100000 in
/-- the hypothesis of (1)–(3) is met by a handshake message and by a version-3 announce with a nonce -/
example : Faithful sampleMsg ∧ Faithful sampleAnnounce := faithful_samples

set_option maxRecDepth 100000 in
/-- (1) on a concrete message and key -/
example : decodeSigned hmac (encodeSigned hmac sampleMsg [1, 2, 3]) [1, 2, 3] = .ok sampleMsg :=
  signed_roundtrip_hmac sampleMsg [1, 2, 3] faithful_samples.1

set_option maxRecDepth 100000 in
/-- (2): two concrete identities accept each other's handshake (PoW off), so `session_message_accepted`
    is not vacuous -/
example : (Kex.performHandshake EphVerif.Spec.sha256 hmac idA 0 idB.peerId idB.pub 0).isSome = true ∧
    (Kex.performHandshake EphVerif.Spec.sha256 hmac idB 0 idA.peerId idA.pub 0).isSome = true := by decide +kernel

set_option maxRecDepth 100000 in
/-- (3): one frame carrying a signed message, cut after 5 bytes, is delivered and decodes -/
example :
    let wire := Frames.encodeFrame sampleKey sampleNonce (encodeSigned hmac sampleMsg sampleKey)
    ((Frames.feedChunks sampleKey Frames.Reader.init [wire.take 5, wire.drop 5]).delivered.map (decodeSigned hmac · sampleKey))
      = [.ok sampleMsg] := by
  intro wire
  refine (transport_carries_signed_messages sampleKey sampleKey [(sampleNonce, sampleMsg)] [wire.take 5, wire.drop 5]
    rfl ?_ ?_ ?_ ?_).1
  · intro s hs; rw [List.mem_singleton.mp hs]; rfl
  · intro s hs; rw [List.mem_singleton.mp hs]; exact faithful_samples.1
  · intro s hs; rw [List.mem_singleton.mp hs]; decide
  · simp [wire]

set_option maxRecDepth 100000 in
/-- (3'): the same frame with one ciphertext bit flipped — in the tag (last byte) or in the body
    (byte 20 of the frame = byte 4 of the plaintext): delivered by the transport, session up, rejected
    by `decode_signed` -/
example :
    let wire := Frames.encodeFrame sampleKey sampleNonce (encodeSigned hmac sampleMsg sampleKey)
    let flip (i : Nat) : Bytes := wire.set i ((wire.getD i 0) ^^^ 1)
    ((Frames.feedChunks sampleKey Frames.Reader.init [flip (wire.length - 1)]).delivered.map (decodeSigned hmac · sampleKey)) = [.reject] ∧
    ((Frames.feedChunks sampleKey Frames.Reader.init [flip 20]).delivered.map (decodeSigned hmac · sampleKey)) = [.reject] ∧
    (Frames.feedChunks sampleKey Frames.Reader.init [flip 20]).ended = none := by
  rw [hmac_eval]; decide +kernel

end EphVerif.System
