import EphVerif.Lemmas.C07Closest

/-!
# C07 — routing table answers XOR-closest live peers and keeps bucket shape

  "A closest-peer query returns, in strictly increasing XOR distance to the target, the min(k, n)
   nearest of the n unexpired contacts the table holds; the node's own id is never held, no bucket
   holds more than 16 contacts, every contact sits in the bucket of its highest bit differing from
   the local id, and a refreshed contact keeps a single entry with its newest address and expiry."

Property theorems about the model `EphVerif.Routing` (Model/Routing.lean) of
`src/dht/KademliaTable.cpp`, stated with the vocabulary of Spec/Routing.lean.  They hold for every
local id, every start time and every finite sequence of operations (`Op`: clock advances of any
sign, `register_peer`, `add_contact`, sweeps, queries) over arbitrary 32-byte ids; no bound on the
number of operations, contacts or on time.  `WfId x` says `x` is a `PeerId` (32 bytes);
`OpsWf ops` says the ids mentioned by the operations are.
-/
namespace EphVerif.C07
open EphVerif.Routing EphVerif.C07Spec EphVerif.C07L

/-- generated-constant obligation: the code's bucket capacity is the 16 the property names -/
theorem bucketSize_eq : kBucketSize = 16 := by decide

/-- generated-constant obligation: `kIdBits` (= `PeerId{}.size() * 8`) is 256 -/
theorem idBits_eq : kIdBits = 256 := by decide

/-- **bucket index.**  The byte-wise `countl_zero` loop of `bucket_index_for` returns the position
    of the highest set bit of `self xor peer` read as 256-bit numbers, and no bucket for the
    local id itself. -/
theorem bucket_index_eq_log2 (self peer : Id) (hs : WfId self) (hp : WfId peer) :
    bucketIndexFor self peer = if self = peer then none else some (Nat.log2 (toNat self ^^^ toNat peer)) :=
  bucketIndexFor_wf hs hp idBits_eq

/-- … which is to say: `bucket_index_for` answers `i` exactly when `i` is the highest bit in which
    the two ids differ (stated with `Nat.testBit`, without `log2`). -/
theorem bucket_index_iff_highest_diff (self peer : Id) (hs : WfId self) (hp : WfId peer) (i : Nat) :
    bucketIndexFor self peer = some i ↔ HighestDiff (toNat self) (toNat peer) i := by
  rw [highestDiff_iff]
  exact bucketIndexFor_eq_some hs hp idBits_eq

/-- **bucket shape, on the model's own terms** (no assumption on the ids at all): after any
    history the local id is not held, no bucket has more than 16 entries, every entry of bucket `i`
    is one `bucket_index_for` sends to `i`, and no id occurs twice in the whole table. -/
theorem inv (self : Id) (t0 : Int) (ops : List Op) :
    let t := (reach self t0 ops).table
    (∀ c, Held t c → c.id ≠ self) ∧
    (∀ i, (t.buckets i).length ≤ 16) ∧
    (∀ i, ∀ c ∈ t.buckets i, bucketIndexFor self c.id = some i) ∧
    (allContacts t).Pairwise (fun a b => a.id ≠ b.id) ∧
    (∀ c, c ∈ allContacts t ↔ Held t c) := by
  intro t
  have h : Inv t := reach_inv self t0 ops
  have hself : t.self = self := reach_self self t0 ops
  refine ⟨?_, ?_, ?_, h.allContacts_nodup, fun c => mem_allContacts h⟩
  · intro c hc; rw [← hself]; exact h.self_not_held hc
  · intro i; rw [← bucketSize_eq]; exact (h i).cap
  · intro i c hc; rw [← hself]; exact (h i).place c hc

/-- **bucket shape, as the property states it** (ids as 256-bit numbers): the node's own id is
    never held, no bucket holds more than 16 contacts, every contact sits in the bucket of its
    highest differing bit, one entry per id. -/
theorem shape (self : Id) (t0 : Int) (ops : List Op) (hs : WfId self) (ho : OpsWf ops) :
    Shape (toNat self) (dumpOf (reach self t0 ops).table) := by
  have := shape_of_inv (reach_inv self t0 ops) (reach_wf hs t0 ho) idBits_eq bucketSize_eq
  rwa [reach_self] at this

/-- every contact sits in the bucket of its highest bit differing from the local id -/
theorem placement (self : Id) (t0 : Int) (ops : List Op) (hs : WfId self) (ho : OpsWf ops) :
    ∀ i, ∀ c ∈ (reach self t0 ops).table.buckets i, HighestDiff (toNat self) (toNat c.id) i := by
  intro i c hc
  have hp := (reach_inv self t0 ops i).place c hc
  rw [reach_self] at hp
  exact (bucket_index_iff_highest_diff self c.id hs ((reach_wf hs t0 ho).held i c hc) i).1 hp

/-- **newest address and expiry.**  After any history every held contact carries the address and
    expiry of the most recent registration of its id (`runLog` = the model's `run` together with
    the specification's log of registrations; `register_peer`'s epoch value means "now"). -/
theorem newest (self : Id) (t0 : Int) (ops : List Op) (hs : WfId self) (ho : OpsWf ops) :
    Newest (runLog (State.init self t0, []) ops).2 (dumpOf (reach self t0 ops).table) := by
  have hn : NewestInv (State.init self t0).table [] := fun _ _ hc => nomatch hc
  have := NewestInv.runLog (st := (State.init self t0, [])) hn (Inv.empty self) (WfT.empty hs) ho
  rw [runLog_fst] at this
  exact newest_of this (reach_inv self t0 ops)

/-- **a refreshed contact keeps a single entry**: right after `register_peer` of an id other than
    the local one — whether or not it was held before — the table holds exactly one entry with
    that id, and it carries the new address and expiry. -/
theorem registered_single (self : Id) (t0 : Int) (ops : List Op) (hs : WfId self) (ho : OpsWf ops)
    (id : Id) (addr : String) (exp : Int) (hid : WfId id) (hne : id ≠ self) :
    JustRegistered (dumpOf (reach self t0 (ops ++ [.reg id addr exp])).table) (toNat id) addr
      (effExp (reach self t0 ops).now exp) := by
  rw [reach_snoc, step_reg]
  exact justRegistered_upsert (reach_inv self t0 ops) (reach_wf hs t0 ho) idBits_eq _ ⟨id, addr, _⟩ hid
    (by rw [reach_self]; exact hne)

/-- the same for the `upsert_bucket` call of `add_contact` (expiry = now + ttl) -/
theorem added_single (self : Id) (t0 : Int) (ops : List Op) (hs : WfId self) (ho : OpsWf ops)
    (id : Id) (addr : String) (ttl : Int) (hid : WfId id) (hne : id ≠ self) :
    JustRegistered (dumpOf (reach self t0 (ops ++ [.add id addr ttl])).table) (toNat id) addr
      ((reach self t0 ops).now + ttl) := by
  rw [reach_snoc, step_add]
  exact justRegistered_upsert (reach_inv self t0 ops) (reach_wf hs t0 ho) idBits_eq _ ⟨id, addr, _⟩ hid
    (by rw [reach_self]; exact hne)

/-- **retained** (what the table holds is fixed by the registration history): after any history,
    `register_peer` of any id costs no *other* unexpired contact its place, except — when the id is
    new, not the local one, and its bucket already holds 16 unexpired contacts — the front (least
    recently registered) entry of that bucket. -/
theorem retained (self : Id) (t0 : Int) (ops : List Op) (hs : WfId self) (ho : OpsWf ops)
    (id : Id) (addr : String) (exp : Int) (hid : WfId id) :
    Retained (toNat self) (dumpOf (reach self t0 ops).table)
      (dumpOf (reach self t0 (ops ++ [.reg id addr exp])).table) (reach self t0 ops).now (toNat id) := by
  have := retained_upsert (reach_inv self t0 ops) (reach_wf hs t0 ho) idBits_eq bucketSize_eq
    (reach self t0 ops).now ⟨id, addr, effExp (reach self t0 ops).now exp⟩ hid
  rwa [reach_self, ← step_reg, ← reach_snoc] at this

/-- the same for the `upsert_bucket` call of `add_contact` -/
theorem retained_add (self : Id) (t0 : Int) (ops : List Op) (hs : WfId self) (ho : OpsWf ops)
    (id : Id) (addr : String) (ttl : Int) (hid : WfId id) :
    Retained (toNat self) (dumpOf (reach self t0 ops).table)
      (dumpOf (reach self t0 (ops ++ [.add id addr ttl])).table) (reach self t0 ops).now (toNat id) := by
  have := retained_upsert (reach_inv self t0 ops) (reach_wf hs t0 ho) idBits_eq bucketSize_eq
    (reach self t0 ops).now ⟨id, addr, (reach self t0 ops).now + ttl⟩ hid
  rwa [reach_self, ← step_add, ← reach_snoc] at this

/-- **a refresh evicts nobody**: if the registered id is already held by an unexpired contact,
    every unexpired contact with another id is still held afterwards -/
theorem refresh_evicts_nobody {own : Nat} {before after : Dump} {now : Int} {id : Nat}
    (h : Retained own before after now id)
    (hheld : ∃ x ∈ entries before, now < x.exp ∧ x.id = id) :
    ∀ e ∈ entries before, now < e.exp → e.id ≠ id → e ∈ entries after := by
  intro e he hlt hne
  obtain ⟨b, hb, heb⟩ := List.mem_flatMap.1 he
  refine (h b hb e heb hlt hne).resolve_right fun ⟨hnew, _⟩ => ?_
  obtain ⟨x, hx, hxl, hxid⟩ := hheld
  exact hnew x (List.mem_filter.2 ⟨hx, decide_eq_true hxl⟩) hxid

/-- queries and clock moves do not change the table at all -/
theorem query_keeps_table (self : Id) (t0 : Int) (ops : List Op) (target : Id) (k : Nat) (d : Int) :
    (reach self t0 (ops ++ [.closest target k])).table = (reach self t0 ops).table ∧
    (reach self t0 (ops ++ [.adv d])).table = (reach self t0 ops).table := by
  rw [reach_snoc, reach_snoc]
  exact ⟨rfl, rfl⟩

/-- **closest-peer queries.**  After any history, `closest_peers(target, k)` returns min(k, n) of
    the n unexpired held contacts, in strictly increasing XOR distance (as 256-bit numbers) to the
    target, all of them unexpired held contacts, and every unexpired held contact it leaves out
    is strictly farther than every one it returns (`k = 0` gives the empty list). -/
theorem closest (self : Id) (t0 : Int) (ops : List Op) (hs : WfId self) (ho : OpsWf ops)
    (target : Id) (ht : WfId target) (k : Nat) :
    let s := reach self t0 ops
    IsClosest (entries (dumpOf s.table)) s.now (toNat target) k ((closestPeers s.table s.now target k).map abs) :=
  closest_isClosest (reach_inv self t0 ops) (reach_wf hs t0 ho) _ ht k

/-- the clauses of `IsClosest` leave no freedom: at most one list satisfies them -/
theorem closest_unique {held : List Entry} {now : Int} {target k : Nat} {r₁ r₂ : List Entry}
    (h1 : IsClosest held now target k r₁) (h2 : IsClosest held now target k r₂) : r₁ = r₂ :=
  isClosest_unique h1 h2

/-- **`std::sort` cannot matter.**  Over contacts with pairwise distinct 32-byte ids, any two
    permutations of the candidate list that the comparator `lhs.distance < rhs.distance` accepts as
    sorted are the same list (distinct ids have distinct distances), so every correct sorting
    algorithm — stable or not — yields what the model's merge sort yields. -/
theorem sort_unique (L : List Contact) (target : Id) (ht : WfId target) (hw : ∀ c ∈ L, WfId c.id)
    (hn : L.Pairwise (fun a b => a.id ≠ b.id)) (S₁ S₂ : List Candidate)
    (h1 : S₁.Perm (L.map (mkCand target))) (h2 : S₂.Perm (L.map (mkCand target)))
    (s1 : S₁.Pairwise (fun a b => lexLt b.distance a.distance = false))
    (s2 : S₂.Pairwise (fun a b => lexLt b.distance a.distance = false)) : S₁ = S₂ :=
  sorted_unique ht hw hn h1 h2 (s1.imp (fun h => by simp [candLe, h])) (s2.imp (fun h => by simp [candLe, h]))

/-- byte-lexicographic order of distances is numeric order of the 256-bit XOR distances -/
theorem distance_order (a b target : Id) (ha : WfId a) (hb : WfId b) (ht : WfId target) :
    lexLt (xorDistance a target) (xorDistance b target) = true ↔
      toNat a ^^^ toNat target < toNat b ^^^ toNat target :=
  lexLt_xorDistance (by rw [ha.1, ht.1]) (by rw [hb.1, ht.1]) ha.2 hb.2 ht.2

/-- **sweeps** remove nothing unexpired, add nothing, and leave nothing expired -/
theorem sweep_keeps (self : Id) (t0 : Int) (ops : List Op) :
    let s := reach self t0 ops
    SweepKeeps (entries (dumpOf s.table)) (entries (dumpOf (reach self t0 (ops ++ [.sweep])).table)) s.now ∧
    ∀ e ∈ entries (dumpOf (reach self t0 (ops ++ [.sweep])).table), s.now < e.exp := by
  rw [reach_snoc]
  exact ⟨sweepKeeps _ _, sweep_clean _ _⟩

/-! ### non-vacuity: concrete histories exercising every branch -/

def idOf (hi lo : Nat) : Id := hi :: (List.replicate 30 0 ++ [lo])

theorem idOf_wf (hi lo : Nat) (h1 : hi < 256) (h2 : lo < 256) : WfId (idOf hi lo) := by
  refine ⟨by simp [idOf], ?_⟩
  intro b hb
  simp only [idOf, List.mem_cons, List.mem_append, List.mem_replicate, List.not_mem_nil, or_false] at hb
  rcases hb with rfl | ⟨_, rfl⟩ | rfl <;> omega

/-- ids sharing a 255-bit prefix with the local id go to bucket 0, ids differing in the top bit to
    bucket 255, and byte boundaries fall where they should (7/8) -/
example : bucketIndexFor (idOf 0 0) (idOf 0 1) = some 0 := by decide
example : bucketIndexFor (idOf 0 0) (idOf 128 0) = some 255 := by decide
example : bucketIndexFor (idOf 0 0) (idOf 0 128) = some 7 := by decide
example : bucketIndexFor (idOf 0 0) (List.replicate 30 0 ++ [1, 0]) = some 8 := by decide
example : bucketIndexFor (idOf 255 255) (idOf 255 254) = some 0 := by decide
example : bucketIndexFor (idOf 7 9) (idOf 7 9) = none := by decide

/-- 17 registrations into one bucket (ids 0x80…01 … 0x80…11 at the all-zero local id) -/
def seventeen : List Op := (List.range 17).map fun k => Op.reg (idOf 128 (k + 1)) s!"a{k + 1}" 100

example : ((reach (idOf 0 0) 10 seventeen).table.buckets 255).map (fun c => c.id.getLast?) =
    (List.range 16).map (fun k => some (k + 2)) := by decide +kernel

/-- a refresh keeps one entry, moves it to the back and takes the new address and expiry -/
example : (reach (idOf 0 0) 10 [.reg (idOf 128 1) "a" 100, .reg (idOf 128 2) "b" 100, .reg (idOf 128 1) "a2" 200]).table.buckets 255
    = [⟨idOf 128 2, "b", 100⟩, ⟨idOf 128 1, "a2", 200⟩] := by decide

/-- refreshing the oldest entry just before the bucket overflows saves it: the next one goes -/
example : ((reach (idOf 0 0) 10 (seventeen.take 16 ++ [.reg (idOf 128 1) "again" 300, .reg (idOf 128 17) "n" 100])).table.buckets 255).map
    (fun c => c.id.getLast?) = (List.range 14).map (fun k => some (k + 3)) ++ [some 1, some 17] := by decide +kernel

/-- expired entries are pruned before the LRU eviction is considered: with 16 entries of which the
    first has expired, a newcomer displaces nobody alive -/
example : ((reach (idOf 0 0) 10 ([Op.reg (idOf 128 1) "short" 20] ++ (seventeen.drop 1).take 15 ++
      [.adv 10, .reg (idOf 128 17) "n" 100])).table.buckets 255).map (fun c => c.id.getLast?) =
    (List.range 16).map (fun k => some (k + 2)) := by decide +kernel

/-- the epoch sentinel of `register_peer` means "now" (so the contact is born expired), the local
    id is ignored, and `add_contact` counts its ttl from now -/
example :
    let t := (reach (idOf 0 0) 10 [.reg (idOf 0 1) "e" 0, .reg (idOf 0 0) "me" 100, .add (idOf 0 2) "p" 5]).table
    t.buckets 0 = [⟨idOf 0 1, "e", 10⟩] ∧ t.buckets 1 = [⟨idOf 0 2, "p", 15⟩] ∧ t.buckets 255 = [] := by decide

/-- a history for queries: contacts in buckets 0, 1, 2 and 255, one of which has expired exactly at
    the query time 20 (`now = expires_at` counts as expired) -/
def queryOps : List Op :=
  [.reg (idOf 128 1) "far" 100, .reg (idOf 0 4) "d4" 100, .reg (idOf 0 7) "gone" 20, .reg (idOf 0 1) "d1" 100,
   .reg (idOf 0 2) "d2" 100, .adv 10]

theorem queryOps_wf : OpsWf queryOps := by
  intro op h
  simp only [queryOps, List.mem_cons, List.not_mem_nil, or_false] at h
  rcases h with rfl | rfl | rfl | rfl | rfl | rfl
  · exact idOf_wf 128 1 (by omega) (by omega)
  · exact idOf_wf 0 4 (by omega) (by omega)
  · exact idOf_wf 0 7 (by omega) (by omega)
  · exact idOf_wf 0 1 (by omega) (by omega)
  · exact idOf_wf 0 2 (by omega) (by omega)
  · trivial

set_option maxRecDepth 10000 in
/-- non-vacuity of `closest` with a limit below the number of live contacts: the hypotheses are met
    by `queryOps`, and the specification (which fixes the answer, `closest_unique`) evaluates to the
    three nearest of the four live contacts, nearest first, without the expired one -/
example : (closestPeers (reach (idOf 0 0) 10 queryOps).table 20 (idOf 0 6) 3).map abs
    = [abs ⟨idOf 0 4, "d4", 100⟩, abs ⟨idOf 0 2, "d2", 100⟩, abs ⟨idOf 0 1, "d1", 100⟩] := by
  have h := closest (idOf 0 0) 10 queryOps (idOf_wf _ _ (by omega) (by omega)) queryOps_wf (idOf 0 6)
    (idOf_wf _ _ (by omega) (by omega)) 3
  exact closest_unique h (by decide +kernel)

/-- the contact that expired at the query time is still held (nothing swept it), which is what makes
    the previous example exercise the `expired` skip -/
example : (reach (idOf 0 0) 10 queryOps).table.buckets 2 = [⟨idOf 0 4, "d4", 100⟩, ⟨idOf 0 7, "gone", 20⟩] ∧
    (reach (idOf 0 0) 10 queryOps).now = 20 := by decide +kernel

theorem seventeen_wf : OpsWf seventeen := by
  intro op h
  simp only [seventeen, List.mem_map, List.mem_range] at h
  obtain ⟨k, hk, rfl⟩ := h
  exact idOf_wf _ _ (by omega) (by omega)

/-- non-vacuity of `shape` and `registered_single` on the 17-registration history -/
example : Shape (toNat (idOf 0 0)) (dumpOf (reach (idOf 0 0) 10 seventeen).table) :=
  shape _ _ _ (idOf_wf _ _ (by omega) (by omega)) seventeen_wf

example : JustRegistered (dumpOf (reach (idOf 0 0) 10 (seventeen ++ [.reg (idOf 128 5) "new" 0])).table)
    (toNat (idOf 128 5)) "new" 10 :=
  registered_single _ _ _ (idOf_wf _ _ (by omega) (by omega)) seventeen_wf _ _ _ (idOf_wf _ _ (by omega) (by omega)) (by decide)

/-- non-vacuity of `retained`: a full bucket (16 of the 17-history's ids are left), refresh of a
    member that is not the oldest — all 16 stay, the refreshed one at the back with its new address -/
example : ((reach (idOf 0 0) 10 (seventeen ++ [.reg (idOf 128 9) "again" 100])).table.buckets 255).map
    (fun c => (c.id.getLast?, c.addr == "again")) =
    ((List.range 16).map (fun k => (some (k + 2), false))).filter (·.1 != some 9) ++ [(some 9, true)] := by decide +kernel

example : Retained (toNat (idOf 0 0)) (dumpOf (reach (idOf 0 0) 10 seventeen).table)
    (dumpOf (reach (idOf 0 0) 10 (seventeen ++ [.reg (idOf 128 9) "again" 100])).table) 10 (toNat (idOf 128 9)) :=
  retained _ _ _ (idOf_wf _ _ (by omega) (by omega)) seventeen_wf _ _ _ (idOf_wf _ _ (by omega) (by omega))

end EphVerif.C07
