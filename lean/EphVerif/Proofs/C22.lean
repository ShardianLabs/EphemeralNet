/-
C22 — swarm plans hand every shard to exactly one eligible provider, evenly.
Everything is stated for EVERY ranking of the candidates (any permutation), every shard list,
every configuration value: no bound on sizes.
-/
import EphVerif.Lemmas.C22

namespace EphVerif.C22
open EphVerif.Swarm

/-- the provider count exactly as the property statement writes it:
    min(candidates, shards, max(target, min(max(minimum providers, threshold), candidates, shards))) -/
def specCount (c s thr mn tg : Nat) : Nat :=
  min c (min s (max tg (min (max mn thr) (min c s))))

/-- (T) the formula transcribed from the source equals the property's formula -/
theorem count_formula (c s thr mn tg : Nat) :
    providerCount c s thr mn tg = specCount c s thr mn tg := by
  -- commutativity of `min` settles the formula as `compute_plan` writes it (`omega` alone is slow on
  -- the nested `min`/`max` of the two sides); `omega` is for whatever other arrangement the translator may meet
  simp only [providerCount, EphVerif.Gen.C22.providerCount, specCount, Nat.min_comm, Nat.min_left_comm] <;> omega

theorem range_map_getD_eq_take (l : List String) (n : Nat) (h : n ≤ l.length) :
    (List.range n).map (fun i => l.getD i "") = l.take n := by
  apply List.ext_getElem
  · simp [Nat.min_eq_left h]
  · intro i h1 h2
    simp at h1
    simp [List.getD_eq_getElem?_getD, List.getElem?_eq_getElem (by omega : i < l.length)]

/-- Shape of every plan: the providers are the first `N` ranked candidates with
    `N = specCount`, and provider `i` receives the shards at positions `j ≡ i (mod N)`. -/
theorem plan_shape (ranked : List String) (labels : List Nat) (thr mn tg : Nat) :
    let n := if labels = [] then 0 else specCount ranked.length labels.length thr mn tg
    computePlan ranked labels thr mn tg =
      (List.range n).map (fun i =>
        { peer := ranked.getD i "", shards := (slots labels.length n i).map (fun j => labels.getD j 0) })
    ∧ n ≤ ranked.length ∧ n ≤ labels.length := by
  intro n
  have hle : n ≤ ranked.length ∧ n ≤ labels.length := by
    simp only [n, specCount]
    split <;> omega
  refine ⟨?_, hle⟩
  unfold computePlan
  split
  · next h => rw [show n = 0 from if_pos (List.isEmpty_iff.1 h)]; rfl
  · split
    · next h => rw [show n = 0 by rw [List.isEmpty_iff.1 h] at hle; exact Nat.le_zero.1 hle.1]; rfl
    · next hl _ =>
      dsimp only
      rw [count_formula, show specCount ranked.length labels.length thr mn tg = n from (if_neg (by simpa using hl)).symm]
      split
      · next h0 => rw [beq_iff_eq.1 h0]; rfl
      · rfl

/-- the providers are the first `N` ranked candidates -/
theorem providers (ranked : List String) (labels : List Nat) (thr mn tg : Nat) :
    (computePlan ranked labels thr mn tg).map (·.peer) =
      ranked.take (if labels = [] then 0 else specCount ranked.length labels.length thr mn tg) := by
  obtain ⟨h, hle, _⟩ := plan_shape ranked labels thr mn tg
  rw [h, List.map_map]
  exact range_map_getD_eq_take ranked _ hle

/-- Providers are distinct, are never the node itself, and are among the live peers that the
    routing table returned (C07 proves those are distinct and unexpired) — for every ranking. -/
theorem providers_eligible (closest : List String) (hnd : closest.Nodup) (self : String)
    (ranked : List String) (hperm : ranked.Perm (candidatePeers closest self))
    (labels : List Nat) (thr mn tg : Nat) :
    ((computePlan ranked labels thr mn tg).map (·.peer)).Nodup ∧
    ∀ p ∈ (computePlan ranked labels thr mn tg).map (·.peer), p ≠ self ∧ p ∈ closest := by
  rw [providers]
  have hrn : ranked.Nodup := hperm.nodup_iff.mpr (List.filter_sublist.nodup hnd)
  refine ⟨(List.take_sublist _ _).nodup hrn, ?_⟩
  intro p hp
  have hp' : p ∈ candidatePeers closest self := hperm.mem_iff.mp (List.mem_of_mem_take hp)
  simp [candidatePeers] at hp'
  exact ⟨hp'.2, hp'.1⟩

/-- every shard position goes to exactly one provider (`j` goes to provider `j mod N`), once -/
theorem shard_exactly_one (s n : Nat) (j : Nat) (hj : j < s) (i : Nat) :
    j ∈ slots s n i ↔ i = j % n :=
  mem_slots.trans ⟨fun h => h.2.symm, fun h => ⟨hj, h.symm⟩⟩

theorem slots_nodup (s n i : Nat) : (slots s n i).Nodup :=
  List.filter_sublist.nodup List.nodup_range

/-- every provider of a plan holds at least one shard, and shard counts differ by at most one -/
theorem even (ranked : List String) (labels : List Nat) (thr mn tg : Nat) :
    ∀ a ∈ computePlan ranked labels thr mn tg, 1 ≤ a.shards.length ∧
      ∀ b ∈ computePlan ranked labels thr mn tg, a.shards.length ≤ b.shards.length + 1 := by
  obtain ⟨h, _, hle2⟩ := plan_shape ranked labels thr mn tg
  rw [h]
  intro a ha
  obtain ⟨i, hi, rfl⟩ := List.mem_map.1 ha
  refine ⟨?_, fun b hb => ?_⟩
  · simpa using slots_nonempty _ _ i (List.mem_range.1 hi) hle2
  · obtain ⟨k, hk, rfl⟩ := List.mem_map.1 hb
    simpa using slots_balanced _ _ i k (List.mem_range.1 hi) (List.mem_range.1 hk)

/-- number of providers = the property's formula (0 when the manifest has no shards) -/
theorem provider_count (ranked : List String) (labels : List Nat) (thr mn tg : Nat) :
    (computePlan ranked labels thr mn tg).length =
      if labels = [] then 0 else specCount ranked.length labels.length thr mn tg := by
  obtain ⟨h, _, _⟩ := plan_shape ranked labels thr mn tg
  rw [h]
  simp

-- non-vacuity: 5 shards, threshold 3, 4 candidates, target 3, min 2 → 3 providers, 2/2/1 shards
example : computePlan ["a", "b", "c", "d"] [1, 2, 3, 4, 5] 3 2 3 =
    [⟨"a", [1, 4]⟩, ⟨"b", [2, 5]⟩, ⟨"c", [3]⟩] := by decide
example : specCount 4 5 3 2 3 = 3 := by decide
-- fewer candidates than the minimum: proceed with what is available
example : computePlan ["a"] [7, 8, 9] 3 2 3 = [⟨"a", [7, 8, 9]⟩] := by decide

end EphVerif.C22
