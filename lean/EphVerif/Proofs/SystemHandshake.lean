/-
System-level composition: admission of inbound handshakes (C20) with the concrete key validator
(C12) and the concrete proof-of-work predicate (C19) over SHA-256 (C08), the initiator's solver
(C19), the session key both ends derive (C12) and the signed messages that then flow (SystemMessaging).

Every theorem is obtained by instantiating and composing imported theorems:
  C20  `accept`, `keys_validated`, `reject`            admission over abstract `keyValid` / `powValid` facts
  C12  `validate`, `computePublic_spec`, `dh_value`, `performHandshake_eq_some`, `key`, `key_length`, `modexp_spec`
  C19  `accept_node_handshake`, `accept_handshake`, `solver_handshake`, `binding_handshake`, `lz_spec32`
  C08  `sha_digest`, `hmac`                              (`Sha256::digest`, `HmacSha256::compute` = the standards)
  SystemMessaging `session_message_accepted`
-/
import EphVerif.Lemmas.SystemHandshake
import EphVerif.Lemmas.SystemHandshakeOrder
import EphVerif.Lemmas.SystemHandshakeExample
import EphVerif.Proofs.SystemMessaging

namespace EphVerif.SystemHandshake
open EphVerif.Kex EphVerif.Pow EphVerif.Spec.Pow EphVerif.SysHs EphVerif.SysHsL
open EphVerif.Message EphVerif.MessageSpec

/-- "offered with 1 < key < p and a nonce whose SHA-256 preimage digest over (claimed peer, this
    node, key) has at least `min bits 24` leading zero bits" -/
def Validated (R : Responder) (p : String) (key nonce : Nat) : Prop :=
  Spec.Kex.acceptable key ∧ meets sha256 (preimage R p key nonce) (capped R.bits)

/-- the same in numbers: `1 < key < 2^31 − 1` and the 256-bit digest, read big-endian, is below
    `2^(256 − min bits 24)` -/
theorem validated_arith (R : Responder) (p : String) (key nonce : Nat) :
    Validated R p key nonce ↔
      (1 < key ∧ key < 2147483647) ∧
      beVal (sha256 (preimage R p key nonce)) < 2 ^ (256 - min R.bits 24) := by
  unfold Validated meets
  rw [C19.lz_spec32 _ (EphVerif.Spec.sha256_length _) (capped R.bits) (by unfold capped; omega)]
  rfl

theorem validated_iff (R : Responder) (p : String) (key nonce : Nat) :
    Validated R p key nonce ↔ Handshake.keyValid key = true ∧ (env sha256 R).powValid p key nonce = true :=
  and_congr (keyValid_iff key).symm (powFact_iff sha256 R p key nonce).symm

theorem accepted_facts (R : Responder) (t0 : Int) (ops : List Handshake.Op) :
    ∀ e ∈ (Handshake.run (env sha256 R) (Handshake.init t0, []) ops).2, e.accepted = true →
      Validated R e.peer e.pub e.nonce :=
  fun e he ha => (validated_iff R _ _ _).mpr (C20.accept (env sha256 R) t0 ops e he ha)

theorem held_keys_facts (R : Responder) (t0 : Int) (ops : List Handshake.Op) (p : String) (k : Nat)
    (h : ((Handshake.run (env sha256 R) (Handshake.init t0, []) ops).1.peers p).sess = some k ∨
         ((Handshake.run (env sha256 R) (Handshake.init t0, []) ops).1.peers p).smKey = some k) :
    ∃ n, Validated R p k n := by
  obtain ⟨hk, n, hn⟩ := C20.keys_validated (env sha256 R) t0 ops p k h
  exact ⟨n, (validated_iff R p k n).mpr ⟨hk, hn⟩⟩

theorem perform_ok_iff_validated (R : Responder) (s : Handshake.State) (p : String) (pub nonce : Nat)
    (hs : Handshake.shortcut (env sha256 R) s.now (s.peers p) pub nonce = false) :
    (Handshake.perform (env sha256 R) s p pub nonce).2 = true ↔ Validated R p pub nonce := by
  rw [perform_ok_iff, hs, validated_iff]
  simp

theorem unvalidated_rejected (R : Responder) (t0 : Int) (ops : List Handshake.Op) (p : String) (pub nonce : Nat)
    (hv : ¬ Validated R p pub nonce) :
    let s := (Handshake.run (env sha256 R) (Handshake.init t0, []) ops).1
    Handshake.shortcut (env sha256 R) s.now (s.peers p) pub nonce = false →
    (Handshake.perform (env sha256 R) s p pub nonce).2 = false :=
  fun hs => Bool.eq_false_iff.mpr fun h => hv ((perform_ok_iff_validated R _ p pub nonce hs).mp h)

/-- **(1)** for every responder configuration, start time and history of inbound handshakes
    (direct / transport / socket; valid, invalid key, invalid nonce, other keys, repeats inside the
    cooldown; clock advances; dropped connections):
    * every accepted handshake was `Validated`;
    * every key held for a peer was offered in a `Validated` handshake claiming that peer;
    * a rejected handshake leaves every peer's keys and session untouched, other peers' state
      untouched, and moves the claimed peer's reputation through one or two failure steps. -/
theorem handshake_facts_instantiated (R : Responder) (t0 : Int) (ops : List Handshake.Op) :
    let r := Handshake.run (env sha256 R) (Handshake.init t0, []) ops
    (∀ e ∈ r.2, e.accepted = true → Validated R e.peer e.pub e.nonce) ∧
    (∀ p k, ((r.1.peers p).sess = some k ∨ (r.1.peers p).smKey = some k) → ∃ n, Validated R p k n) ∧
    (∀ k p pub nonce, (Handshake.handshake (env sha256 R) r.1 k p pub nonce).2 = false →
      let s' := (Handshake.handshake (env sha256 R) r.1 k p pub nonce).1
      (∀ q, (s'.peers q).sess = (r.1.peers q).sess ∧ (s'.peers q).smKey = (r.1.peers q).smKey ∧
            (s'.peers q).conn = (r.1.peers q).conn) ∧
      (∀ q, q ≠ p → s'.peers q = r.1.peers q) ∧
      ((s'.peers p).rep = Handshake.repFailure (r.1.peers p).rep ∨
       (s'.peers p).rep = Handshake.repFailure (Handshake.repFailure (r.1.peers p).rep))) :=
  ⟨accepted_facts R t0 ops, held_keys_facts R t0 ops, C20.reject (env sha256 R) t0 ops⟩

/-- which scalars have an acceptable public key: all but the multiples of the order of 5
    (`195225786 = (p−1)/11`; 5 is not a primitive root of `2^31 − 1`) -/
theorem public_acceptable_iff (s : Nat) (hs : s < 2 ^ 32) :
    Spec.Kex.acceptable (computePublic s) ↔ ¬ 195225786 ∣ s := by
  rw [← C12.validate]; exact validate_computePublic_iff s hs

theorem excluded_identity_scalars (s : Nat) (h2 : 2 ≤ s) (hp : s ≤ 2147483647 - 2) :
    ¬ Spec.Kex.acceptable (computePublic s) ↔ ∃ k, 1 ≤ k ∧ k ≤ 10 ∧ s = k * 195225786 := by
  rw [← C12.validate, Bool.not_eq_true]
  exact excluded_scalars s h2 hp

theorem GoodScalar.lt {s : Nat} (h : GoodScalar s) : s < 2 ^ 32 := by
  have := h.2.1; omega

/-- **(2)** the nonce an honest initiator's solver returns for (initiator id, responder id, initiator
    public) is `Validated` at every responder that does not demand more bits (after the cap), for
    every candidate stream … -/
theorem solver_validated (I : Initiator) (R : Responder) (p : String) (n : Nat)
    (hid : R.idOf p = I.id.peerId) (hg : GoodScalar I.id.scalar)
    (hb : capped R.bits ≤ capped I.bits) (hw : I.work R.self = some n) :
    Validated R p I.id.pub n := by
  refine ⟨(public_acceptable_iff _ hg.lt).mpr hg.2.2, ?_⟩
  have := solved_work_valid sha256 I.startOf ⟨I.id.peerId, R.self, I.id.pub⟩ I.bits R.bits n hw hb
  rw [C19.accept_node_handshake] at this
  unfold preimage; rw [hid]; exact this

/-- … so C20's `perform_handshake` accepts it in **every** reachable or unreachable state: the first
    time, after earlier failures, inside or outside the cooldown, and on exact repeat -/
theorem solver_accepted (I : Initiator) (R : Responder) (p : String) (n : Nat) (s : Handshake.State)
    (hid : R.idOf p = I.id.peerId) (hg : GoodScalar I.id.scalar)
    (hb : capped R.bits ≤ capped I.bits) (hw : I.work R.self = some n) :
    (Handshake.perform (env sha256 R) s p I.id.pub n).2 = true := by
  have hv := (validated_iff R p _ n).mp (solver_validated I R p n hid hg hb hw)
  exact perform_accepts _ s p _ n hv.1 hv.2

/-- first time and exact repeat, spelled out: both calls return true and after them the node holds the
    key derived from the initiator's public value -/
theorem solver_accepted_twice (I : Initiator) (R : Responder) (p : String) (n : Nat) (t0 : Int)
    (hid : R.idOf p = I.id.peerId) (hg : GoodScalar I.id.scalar)
    (hb : capped R.bits ≤ capped I.bits) (hw : I.work R.self = some n) :
    let r1 := Handshake.perform (env sha256 R) (Handshake.init t0) p I.id.pub n
    let r2 := Handshake.perform (env sha256 R) r1.1 p I.id.pub n
    r1.2 = true ∧ r2.2 = true ∧ (r1.1.peers p).sess = some I.id.pub ∧ (r2.1.peers p).sess = some I.id.pub := by
  intro r1 r2
  have hv := (validated_iff R p _ n).mp (solver_validated I R p n hid hg hb hw)
  have hs1 := perform_registers _ (Handshake.init t0) p _ n hv.1 hv.2 (by simp [Handshake.shortcut, Handshake.init])
  -- on the second call the short-circuit may fire; then the state is the one after the first
  exact ⟨solver_accepted I R p n _ hid hg hb hw, solver_accepted I R p n _ hid hg hb hw, hs1.1,
    (perform_registers _ r1.1 p _ n hv.1 hv.2 fun _ => hs1).1⟩

/-- the same acceptance in C12's model of the key path: the responder derives its session key -/
theorem solver_accepted_key (I : Initiator) (Rid : Identity) (bitsR n : Nat) (hg : GoodScalar I.id.scalar)
    (hb : capped bitsR ≤ capped I.bits) (hw : I.work Rid.peerId = some n) :
    performHandshake sha256 hmac Rid bitsR I.id.peerId I.id.pub n =
      some (sessionKey sha256 hmac Rid.scalar Rid.pub I.id.pub) := by
  have hv : validatePublic I.id.pub = true := (validate_computePublic_iff _ hg.lt).mpr hg.2.2
  have hp := solved_work_valid sha256 I.startOf ⟨I.id.peerId, Rid.peerId, I.id.pub⟩ I.bits bitsR n hw hb
  exact (C12.performHandshake_eq_some sha256 hmac ..).mpr ⟨⟨hv, hp⟩, rfl⟩

/-- **(3)** any two honest identities (good scalars, any peer ids) configured with the same capped
    difficulty, any candidate streams: if each side's solver finds work, then each accepts the other,
    both register the same 32-byte session key, and every faithful protocol message signed by either
    end under that key is accepted by the other end as exactly that message. -/
theorem mutual_handshake_establishes_session (A B : Initiator) (nA nB : Nat)
    (hgA : GoodScalar A.id.scalar) (hgB : GoodScalar B.id.scalar) (hb : capped A.bits = capped B.bits)
    (hwA : A.work B.id.peerId = some nA) (hwB : B.work A.id.peerId = some nB) :
    ∃ k : List UInt8,
      performHandshake sha256 hmac A.id A.bits B.id.peerId B.id.pub nB = some k ∧
      performHandshake sha256 hmac B.id B.bits A.id.peerId A.id.pub nA = some k ∧
      k.length = 32 ∧
      ∀ m, System.Faithful m →
        decodeSigned hmac (encodeSigned hmac m k) k = .ok m := by
  have h1 := solver_accepted_key B A.id A.bits nB hgB (by omega) hwB
  have h2 := solver_accepted_key A B.id B.bits nA hgA (by omega) hwA
  obtain ⟨hl, hk, hm⟩ := System.session_message_accepted A.id B.id A.bits B.bits nA nB _ _ hgA.lt hgB.lt h1 h2
  refine ⟨_, h1, ?_, hl, fun m hf => ?_⟩
  · rw [h2, hk]
  · have := hm m hf
    rwa [hk] at this

/-- the key of (3), explicitly: HMAC-SHA256 keyed with SHA-256 of the 4 bytes of `g^(ab) mod p`, over
    the two publics in ascending order -/
theorem session_key_value (A B : Identity) (hA : A.scalar < 2 ^ 32) (hB : B.scalar < 2 ^ 32) :
    sessionKey sha256 hmac A.scalar A.pub B.pub =
      hmac (sha256 (Pow.beBytes 4 (Spec.Kex.g ^ (A.scalar * B.scalar) % Spec.Kex.p))) (handshakeMaterial A.pub B.pub) := by
  unfold sessionKey deriveSharedSecret
  rw [show sharedScalar A.scalar B.pub = Spec.Kex.g ^ (A.scalar * B.scalar) % Spec.Kex.p from C12.dh_value _ _ hA hB]

/-- the fields a handshake proof of work is bound to, with the widths the C++ types give them -/
structure Claim where
  peer : List UInt8
  responder : List UInt8
  key : Nat
  nonce : Nat
deriving DecidableEq

def Claim.WF (c : Claim) : Prop :=
  c.peer.length < 2 ^ 64 ∧ c.responder.length < 2 ^ 64 ∧ c.key < 2 ^ 64 ∧ c.nonce < 2 ^ 64

def Claim.preimage (c : Claim) : List UInt8 := encHandshake ⟨c.peer, c.responder, c.key⟩ c.nonce

/-- different (claimed peer, responder, key, nonce) ⇒ different bytes under the hash
    (`C19.binding_handshake`, contrapositive) -/
theorem distinct_claims_distinct_preimages (c c' : Claim) (h : c.WF) (h' : c'.WF) (hne : c ≠ c') :
    c.preimage ≠ c'.preimage := by
  intro he
  have := C19.binding_handshake ⟨c.peer, c.responder, c.key⟩ ⟨c'.peer, c'.responder, c'.key⟩ c.nonce c'.nonce
    h.1 h'.1 h.2.1 h'.2.1 h.2.2.1 h'.2.2.1 h.2.2.2 h'.2.2.2 he
  apply hne
  cases c; cases c'
  simp only [HandshakeFields.mk.injEq] at this
  simp only [Claim.mk.injEq]
  exact ⟨this.1.1, this.1.2.1, this.1.2.2, this.2⟩

/-- **(4)** after any history, whoever got a handshake accepted under the claimed peer id `P` with key
    `K` and nonce `n` — the real peer or a third party with its own key — presented work valid for
    exactly (P, this responder, K): the SHA-256 digest of `preimage (P, self, K, n)` is below
    `2^(256 − d)`.  Work solved for any other (peer, responder, key, nonce) hashes *different bytes*
    (32-byte ids, 32-bit keys, 64-bit nonces), so it transfers only if those different bytes also
    happen to hash below the target: a fresh `d`-bit SHA-256 condition, not a consequence of the old one. -/
theorem impersonation_needs_work (R : Responder) (t0 : Int) (ops : List Handshake.Op) :
    ∀ e ∈ (Handshake.run (env sha256 R) (Handshake.init t0, []) ops).2, e.accepted = true →
      -- (a) the accepted claim carries its own valid work
      (Spec.Kex.acceptable e.pub ∧
        beVal (sha256 (Claim.preimage ⟨R.idOf e.peer, R.self, e.pub, e.nonce⟩)) < 2 ^ (256 - min R.bits 24)) ∧
      -- (b) and that condition is about bytes no other claim shares
      (∀ c' : Claim, c'.WF → (⟨R.idOf e.peer, R.self, e.pub, e.nonce⟩ : Claim).WF →
        c' ≠ ⟨R.idOf e.peer, R.self, e.pub, e.nonce⟩ →
        c'.preimage ≠ Claim.preimage ⟨R.idOf e.peer, R.self, e.pub, e.nonce⟩) := by
  intro e he ha
  have hv := (validated_arith R e.peer e.pub e.nonce).mp (accepted_facts R t0 ops e he ha)
  exact ⟨hv, fun c' hc' hc => distinct_claims_distinct_preimages c' _ hc' hc⟩

/-- in particular: a third party replaying the genuine peer's nonce with its **own** key `K' ≠ K` is
    judged on a different preimage — its acceptance is equivalent to a `d`-bit condition on those bytes -/
theorem replayed_nonce_other_key (R : Responder) (p : String) (K K' n : Nat) (s : Handshake.State)
    (hK : K < 2 ^ 64) (hK' : K' < 2 ^ 64) (hn : n < 2 ^ 64)
    (hp : (R.idOf p).length < 2 ^ 64) (hs : R.self.length < 2 ^ 64) (hne : K' ≠ K)
    (hsc : Handshake.shortcut (env sha256 R) s.now (s.peers p) K' n = false) :
    preimage R p K' n ≠ preimage R p K n ∧
    ((Handshake.perform (env sha256 R) s p K' n).2 = true ↔ Validated R p K' n) :=
  ⟨distinct_claims_distinct_preimages ⟨R.idOf p, R.self, K', n⟩ ⟨R.idOf p, R.self, K, n⟩
      ⟨hp, hs, hK', hn⟩ ⟨hp, hs, hK, hn⟩ (by simp [hne]),
    perform_ok_iff_validated R s p K' n hsc⟩

/-! ## the same with the implementation's hash and MAC

`Model.Sha256.digest` / `Model.Hmac.compute` are C08's transcriptions of `src/crypto/Sha256.cpp` /
`HmacSha256.cpp`; `C08.sha_digest` and `C08.hmac` prove them equal to the standards (`System.sha_impl`,
`System.hmac_impl`), so every statement above holds word for word with them in the roles of `sha256` / `hmac`. -/

/-- (1) with the implementation hash: C20's environment built from `Sha256::digest` is the one above -/
theorem implementation_level_env (R : Responder) : env EphVerif.Model.Sha256.digest R = env sha256 R := by rw [System.sha_impl]

/-- (3) with the implementation hash and MAC -/
theorem implementation_level_mutual (A B : Initiator) (nA nB : Nat)
    (hgA : GoodScalar A.id.scalar) (hgB : GoodScalar B.id.scalar) (hb : capped A.bits = capped B.bits)
    (hwA : A.work B.id.peerId = some nA) (hwB : B.work A.id.peerId = some nB) :
    ∃ k : List UInt8,
      performHandshake EphVerif.Model.Sha256.digest EphVerif.Model.Hmac.compute A.id A.bits B.id.peerId B.id.pub nB = some k ∧
      performHandshake EphVerif.Model.Sha256.digest EphVerif.Model.Hmac.compute B.id B.bits A.id.peerId A.id.pub nA = some k ∧
      k.length = 32 := by
  rw [System.sha_impl, System.hmac_impl]
  obtain ⟨k, h1, h2, hl, _⟩ := mutual_handshake_establishes_session A B nA nB hgA hgB hb hwA hwB
  exact ⟨k, h1, h2, hl⟩

/-- **(5)** any two honest identities with the same capped difficulty whose solvers find work: both
    ends hold one session key `k`, and — with `k` as signing key *and* transport key, as in the
    code — every list of faithful messages whose signed encodings fit a frame, sent under any 12-byte
    frame nonces and received through **any** cutting of the TCP stream into pieces, is delivered by
    the reader (C14) and decoded by `decode_signed` (C13/C15) as exactly those messages, once each,
    in order, with the session still up.  Composition of (3) with
    `SystemMessaging.transport_carries_signed_messages`. -/
theorem handshake_then_transport (A B : Initiator) (nA nB : Nat)
    (hgA : GoodScalar A.id.scalar) (hgB : GoodScalar B.id.scalar) (hb : capped A.bits = capped B.bits)
    (hwA : A.work B.id.peerId = some nA) (hwB : B.work A.id.peerId = some nB) :
    ∃ k : List UInt8,
      performHandshake sha256 hmac A.id A.bits B.id.peerId B.id.pub nB = some k ∧
      performHandshake sha256 hmac B.id B.bits A.id.peerId A.id.pub nA = some k ∧
      ∀ (sends : List (List UInt8 × Msg)) (chunks : List (List UInt8)),
        (∀ s ∈ sends, s.1.length = 12) → (∀ s ∈ sends, System.Faithful s.2) →
        (∀ s ∈ sends, (encodeSigned hmac s.2 k).length ≤ 1048576) →
        chunks.flatten = sends.flatMap (fun s => Frames.encodeFrame k s.1 (encodeSigned hmac s.2 k)) →
        ((Frames.feedChunks k Frames.Reader.init chunks).delivered.map (decodeSigned hmac · k)
            = sends.map (fun s => .ok s.2)) ∧
          (Frames.feedChunks k Frames.Reader.init chunks).ended = none := by
  obtain ⟨k, h1, h2, hl, _⟩ := mutual_handshake_establishes_session A B nA nB hgA hgB hb hwA hwB
  refine ⟨k, h1, h2, fun sends chunks hn hf hlen hc => ?_⟩
  exact System.transport_carries_signed_messages k k sends chunks hl hn hf hlen hc

/-- **(5′)** … and a message of that session replayed into a session keyed otherwise is rejected
    unless the other key collides with `k` under HMAC on that very encoding. -/
theorem handshake_then_wrong_session (A B : Initiator) (nA nB : Nat)
    (hgA : GoodScalar A.id.scalar) (hgB : GoodScalar B.id.scalar) (hb : capped A.bits = capped B.bits)
    (hwA : A.work B.id.peerId = some nA) (hwB : B.work A.id.peerId = some nB) :
    ∃ k : List UInt8,
      performHandshake sha256 hmac A.id A.bits B.id.peerId B.id.pub nB = some k ∧
      ∀ (m : Msg) (k' : List UInt8), hmac k' (encode m) ≠ hmac k (encode m) →
        decodeSigned hmac (encodeSigned hmac m k) k' = .reject := by
  obtain ⟨k, h1, _, _, _⟩ := mutual_handshake_establishes_session A B nA nB hgA hgB hb hwA hwB
  exact ⟨k, h1, fun m k' hnc => System.session_message_wrong_session_rejected m k k' hnc⟩

/-- **(5) with the implementation's hash, MAC, MAC verification and frame cipher**
    (`Sha256::digest`, `HmacSha256::compute`/`verify`, `ChaCha20::apply` as transcribed by C08/C09):
    the same end-to-end statement, word for word. -/
theorem implementation_level_handshake_then_transport (A B : Initiator) (nA nB : Nat)
    (hgA : GoodScalar A.id.scalar) (hgB : GoodScalar B.id.scalar) (hb : capped A.bits = capped B.bits)
    (hwA : A.work B.id.peerId = some nA) (hwB : B.work A.id.peerId = some nB) :
    ∃ k : List UInt8,
      performHandshake EphVerif.Model.Sha256.digest EphVerif.Model.Hmac.compute A.id A.bits B.id.peerId B.id.pub nB = some k ∧
      performHandshake EphVerif.Model.Sha256.digest EphVerif.Model.Hmac.compute B.id B.bits A.id.peerId A.id.pub nA = some k ∧
      ∀ (sends : List (List UInt8 × Msg)) (chunks : List (List UInt8)),
        (∀ s ∈ sends, s.1.length = 12) → (∀ s ∈ sends, System.Faithful s.2) →
        (∀ s ∈ sends, (encodeSigned EphVerif.Model.Hmac.compute s.2 k).length ≤ 1048576) →
        chunks.flatten = sends.flatMap
          (fun s => System.implFrame k s.1 (encodeSigned EphVerif.Model.Hmac.compute s.2 k)) →
        ((Frames.feedChunks k Frames.Reader.init chunks).delivered.map (System.decodeSignedViaVerify · k)
            = sends.map (fun s => .ok s.2)) ∧
          (Frames.feedChunks k Frames.Reader.init chunks).ended = none := by
  obtain ⟨k, h1, h2, hl⟩ := implementation_level_mutual A B nA nB hgA hgB hb hwA hwB
  refine ⟨k, h1, h2, fun sends chunks hn hf hlen hc => ?_⟩
  exact System.implementation_level_transport k k sends chunks hl hn hf hlen hc

/-! ## non-vacuity: concrete small identities, 2 bits of work, real SHA-256 evaluated by the kernel
(`alice`, `bob` and the solvers' results `alice_work`, `bob_work`: `Lemmas/SystemHandshakeExample.lean`) -/

example : GoodScalar alice.id.scalar ∧ GoodScalar bob.id.scalar := good_scalars

set_option maxRecDepth 100000 in
/-- both solvers find work, so the hypotheses of (2) and (3) are met -/
example : (alice.work bob.id.peerId).isSome = true ∧ (bob.work alice.id.peerId).isSome = true :=
  ⟨congrArg Option.isSome alice_work, congrArg Option.isSome bob_work⟩

set_option maxRecDepth 100000 in
/-- … and the conclusion of (3) on these identities: both ends hold one key -/
example :
    (alice.work bob.id.peerId).bind (fun nA => performHandshake sha256 hmac bob.id bob.bits alice.id.peerId alice.id.pub nA) =
    (bob.work alice.id.peerId).bind (fun nB => performHandshake sha256 hmac alice.id alice.bits bob.id.peerId bob.id.pub nB) := by
  obtain ⟨k, hA, hB, _⟩ := mutual_handshake_establishes_session alice bob 13 3 good_scalars.1 good_scalars.2 rfl
    alice_work bob_work
  exact (Option.bind_eq_some_iff.mpr ⟨13, alice_work, hB⟩).trans (Option.bind_eq_some_iff.mpr ⟨3, bob_work, hA⟩).symm

/-- an excluded scalar: its public value is 1 and is refused -/
example : computePublic 195225786 = 1 ∧ validatePublic (computePublic 195225786) = false ∧
    computePublic (10 * 195225786) = 1 := by decide +kernel

/-- (4): two claims differing only in the key hash different bytes -/
example : Claim.preimage ⟨[1], [2], 7, 0⟩ ≠ Claim.preimage ⟨[1], [2], 8, 0⟩ := by decide

set_option maxRecDepth 100000 in
/-- (1): a history with a valid handshake (nonce solved for 2 bits), a wrong nonce and an invalid key;
    only the first is accepted and the held key is the validated one -/
example :
    let R : Responder := ⟨[2], 2, 5, fun _ => [1]⟩
    let n := (alice.work [2]).getD 0
    let r := Handshake.run (env sha256 R) (Handshake.init 0, [])
      [.hs .direct "a" alice.id.pub n, .hs .direct "a" alice.id.pub (n + 1), .hs .transport "a" 1 n]
    r.2.map (·.accepted) = [true, false, false] ∧ (r.1.peers "a").sess = some alice.id.pub := by
  rw [alice_work, sha_eval]
  decide +kernel

end EphVerif.SystemHandshake
