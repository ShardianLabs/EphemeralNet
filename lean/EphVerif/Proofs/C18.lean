import EphVerif.Lemmas.C18Safe

/-!
C18 — manifest decoding is total and free of undefined behaviour.

The model's decoder (Model/Manifest.lean) is a total Lean function (structural recursion on the
count bytes and on the groups of four base64 characters: it cannot loop), whose result type names
every way the C++ can end: `ok`, `invalidArg` (throw std::invalid_argument), `oob` (a read outside
the buffer), `ub` (signed overflow in the clock conversion), `otherExc`.
-/
namespace EphVerif.C18
open EphVerif.Manifest EphVerif.Gen.C17

/-- **C18.**  For every string, decoding returns a manifest or throws `invalid_argument`:
    it never reads out of bounds, never overflows in the expiry conversion, never throws anything
    else.  (`Res.Acceptable r` is `r = ok _ ∨ r = invalidArg`.) -/
theorem total (uri : Bytes) : (decodeManifest uri).Acceptable :=
  acc_guard fun _ => acc_bind (b64Decode_acceptable _) decodePayload_acc

/-- the same, spelled out -/
theorem total_cases (uri : Bytes) : (∃ m, decodeManifest uri = .ok m) ∨ decodeManifest uri = .invalidArg :=
  acceptable_iff.mp (total uri)

/-- the base64 stage alone: any string -/
theorem base64_total (s : Bytes) : (b64Decode s).Acceptable := b64Decode_acceptable s

/-- the accepted expiry range is the literal ±9 223 372 036 s, and inside it the conversion to
    `int64` nanoseconds is exact (no `ub`) -/
theorem expiry_conversion_safe (secs : Int) (h : minExpirySeconds ≤ secs ∧ secs ≤ maxExpirySeconds) :
    minExpirySeconds = -9223372036 ∧ maxExpirySeconds = 9223372036 ∧
    secondsToTicks secs = .ok (secs * 1000000000) := by
  rw [minExpirySeconds_eq, maxExpirySeconds_eq] at h
  exact ⟨minExpirySeconds_eq, maxExpirySeconds_eq, secondsToTicks_ok h⟩

/-- why the range check is needed (the defect repaired by fixes/C18-expiry-conversion-overflow):
    one second past the range the conversion is undefined behaviour -/
theorem expiry_unchecked_is_ub :
    secondsToTicks 9223372037 = .ub ∧ secondsToTicks (-9223372037) = .ub ∧
    secondsToTicks (toI64 9223372036854775807) = .ub := by decide

/-! ### non-vacuity: both acceptable outcomes occur, also for extreme expiry fields -/

/-- a minimal version-4 payload whose expiry field holds `u` (the examples below run the payload
    parser directly, so that they do not depend on the base64 table) -/
def expiryProbe (u : Nat) : Bytes :=
  4 :: (List.replicate 76 0 ++ (appendU64 u ++ List.replicate 10 0))

/-- the decoded tick count, if decoding returned a manifest -/
def expiryOf : Res Manifest → Option Int
  | .ok m => some m.expiresNs
  | _ => none

example : decodeManifest [] = .invalidArg := by decide
example : decodeManifest kScheme = .invalidArg := by decide +kernel
example : expiryOf (decodePayload (expiryProbe 9223372036)) = some 9223372036000000000 := by decide +kernel
example : decodePayload (expiryProbe 9223372037) = .invalidArg := by decide +kernel
example : decodePayload (expiryProbe 9223372036854775807) = .invalidArg := by decide +kernel
example : decodePayload (expiryProbe 9223372036854775808) = .invalidArg := by decide +kernel
example : expiryOf (decodePayload (expiryProbe 18446744073709551615)) = some (-1000000000) := by decide +kernel
example : expiryOf (decodePayload (expiryProbe (toU64 (-9223372036)))) = some (-9223372036000000000) := by decide +kernel
example : decodePayload (expiryProbe (toU64 (-9223372037))) = .invalidArg := by decide +kernel
/-- a payload cut by one byte is refused, not read past -/
example : decodePayload ((expiryProbe 0).take 94) = .invalidArg ∧ (expiryProbe 0).length = 95 := by decide +kernel

end EphVerif.C18
