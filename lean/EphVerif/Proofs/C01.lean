/-
C01 — a stored chunk is retrievable exactly while it is live.  Model: `EphVerif.ChunkStore` (ChunkStore + the Node
wrappers, after the repairs C01-listing-expired and C04-lookup-expiry-skips-wipe); specification: `EphVerif.StoreSpec`.
All theorems hold for every configuration `sanitize_config` can produce (`SaneCfg`), every start time, every initial
directory content and every history.
-/
import EphVerif.Lemmas.C01Run

namespace EphVerif.C01
open EphVerif.ChunkStore
open EphVerif.StoreSpec (Op Obs Params Entry W last readWire readRecord live judge)

/-- generated-constant obligations: the literal numbers and comparison operators the property
    speaks about are the ones in the source (1 s floor; `>=` in all three expiry tests) -/
theorem constants :
    EphVerif.Gen.C01.kMinimumTtlSec = 1 ∧ EphVerif.Gen.C01.kMinAllowedManifestTtlSec = 1 ∧
    EphVerif.Gen.C01.getRecordExpiredIsGe = true ∧ EphVerif.Gen.C01.sweepExpiredIsGe = true ∧
    EphVerif.Gen.C01.listingExpiredIsGe = true := by decide

/-- **C01.refines.**  For every history of store / overwrite / lookup / get_record / fetch /
    peer request / list / sweep / tick / advance δ ≥ 0 starting from a fresh store, every
    observation the model makes is the one the abstract store prescribes (`judge` accepts it):
    a read returns exactly the bytes of the latest store iff `now < deadline`, nothing otherwise;
    a peer request that is served carries exactly those bytes and is refused only when the chunk is
    dead or fewer than `min_manifest_ttl` whole seconds remain; a listing shows exactly the live
    ids with their deadlines. -/
theorem refines (nc : NodeCfg) (hs : SaneCfg nc) (t0 : Int) (fs : FS) (ops : List Op) :
    accepted nc (paramsOf nc) (fresh t0 fs) (freshSpec t0) ops = true :=
  accepted_of_rel hs ops (rel_fresh t0 fs)

/-- **C01.reads_exact** (the refinement in equational form).  After any history, for every id,
    `get`, `get_record` and `fetch_chunk` return exactly what the abstract store returns at the
    current instant. -/
theorem reads_exact (nc : NodeCfg) (hs : SaneCfg nc) (t0 : Int) (fs : FS) (ops : List Op) (id : String) :
    let w := runModel nc (fresh t0 fs) ops
    let a := runSpec (paramsOf nc) (freshSpec t0) ops
    w.now = a.now ∧
    get w.sys.recs w.now id = readWire a.s id a.now ∧
    (getRecord w.sys.recs w.now id).map (fun r => (r.data, r.expires)) = readRecord a.s id a.now ∧
    nodeFetch w.sys.recs w.now id = StoreSpec.read a.s id a.now := by
  have h := rel_run hs ops (rel_fresh t0 fs)
  exact ⟨h.now_eq, get_eq_readWire h id, record_eq_readRecord h id, fetch_eq_read h id⟩

/-- **C01.dead_unreachable.**  After any history, a chunk whose latest deadline has been reached
    (`deadline ≤ now`, including `now = deadline` exactly) is served by no lookup, fetch, peer
    request or listing — whether or not a sweep has run since. -/
theorem dead_unreachable (nc : NodeCfg) (hs : SaneCfg nc) (t0 : Int) (fs : FS) (ops : List Op)
    (id : String) (e : Entry)
    (hlast : last (runSpec (paramsOf nc) (freshSpec t0) ops).s id = some e)
    (hdead : e.deadline ≤ (runSpec (paramsOf nc) (freshSpec t0) ops).now) :
    let w := runModel nc (fresh t0 fs) ops
    get w.sys.recs w.now id = none ∧ getRecord w.sys.recs w.now id = none ∧
    nodeFetch w.sys.recs w.now id = none ∧ nodeRequest nc w.sys.recs w.now id = none ∧
    ∀ d, (id, d) ∉ (nodeList w.sys.recs w.now).map (fun x => (x.1, x.2.1)) := by
  intro w
  have h : Rel w _ := rel_run hs ops (rel_fresh t0 fs)
  have hg : getRecord w.sys.recs w.now id = none :=
    (getRecord_none h).mpr fun e' he' => Option.some.inj (he'.symm.trans hlast) ▸ hdead
  refine ⟨by rw [ChunkStore.get, hg]; rfl, hg, by rw [nodeFetch, hg]; rfl, by rw [nodeRequest, hg], fun d hm => ?_⟩
  obtain ⟨e', he', hl, _⟩ := (mem_list_iff h).mp hm
  rw [hlast] at he'; cases he'; omega

/-- **C01.overwrite.**  A store of an id that is already present replaces both its bytes and its
    deadline: after `pre`, then `store id data ttl`, then any `post` that does not store `id`
    again, a lookup of `id` returns `data` exactly while `now < (time of that store) + effective
    TTL`, whatever `pre` had stored under `id` and whatever deadline it had. -/
theorem overwrite (nc : NodeCfg) (hs : SaneCfg nc) (t0 : Int) (fs : FS) (pre post : List Op)
    (id : String) (data : Bytes) (ttl : Int) (nonce : Bytes) (enc : Bool)
    (hpost : ∀ o ∈ post, storesId id o = false) :
    let tStore := (runSpec (paramsOf nc) (freshSpec t0) pre).now
    let w := runModel nc (fresh t0 fs) (pre ++ [Op.store id data ttl nonce enc] ++ post)
    get w.sys.recs w.now id =
      if w.now < tStore + StoreSpec.effStore (paramsOf nc) ttl * StoreSpec.nsPerSec then some data else none := by
  intro tStore w
  have h : Rel w _ := rel_run hs (pre ++ [Op.store id data ttl nonce enc] ++ post) (rel_fresh t0 fs)
  have hl : last (runSpec (paramsOf nc) (freshSpec t0) (pre ++ [Op.store id data ttl nonce enc] ++ post)).s id
      = some ⟨id, data, data, tStore + StoreSpec.effStore (paramsOf nc) ttl * StoreSpec.nsPerSec⟩ := by
    simp only [runSpec, List.foldl_append, List.foldl_cons, List.foldl_nil]
    exact (last_run_other (paramsOf nc) _ id post hpost).trans (if_pos rfl)
  rw [get_eq_readWire h id, readWire, hl, ← h.now_eq]

/-- **C01.listing.**  Every id a listing shows is live at that instant, and every live id is shown. -/
theorem listing (nc : NodeCfg) (hs : SaneCfg nc) (t0 : Int) (fs : FS) (ops : List Op) (id : String) :
    let w := runModel nc (fresh t0 fs) ops
    let a := runSpec (paramsOf nc) (freshSpec t0) ops
    id ∈ ((nodeList w.sys.recs w.now).map (fun x => x.1)) ↔ live a.s id a.now = true := by
  intro w a
  have h : Rel w a := rel_run hs ops (rel_fresh t0 fs)
  rw [live_iff]
  constructor
  · intro hm
    obtain ⟨x, hx, rfl⟩ := List.mem_map.mp hm
    obtain ⟨e, he, hl, _⟩ := (mem_list_iff h).mp (List.mem_map.mpr ⟨x, hx, rfl⟩)
    exact ⟨e, he, hl⟩
  · rintro ⟨e, he, hl⟩
    obtain ⟨x, hx, hxe⟩ := List.mem_map.mp ((mem_list_iff h).mpr ⟨e, he, hl, rfl⟩)
    exact List.mem_map.mpr ⟨x, hx, congrArg Prod.fst hxe⟩

/-- **C01.sweeps_invisible.**  What any read returns after a history does not depend on the
    lookups, fetches, peer requests, listings, sweeps and ticks interleaved in it: deleting all of
    them from the history leaves every later read unchanged. -/
theorem sweeps_invisible (nc : NodeCfg) (hs : SaneCfg nc) (t0 : Int) (fs : FS) (ops : List Op) (id : String) :
    let w := runModel nc (fresh t0 fs) ops
    let w' := runModel nc (fresh t0 fs) (ops.filter (fun o => !invisible o))
    w.now = w'.now ∧ get w.sys.recs w.now id = get w'.sys.recs w'.now id ∧
    nodeFetch w.sys.recs w.now id = nodeFetch w'.sys.recs w'.now id := by
  intro w w'
  have h := rel_run hs ops (rel_fresh t0 fs)
  have h' := rel_run hs (ops.filter (fun o => !invisible o)) (rel_fresh t0 fs)
  rw [runSpec_filter] at h'
  exact ⟨by rw [h.now_eq, h'.now_eq], by rw [get_eq_readWire h, get_eq_readWire h'],
    by rw [fetch_eq_read h, fetch_eq_read h']⟩

def exCfg : NodeCfg := { store := { defaultTtl := 30, persistent := false, wipeOnExpiry := true, passes := 1 },
                         minTtl := 2, maxTtl := 3600, cleanupInterval := 5 }

example : SaneCfg exCfg := ⟨by decide, by decide⟩

/-- a history that hits before the deadline, misses exactly at it, and overwrites -/
example :
    let ops := [Op.store "c1" [1, 2, 3] 2 [] false, Op.advance 1999999999, Op.lookup "c1",
                Op.advance 1, Op.lookup "c1", Op.store "c1" [9] 0 [] false, Op.lookup "c1"]
    (ops.foldl (fun (acc : World × List Obs) o => ((step exCfg acc.1 o).1, acc.2 ++ [(step exCfg acc.1 o).2]))
      (fresh 0 [], [])).2
    = [.unit, .unit, .bytes (some [1, 2, 3]), .unit, .bytes none, .unit, .bytes (some [9])] := by decide

/-- the hypotheses of `dead_unreachable` are satisfiable: a chunk at exactly its deadline, unswept -/
example : ∃ e, last (runSpec (paramsOf exCfg) (freshSpec 0) [Op.store "c1" [7] 1 [] false, Op.advance 1000000000]).s "c1" = some e
    ∧ e.deadline ≤ (runSpec (paramsOf exCfg) (freshSpec 0) [Op.store "c1" [7] 1 [] false, Op.advance 1000000000]).now :=
  ⟨⟨"c1", [7], [7], 1000000000⟩, by decide, by decide⟩

/-- and the record is indeed still in the table at that point (the listing filter matters) -/
example : (runModel exCfg (fresh 0 []) [Op.store "c1" [7] 1 [] false, Op.advance 1000000000]).sys.recs.length = 1 := by decide

end EphVerif.C01
