/-
C25 — relay bridges deliver bytes only to the bridged partner.

The property theorems are about `run init evs` for an arbitrary list of events `evs` (any number of
clients, any interleaving of accepts, received chunks, EOFs, errors and partial writes), i.e. about
every reachable state of the relay model (EphVerif/Model/Relay.lean); a `…_from` lemma says the same of
any state that satisfies the invariant, `flush_fifo` of any state at all.  The predicates
`Symmetric`, `ClaimUnique`, `BridgePaired`, `Delivery`, `Isolation`, `Teardown` are the ones of
the specification (EphVerif/Spec/Relay.lean) that the monitor evaluates on the real server's lines.
-/
import EphVerif.Lemmas.C25Fifo

namespace EphVerif.C25
open EphVerif.Relay EphVerif.RelaySpec

/-- generated constant obligation: the identity a connector sends is a 32-byte peer id -/
theorem identity_is_32_bytes : EphVerif.Gen.C25.kPeerIdBytes = 32 := by decide

theorem inv_from {σ : State} (hI : Inv σ) (hA : Acc σ) :
    Symmetric (viewOf σ) ∧ ClaimUnique (viewOf σ) ∧ BridgePaired (viewOf σ) := by
  refine ⟨?_, ?_, ?_⟩
  · intro a ha
    obtain ⟨c, s, _, hg, rfl⟩ := mem_viewOf.mp ha
    cases hp : s.partner with
    | none => simp [peerOf, hp, whenSome]
    | some b =>
      obtain ⟨hne, hb, -⟩ := hI.paired c b ((partnerOf_of_get hg).trans hp)
      simp only [peerOf, hp, whenSome]
      exact ⟨hne, by rw [partnerOf_viewOf hA]; exact hb⟩
  · intro a ha b hb hsome heq
    obtain ⟨c, s, _, hg, rfl⟩ := mem_viewOf.mp ha
    obtain ⟨d, s2, _, hg2, rfl⟩ := mem_viewOf.mp hb
    simp only [peerOf] at hsome heq ⊢
    cases hp : s.partner with
    | none => simp [hp] at hsome
    | some t =>
      -- both are the partner of `t`
      have h1 := (hI.paired c t ((partnerOf_of_get hg).trans hp)).2.1
      have h2 := (hI.paired d t ((partnerOf_of_get hg2).trans (heq ▸ hp))).2.1
      exact Option.some.inj (h1.symm.trans h2)
  · intro a ha hb
    obtain ⟨c, s, _, hg, rfl⟩ := mem_viewOf.mp ha
    simp only [peerOf, decide_eq_true_eq] at hb
    obtain ⟨p, ps, hp, _, hps, _, hpb⟩ := hI.partner_of hg (.inr hb)
    simp only [peerOf, hp, isSomeAnd]
    rw [hb] at hpb
    rw [isBridged_viewOf hA, stateOf_of_get hps, hpb.of_bridged]

/-- `C25.inv`: in every reachable state the pairing table is symmetric (and pairs two different live
    clients), a peer is claimed by at most one connector, and a bridged session has a bridged partner. -/
theorem inv (evs : List Event) :
    Symmetric (viewOf (run init evs)) ∧ ClaimUnique (viewOf (run init evs)) ∧ BridgePaired (viewOf (run init evs)) :=
  inv_from (run_ok evs).1 (run_ok evs).2

/-- `C25.delivery` (model form): a chunk received from a bridged client is appended, whole, at the end of
    exactly its partner's write buffer; no other session, registration or descriptor changes. -/
theorem delivery (evs : List Event) (c : Client) (data : Bytes) (s : Session)
    (hc : (run init evs).get c = some s) (hb : s.state = .bridged) :
    ∃ p ps, s.partner = some p ∧ p ≠ c ∧ (run init evs).get p = some ps ∧ ps.state = .bridged ∧ ps.partner = some c ∧
      (step (run init evs) (.recv c data)).get p = some { ps with writeBuf := ps.writeBuf ++ data } ∧
      (∀ a, a ≠ p → (step (run init evs) (.recv c data)).get a = (run init evs).get a) ∧
      (step (run init evs) (.recv c data)).out = .queued p (.relay c data) :: (run init evs).out ∧
      (step (run init evs) (.recv c data)).registered = (run init evs).registered := by
  obtain ⟨p, ps, hp, hne, hps, hpp, hpb, heq⟩ := step_recv_bridged (run_ok evs).1 hc hb data
  rw [heq]
  exact ⟨p, ps, hp, hne, hps, hpb, hpp, by simp, fun a ha => by simp [ha], by simp, rfl⟩

/-- write buffers are FIFO: a partial write puts the first `n` queued bytes on the wire and keeps the rest -/
theorem flush_fifo (σ : State) (c : Client) (n : Nat) (s : Session) (hc : σ.get c = some s) :
    (step σ (.flush c n)).out = .sent c (s.writeBuf.take n) :: σ.out ∧
    (step σ (.flush c n)).get c = some { s with writeBuf := s.writeBuf.drop n } ∧
    s.writeBuf.take n ++ s.writeBuf.drop n = s.writeBuf := by
  simp [step, hc]

/-- `C25.delivery`, "in order and without loss": in every reachable state and for every client, the bytes
    already put on the wire to it followed by the bytes waiting in its write buffer are exactly the bytes ever
    queued for it (`qbytes`: control replies and relayed chunks, in the order they were queued); once the client
    is closed, what was sent is a prefix of what was queued.  Together with `delivery` (each chunk of a bridged
    client is queued whole, once, for its partner only) this is in-order, loss-free delivery while both ends
    stay connected. -/
theorem fifo (evs : List Event) (d : Client) :
    (∀ s, (run init evs).get d = some s →
      sbytes (run init evs).out d ++ s.writeBuf = qbytes (run init evs).out d) ∧
    ((run init evs).get d = none → ∃ r, sbytes (run init evs).out d ++ r = qbytes (run init evs).out d) :=
  ⟨fun _ h => (fifo_run evs).alive h, fun _ => let ⟨r, e, _⟩ := fifo_run evs d; ⟨r, e⟩⟩

theorem bridge_handover_from {σ : State} (hI : Inv σ) {c : Client} {s : Session}
    (hc : σ.get c = some s) (hst : s.state = .awaitingIdentity) :
    ∃ t, s.partner = some t ∧
      qbytes (newOuts σ (handleIdentityReady σ c)) t =
        EphVerif.Gen.C25.beginPrefix ++ s.connectSelf ++ [nl] ++ s.readBuf ∧
      ((handleIdentityReady σ c).get c).map (·.readBuf) = some [] := by
  obtain ⟨t, ts, hp, htc, ht, -, -⟩ := hI.partner_of hc (.inl hst)
  obtain ⟨hg, ho, -⟩ := handleIdentityReady_bridge hc hp htc ht
  refine ⟨t, hp, ?_, by rw [hg, if_neg htc.symm, if_pos rfl]; rfl⟩
  rw [newOuts_eq ho]
  -- identity followed by the rest, if any, is the whole read buffer
  split
  next h => simp [qbytes, Item.bytes, List.take_of_length_le (List.drop_eq_nil_iff.mp (List.isEmpty_iff.mp h))]
  · simp [qbytes, Item.bytes]

/-- `C25.delivery`, at the moment the bridge comes into being: handle_identity_ready queues for the partner the
    BEGIN line followed by *everything* the connector had sent and the relay had not consumed (identity and any
    pipelined bytes, in order), and leaves the connector's read buffer empty: nothing sent with or after the
    identity is lost or reordered. -/
theorem bridge_handover (evs : List Event) (c : Client) (s : Session)
    (hc : (run init evs).get c = some s) (hst : s.state = .awaitingIdentity) :
    ∃ t, s.partner = some t ∧
      qbytes (newOuts (run init evs) (handleIdentityReady (run init evs) c)) t =
        EphVerif.Gen.C25.beginPrefix ++ s.connectSelf ++ [nl] ++ s.readBuf ∧
      ((handleIdentityReady (run init evs) c).get c).map (·.readBuf) = some [] :=
  bridge_handover_from (run_ok evs).1 hc hst

/-- `bridge_handover` in the words of the specification (`pending` = the connector's unconsumed bytes) -/
theorem bridge_handover_spec (evs : List Event) (c : Client) (s : Session)
    (hc : (run init evs).get c = some s) (hst : s.state = .awaitingIdentity)
    (hlen : EphVerif.Gen.C25.kPeerIdBytes ≤ s.readBuf.length) :
    ∃ t, s.partner = some t ∧
      BridgeHandover 32 s.readBuf
        ((qbytes (newOuts (run init evs) (handleIdentityReady (run init evs) c)) t).drop
          (EphVerif.Gen.C25.beginPrefix ++ s.connectSelf ++ [nl]).length) := by
  obtain ⟨t, hp, hq, _⟩ := bridge_handover evs c s hc hst
  refine ⟨t, hp, ?_⟩
  rw [hq, List.drop_left]
  exact ⟨identity_is_32_bytes ▸ hlen, by simp⟩

/-- a connector that is still completing its identity (fewer than 32 bytes so far, whatever they are — newlines and
    command look-alikes included): the chunk is appended to its read buffer, nothing is queued for anybody, nothing
    else changes (`IdentityHeld`) -/
theorem identity_held (evs : List Event) (c : Client) (s : Session) (data : Bytes)
    (hc : (run init evs).get c = some s) (hst : s.state = .awaitingIdentity)
    (hshort : s.readBuf.length + data.length < EphVerif.Gen.C25.kPeerIdBytes) :
    step (run init evs) (.recv c data) = (run init evs).put c { s with readBuf := s.readBuf ++ data } ∧
    IdentityHeld s.readBuf.length data.length (s.readBuf ++ data).length false := by
  refine ⟨?_, by simp [IdentityHeld]⟩
  have hnb : s.state ≠ .bridged := by rw [hst]; decide
  simp only [step, hc, hnb, if_false]
  -- the loop finds `c` still awaiting its identity with fewer than 32 bytes, and returns at once
  have hlen : (s.readBuf ++ data).length < EphVerif.Gen.C25.kPeerIdBytes := by rw [List.length_append]; exact hshort
  unfold processProtocol
  simp only [get_put, if_true, hst, if_pos hlen]

/-- right after the step that establishes its bridge the connector has nothing left in the relay
    (`BridgeDrained`, the clause the monitor checks on the implementation's read-buffer size) -/
theorem bridge_drained (evs : List Event) (c : Client) (s : Session)
    (hc : (run init evs).get c = some s) (hst : s.state = .awaitingIdentity) :
    ∃ s', (handleIdentityReady (run init evs) c).get c = some s' ∧ BridgeDrained s'.readBuf.length :=
  ⟨_, (calm_handleIdentityReady (run_ok evs).1 hc hst).2, rfl⟩

theorem partial_flush_from (ns : List Nat) : ∀ (σ : State) (d : Client) (s : Session), σ.get d = some s →
    sbytes (run σ (ns.map (Event.flush d))).out d = sbytes σ.out d ++ s.writeBuf.take ns.sum ∧
    qbytes (run σ (ns.map (Event.flush d))).out d = qbytes σ.out d ∧
    ((run σ (ns.map (Event.flush d))).get d).map (·.writeBuf) = some (s.writeBuf.drop ns.sum) := by
  induction ns with
  | nil => intro σ d s h; simp [run, h]
  | cons n ns ih =>
    intro σ d s h
    obtain ⟨ho, hg, -⟩ := flush_fifo σ d n s h
    obtain ⟨h1, h2, h3⟩ := ih (step σ (.flush d n)) d _ hg
    rw [List.map_cons, run_cons, h1, h2, h3, ho]
    refine ⟨?_, ?_, ?_⟩
    · simp only [sbytes, if_true, List.sum_cons, List.append_assoc]
      rw [List.take_add]
    · rfl
    · simp [List.drop_drop]

/-- `C25.partial_flush`: however the relay's writes towards client `d` are split — any list `ns` of byte counts
    that send() accepted, short writes included — what `d` has received is a prefix of what was queued for it, the
    missing part is exactly what is still in its write buffer (nothing dropped, nothing duplicated, order kept), and
    once the counts add up to the buffered length `d` has received everything that was ever queued for it. -/
theorem partial_flush (evs : List Event) (d : Client) (s : Session) (ns : List Nat)
    (hd : (run init evs).get d = some s) :
    sbytes (run (run init evs) (ns.map (Event.flush d))).out d ++ s.writeBuf.drop ns.sum =
      qbytes (run (run init evs) (ns.map (Event.flush d))).out d ∧
    ((run (run init evs) (ns.map (Event.flush d))).get d).map (·.writeBuf) = some (s.writeBuf.drop ns.sum) ∧
    (s.writeBuf.length ≤ ns.sum →
      sbytes (run (run init evs) (ns.map (Event.flush d))).out d = qbytes (run init evs).out d) := by
  obtain ⟨h1, h2, h3⟩ := partial_flush_from ns (run init evs) d s hd
  have hf := (fifo_run evs).alive hd
  refine ⟨?_, h3, ?_⟩
  · rw [h1, h2, ← hf, List.append_assoc, List.take_append_drop]
  · intro hlen
    rw [h1, ← hf, List.take_of_length_le hlen]

theorem delivery_spec_from {σ : State} (hI : Inv σ) (hA : Acc σ) (c : Client) (data : Bytes) :
    Delivery (viewOf σ) c (some data) (obsOf (newOuts σ (step σ (.recv c data)))) := by
  intro hbr
  obtain ⟨s, hc, hb⟩ := bridged_of_view hA hbr
  obtain ⟨p, ps, hp, hne, hps, hpp, hpb, heq⟩ := step_recv_bridged hI hc hb data
  have hout : (step σ (.recv c data)).out = [.queued p (.relay c data)] ++ σ.out := by rw [heq]; rfl
  rw [newOuts_eq hout, partnerOf_viewOf hA, partnerOf_of_get hc, hp]
  exact ⟨rfl, rfl⟩

/-- `C25.delivery` (specification form) -/
theorem delivery_spec (evs : List Event) (c : Client) (data : Bytes) :
    Delivery (viewOf (run init evs)) c (some data)
      (obsOf (newOuts (run init evs) (step (run init evs) (.recv c data)))) :=
  delivery_spec_from (run_ok evs).1 (run_ok evs).2 c data

/-- Every item a step queues: control text for the client the event came from, or — only for the client
    whose bridge with that client is established after the step — the BEGIN line and that client's own
    relayed bytes.  In particular no relayed byte reaches a client before its own bridge exists, and relayed
    bytes reach only the sender's bridge partner. -/
theorem relay_only_to_bridged_partner (evs : List Event) (ev : Event) (d : Client) (it : Item)
    (h : Out.queued d it ∈ newOuts (run init evs) (step (run init evs) ev)) :
    (d = ev.client ∧ ∃ t, it = .ctrl t) ∨
    ((step (run init evs) ev).stateOf d = some .bridged ∧ (step (run init evs) ev).partnerOf d = some ev.client ∧
      (step (run init evs) ev).stateOf ev.client = some .bridged ∧ ∀ src data, it = .relay src data → src = ev.client) := by
  obtain ⟨hI, hA⟩ := run_ok evs
  obtain ⟨_, _, new, hout, hok, _⟩ := step_ok _ ev hI hA
  rw [newOuts_eq hout] at h
  exact hok _ h

theorem isolation_spec_from {σ : State} (hI : Inv σ) (hA : Acc σ) (ev : Event) :
    Isolation (viewOf σ) (viewOf (step σ ev)) ev.client (obsOf (newOuts σ (step σ ev))) := by
  obtain ⟨hI', hA', new, hout, hok, hself⟩ := step_ok σ ev hI hA
  rw [newOuts_eq hout]
  intro e he
  simp only [obsOf, List.mem_filterMap, List.mem_reverse] at he
  obtain ⟨o, ho, hq⟩ := he
  match o, hq with
  | .queued d it, hq =>
    cases hq
    dsimp only
    split
    next hd =>
      -- the step of a bridged client queues nothing for that client
      subst hd
      cases hbr : (viewOf σ).isBridged ev.client with
      | false => rfl
      | true => exact absurd ho (hself ((isBridged_viewOf hA _).mp hbr) it)
    next hd =>
      rcases hok _ ho with ⟨h, _⟩ | ⟨h1, h2, h3, _⟩
      · exact absurd h hd
      · exact ⟨(isBridged_viewOf hA' d).mpr h1, by rw [partnerOf_viewOf hA']; exact h2, (isBridged_viewOf hA' _).mpr h3⟩

/-- `C25.delivery`, "only its partner / not before its own bridge" (specification form) -/
theorem isolation_spec (evs : List Event) (ev : Event) :
    Isolation (viewOf (run init evs)) (viewOf (step (run init evs) ev)) ev.client
      (obsOf (newOuts (run init evs) (step (run init evs) ev))) :=
  isolation_spec_from (run_ok evs).1 (run_ok evs).2 ev

theorem teardown_from {σ : State} (hI : Inv σ) (hA : Acc σ) (c : Client) :
    Teardown (viewOf σ) c (obsOf (newOuts σ (closeSession σ c))) := by
  intro hbr
  obtain ⟨s, hc, hb⟩ := bridged_of_view hA hbr
  rw [partnerOf_viewOf hA, partnerOf_of_get hc]
  obtain ⟨-, -, hcs⟩ := closeSession_cases hI hc
  rcases hcs with ⟨hp, -⟩ | ⟨p, ps, hp, -, -, -, -, ho, -⟩ | ⟨p, ps, hp, -, hps, hst, -⟩
  · exact absurd (hI.lone c (by rw [partnerOf_of_get hc, hp])).2 (by simp [stateOf_of_get hc, hb])
  · rw [hp, newOuts_eq (new := [.closed c, .closed p]) ho]
    simp [whenSome, obsOf, Out.closedOf]
  · -- the partner of a bridged session is bridged, not registered
    obtain ⟨-, ps', hps', -, hpair⟩ := hI.partner hc hp
    rw [hps] at hps'; cases hps'
    rw [hb] at hpair
    rw [hpair.of_bridged] at hst; cases hst

/-- `C25.teardown`: when one side of an established bridge disconnects (EOF or error) the relay closes the
    other side in the same step. -/
theorem teardown (evs : List Event) (c : Client) :
    Teardown (viewOf (run init evs)) c (obsOf (newOuts (run init evs) (step (run init evs) (.eof c)))) ∧
    Teardown (viewOf (run init evs)) c (obsOf (newOuts (run init evs) (step (run init evs) (.err c)))) :=
  ⟨teardown_from (run_ok evs).1 (run_ok evs).2 c, teardown_from (run_ok evs).1 (run_ok evs).2 c⟩

section examples
open EphVerif.Gen.C25

def idA : Bytes := List.replicate 64 97   -- "aaaa…"
def idB : Bytes := List.replicate 64 98
def idC : Bytes := List.replicate 64 99
def registerLine (k : Bytes) : Bytes := cmdRegister ++ [32] ++ k ++ [10]
def connectLine (self target : Bytes) : Bytes := cmdConnect ++ [32] ++ self ++ [32] ++ target ++ [10]
def identity : Bytes := List.replicate 32 7

/-- a target (1) and a connector (2) bridged, data both ways -/
def bridgeHistory : List Event :=
  [.accept 1, .accept 2, .recv 1 (registerLine idA), .recv 2 (connectLine idB idA), .recv 2 identity,
   .recv 2 [1, 2, 3], .recv 1 [4, 5]]

set_option maxRecDepth 100000 in
/-- the hypothesis of `delivery` / `delivery_spec` / `teardown` is met: both ends are bridged, and each
    write buffer holds exactly the relay's replies followed by the partner's bytes in order -/
example :
    ((run init bridgeHistory).get 1).map (fun s => (s.state, s.partner, s.writeBuf)) =
      some (.bridged, some 2, okRegister ++ (beginPrefix ++ idB ++ [10]) ++ identity ++ [1, 2, 3]) ∧
    ((run init bridgeHistory).get 2).map (fun s => (s.state, s.partner, s.writeBuf)) =
      some (.bridged, some 1, okConnect ++ [4, 5]) ∧
    (viewOf (run init bridgeHistory)).isBridged 2 = true := by decide +kernel

set_option maxRecDepth 100000 in
/-- teardown is not vacuous: the connector leaves, the target's descriptor is closed in the same step -/
example : (obsOf (newOuts (run init bridgeHistory) (step (run init bridgeHistory) (.eof 2)))).closed = [1, 2] ∧
    (step (run init bridgeHistory) (.eof 2)).sessions = [] := by decide +kernel

/-- the history that broke the unrepaired server: the claimed target (1) sends REGISTER again, then a second
    connector (3) tries to claim it -/
def reRegisterHistory : List Event :=
  [.accept 1, .accept 2, .accept 3, .recv 1 (registerLine idA), .recv 2 (connectLine idB idA),
   .recv 1 (registerLine idA), .recv 3 (connectLine idC idA)]

set_option maxRecDepth 100000 in
/-- in the repaired relay the re-REGISTER is refused, the target stays claimed by the first connector only,
    and the second connector is turned away -/
example :
    ((run init reRegisterHistory).get 1).map (fun s => (s.state, s.partner, s.writeBuf)) =
      some (.registered, some 2, okRegister ++ errAlreadyClaimed) ∧
    ((run init reRegisterHistory).get 3).map (fun s => (s.state, s.partner, s.writeBuf)) =
      some (.awaitingCommand, none, errConTargetUnavailable) ∧
    (run init reRegisterHistory).registered = [] := by decide +kernel

/-- one peer id in two spellings: the target registers it in UPPER case (stored under the canonical lower-case
    key), connector 2 names the target in upper case, connector 3 in lower case -/
def idAUpper : Bytes := List.replicate 64 65   -- "AAAA…"
def spellingHistory : List Event :=
  [.accept 1, .accept 2, .accept 3, .recv 1 (registerLine idAUpper),
   .recv 2 (connectLine idB idAUpper), .recv 3 (connectLine idC idA)]

set_option maxRecDepth 100000 in
/-- CONNECT looks the target up (and erases it) under the spelling the connector wrote: the upper-case CONNECT
    finds nothing and claims nothing, the lower-case one claims the peer and removes its registration.  Whatever
    the spelling rules, `inv` says a *session* is never claimed twice; that a differently spelled id is "not found"
    is a matter of reachability, which the property does not state. -/
example :
    ((run init spellingHistory).get 1).map (fun s => (s.state, s.partner, s.peerHex)) = some (.registered, some 3, idA) ∧
    ((run init spellingHistory).get 2).map (fun s => (s.state, s.partner, s.writeBuf)) =
      some (.awaitingCommand, none, errConTargetUnavailable) ∧
    ((run init spellingHistory).get 3).map (fun s => (s.state, s.partner)) = some (.awaitingIdentity, some 1) ∧
    (run init spellingHistory).registered = [] := by decide +kernel

/-- the specification does reject the pairing table the unrepaired server reported for that history
    (`ss=1.R.3.0,2.I.1.0,3.I.1.0`): the predicates are not trivially true -/
example : ¬ ClaimUnique [⟨1, false, some 3⟩, ⟨2, false, some 1⟩, ⟨3, false, some 1⟩] ∧
    ¬ Symmetric [⟨1, false, some 3⟩, ⟨2, false, some 1⟩, ⟨3, false, some 1⟩] := by decide +kernel

end examples

end EphVerif.C25
