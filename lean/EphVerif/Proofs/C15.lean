/-
C15 — protocol messages round-trip through the wire codec.

Statement (properties.jsonl): for every message of each type with a version from 1 to 4 and fields
within their wire ranges, decoding its encoding yields the same message, with the announce PoW
nonce carried from version 3 onward as the decoder requires; a version outside 1..4 is encoded as
the nearest supported version.

All theorems are about `Model/Message.lean` (the transcription of Message.cpp) instantiated with
the constants regenerated from the source (`Generated/C15.lean`); the specification they meet is
`Spec/Message.lean`.  No bound on field sizes.
-/
import EphVerif.Lemmas.C15Roundtrip

namespace EphVerif.C15
open EphVerif.Message EphVerif.MessageSpec EphVerif.Gen.C15

/-! ### generated-constant obligations: the code has the numbers the property names -/

theorem version_limits : kMinimumMessageVersion = 1 ∧ kCurrentMessageVersion = 4 := ⟨rfl, rfl⟩

/-- encoder and decoder both start carrying the announce nonce at version 3 -/
theorem nonce_from_version_3 : encPowMinVersion = 3 ∧ decPowMinVersion = 3 := ⟨rfl, rfl⟩

theorem type_tags : tagAnnounce = 1 ∧ tagRequest = 2 ∧ tagChunk = 3 ∧ tagAcknowledge = 4 ∧
    tagTransportHandshake = 5 ∧ tagHandshakeAck = 6 := ⟨rfl, rfl, rfl, rfl, rfl, rfl⟩

theorem id_sizes : kChunkIdSize = 32 ∧ kPeerIdSize = 32 := ⟨rfl, rfl⟩

/-- the translated body of `clamp_version` computes the nearest supported version -/
theorem clampVersion_eq (v : Nat) : Message.clampVersion v = max 1 (min 4 v) := by
  unfold Message.clampVersion EphVerif.Gen.C15.clampVersion
  split
  · omega
  · split <;> omega

/-- ∀ v (also beyond 255): the version byte written is `max 1 (min 4 v)`. -/
theorem clamp : VersionClamped encode := by
  intro m
  simp [encode, clampVersion_eq, nearestVersion]

/-- The decoder stops where the message ends: the round trip below, with any bytes after the encoding. -/
theorem decode_encode_append (m : Msg) (rest : Bytes) (h : Sendable m) : decode (encode m ++ rest) = .ok (arrives m) := by
  obtain ⟨version, type, p⟩ := m
  obtain ⟨rfl, hr⟩ : type = tagOf p ∧ FieldsInRange p := h
  have hcl := clampVersion_eq version
  generalize hvv : Message.clampVersion version = v at hcl
  have harr : nearestVersion version = v := hcl.symm
  have hv : (UInt8.ofNat v).toNat = v := UInt8.toNat_ofNat_of_lt' (show v < 256 by omega)
  have ht : (UInt8.ofNat (tagOf p)).toNat = tagOf p := UInt8.toNat_ofNat_of_lt' (by cases p <;> simp [tagOf, UInt8.size])
  have hsup : ¬ (!isSupportedVersion v) = true := by
    simp [isSupportedVersion, kMinimumMessageVersion, kCurrentMessageVersion]; omega
  generalize hd : encode ⟨version, tagOf p, p⟩ ++ rest = d
  have h0 : RestAt d 0 (UInt8.ofNat v :: UInt8.ofNat (tagOf p) :: (encodePayload v p ++ rest)) :=
    restAt_zero (by rw [← hd, encode, hvv]; rfl)
  -- the two header bytes, then the payload at the clamped version
  refine guard_eq (by simp [← hd, encode]) <| chk_rdU8_rest h0 fun h1 => chk_rdU8_rest h1 fun h2 => ?_
  rw [hv, ht, h2.drop_eq]
  refine guard_eq hsup ?_
  dsimp only
  obtain ⟨henc, hdec⟩ := nonce_from_version_3
  cases p with
  | announce a =>
    by_cases h : 3 ≤ v
    · rw [if_pos ⟨hdec ▸ h, rfl⟩, parseAnnounce_encode a true v rest hr (decide_eq_true (henc ▸ h))]
      simp [Outcome.map, arrives, harr, h]
    · rw [if_neg (fun hc => h (hdec ▸ hc.1)), decodePayloadV1_encode _ v rest hr (fun _ _ => henc ▸ Nat.lt_of_not_le h)]
      simp [Outcome.map, arrives, harr, h, v1View_announce, tagOf]
  | _ =>
    rw [if_neg (fun hc => nomatch hc.2), decodePayloadV1_encode_of_ne _ v rest hr (fun _ h => nomatch h)]
    simp [Outcome.map, arrives, harr, tagOf]

/-- Round trip for every sendable message and *every* version (0..255 and beyond): what comes
    back is the message with the nearest supported version, the announce nonce surviving exactly
    when that version is ≥ 3. -/
theorem roundtrip_any_version : RoundTrip encode decode := fun m h => by
  simpa using decode_encode_append m [] h

/-- A message with a version in 1..4 arrives unchanged, except that an announce of version 1 or 2
    (no nonce field on the wire) reads back nonce 0. -/
theorem arrives_wellFormed {m : Msg} (h : WellFormed m)
    (hn : ∀ a, m.payload = .announce a → 3 ≤ m.version ∨ a.nonce = 0) : arrives m = m := by
  obtain ⟨h1, h4, _⟩ := h
  have hv : nearestVersion m.version = m.version := by simp [nearestVersion]; omega
  cases m with
  | mk version type payload =>
    cases payload with
    | announce a =>
      simp only [arrives, hv]
      by_cases h3 : 3 ≤ version
      · simp [h3]
      · have := (hn a rfl).resolve_left h3
        cases a; simp_all
    | _ => simp [arrives, hv]

/-- C15, first clause: ∀ well-formed `m` (version 1..4, tag = payload kind, fields within their wire
    ranges; any sizes): `decode (encode m) = ok m`, the announce nonce included from version 3. -/
theorem roundtrip (m : Msg) (h : WellFormed m)
    (hn : ∀ a, m.payload = .announce a → 3 ≤ m.version ∨ a.nonce = 0) : decode (encode m) = .ok m := by
  have := roundtrip_any_version m h.2.2
  rwa [arrives_wellFormed h hn] at this

/-- … and for version-1/2 announces everything but the (absent) nonce comes back. -/
theorem roundtrip_old_announce (version type : Nat) (a : Announce)
    (h : WellFormed ⟨version, type, .announce a⟩) (hv : version < 3) :
    decode (encode ⟨version, type, .announce a⟩) = .ok ⟨version, type, .announce { a with nonce := 0 }⟩ := by
  obtain ⟨h1, h4, hs⟩ : 1 ≤ version ∧ version ≤ 4 ∧ Sendable ⟨version, type, .announce a⟩ := h
  have hn : nearestVersion version = version := by simp [nearestVersion]; omega
  simpa [arrives, hn, Nat.not_le.mpr hv] using roundtrip_any_version _ hs

/-! ### non-vacuity -/

/-- a version-3 announce with a non-zero nonce is well-formed and survives (the case the unrepaired
    encoder lost), evaluated on the model itself -/
def sampleAnnounce : Msg :=
  ⟨3, 1, .announce { chunkId := List.replicate 32 7, peerId := List.replicate 32 9, endpoint := [1, 2, 3], ttl := 3600,
                      manifestUri := [], shards := [0, 5], nonce := 77 }⟩

example : WellFormed sampleAnnounce := by decide
example : decode (encode sampleAnnounce) = .ok sampleAnnounce := by decide
example : (encode ⟨200, 2, .request (List.replicate 32 0) (List.replicate 32 1)⟩).head? = some 4 := by decide
example : (encode ⟨0, 2, .request (List.replicate 32 0) (List.replicate 32 1)⟩).head? = some 1 := by decide
example : WellFormed ⟨4, 6, .handshakeAck true 4 4294967295⟩ := by decide

end EphVerif.C15
